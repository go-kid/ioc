/-
  Ioc.Registry — M1: the three-level singleton cache.
  Mirrors  container/support/singleton_component_registry.go  (one model function per Go method,
  each citing its lines and its entry in `Ioc.RegistrySkel.expectedRegistryOps`, the call skeleton
  that the facts translator regenerates from the Go source on every run) and the way
  container/factory/factory.go:140-162 (doGetComponent) and :190-198 (doCreateComponent) drive it.

    l1   = singletonObjects              (published instances)
    l2   = earlySingletonObjects         (early references already handed out)
    l3   = singletonFactories            (names with a registered early-reference factory; what the
                                          factory returns when it runs is supplied by the caller)
    inCr = singletonCurrentlyInCreation

  Names are numbers, objects are ⟨name, version⟩ (a version = one Go pointer).
  Histories "a factory can issue" are operation trees (`Act`), executed by `exec`/`execs`.
  Depends on Ioc.Basic only.
-/
import Ioc.Basic
namespace Ioc

abbrev Name := Nat

structure Obj where
  name : Name
  ver : Nat
deriving DecidableEq, Repr

inductive Err
  | fail
deriving DecidableEq, Repr

/-! ### Go map / set primitives (sync2.Map Store/Delete/Load, ConcurrentSets Put/Remove/Exists) -/

/-- map Delete -/
def adel (k : Name) (l : List (Name × Obj)) : List (Name × Obj) := l.filter (fun p => p.1 != k)
/-- map Store (insert or overwrite) -/
def aset (k : Name) (v : Obj) (l : List (Name × Obj)) : List (Name × Obj) := (k, v) :: adel k l
/-- set Remove / map Delete on a key-only map -/
def sdel (k : Name) (l : List Name) : List Name := l.filter (fun m => m != k)
/-- set Put / map Store on a key-only map -/
def sput (k : Name) (l : List Name) : List Name := k :: sdel k l

@[simp] theorem alookup_nil (m : Name) : alookup m ([] : List (Name × Obj)) = none := rfl

@[simp] theorem alookup_adel (m k : Name) (l : List (Name × Obj)) :
    alookup m (adel k l) = if m = k then none else alookup m l := by
  induction l with
  | nil => simp [adel, alookup]
  | cons p rest ih =>
    simp only [adel, List.filter_cons] at ih ⊢
    by_cases hk : p.1 = k <;> by_cases hm : p.1 = m <;> simp_all [alookup]

@[simp] theorem alookup_aset (m k : Name) (v : Obj) (l : List (Name × Obj)) :
    alookup m (aset k v l) = if m = k then some v else alookup m l := by
  simp only [aset, alookup, alookup_adel, eq_comm (a := k)]
  split <;> rfl

@[simp] theorem mem_sdel (m k : Name) (l : List Name) : m ∈ sdel k l ↔ m ∈ l ∧ m ≠ k := by
  simp [sdel]

@[simp] theorem mem_sput (m k : Name) (l : List Name) : m ∈ sput k l ↔ m = k ∨ m ∈ l := by
  simp only [sput, List.mem_cons, mem_sdel]
  by_cases h : m = k <;> simp [h]

theorem nodup_sdel (k : Name) (l : List Name) (h : l.Nodup) : (sdel k l).Nodup :=
  List.Pairwise.filter _ h

theorem nodup_sput (k : Name) (l : List Name) (h : l.Nodup) : (sput k l).Nodup := by
  simp only [sput, List.nodup_cons]
  exact ⟨by simp, nodup_sdel k l h⟩

/-- the keys of an association list -/
def akeys (l : List (Name × Obj)) : List Name := l.map (·.1)

theorem akeys_adel (k : Name) (l : List (Name × Obj)) : akeys (adel k l) = sdel k (akeys l) := by
  simp only [akeys, adel, sdel, List.filter_map]; rfl

theorem nodup_akeys_adel (k : Name) (l : List (Name × Obj)) (h : (akeys l).Nodup) : (akeys (adel k l)).Nodup := by
  rw [akeys_adel]; exact nodup_sdel k _ h

theorem nodup_akeys_aset (k : Name) (v : Obj) (l : List (Name × Obj)) (h : (akeys l).Nodup) :
    (akeys (aset k v l)).Nodup := by
  rw [show akeys (aset k v l) = sput k (akeys l) from congrArg (k :: ·) (akeys_adel k l)]; exact nodup_sput k _ h

/-! ### the registry -/

structure Reg where
  l1 : List (Name × Obj) := []
  l2 : List (Name × Obj) := []
  l3 : List Name := []
  inCr : List Name := []
deriving DecidableEq, Repr

namespace Reg

/-- DefaultSingletonComponentRegistry() :18-25 -/
def empty : Reg := {}

/-- singletonObjects.Load -/
def l1? (r : Reg) (n : Name) : Option Obj := alookup n r.l1
/-- earlySingletonObjects.Load -/
def l2? (r : Reg) (n : Name) : Option Obj := alookup n r.l2

/-- IsSingletonCurrentlyInCreation :94-96   [skeleton: singletonCurrentlyInCreation.Exists] -/
def isInCreation (r : Reg) (n : Name) : Bool := decide (n ∈ r.inCr)

/-- AddSingletonFactory :27-30   [skeleton: singletonFactories.Store] -/
def addFactory (r : Reg) (n : Name) : Reg := { r with l3 := sput n r.l3 }

/-- RemoveSingleton :32-38   [skeleton: singletonObjects.Delete, earlySingletonObjects.Delete,
    singletonFactories.Delete, singletonCurrentlyInCreation.Remove] -/
def remove (r : Reg) (n : Name) : Reg :=
  { l1 := adel n r.l1, l2 := adel n r.l2, l3 := sdel n r.l3, inCr := sdel n r.inCr }

/-- AddSingleton :40-46   [skeleton: singletonObjects.Store, earlySingletonObjects.Delete, singletonFactories.Delete] -/
def addSingleton (r : Reg) (n : Name) (o : Obj) : Reg :=
  { r with l1 := aset n o r.l1, l2 := adel n r.l2, l3 := sdel n r.l3 }

/-- GetSingleton :48-74.  `early` is what the registered early-reference factory returns if this call runs it.
    [skeleton: singletonObjects.Load → return; earlySingletonObjects.Load → return;
     if allowEarly { singletonFactories.Load; if ok { (err → return); earlySingletonObjects.Store;
     singletonFactories.Delete; return } }; return] -/
def get (r : Reg) (n : Name) (allowEarly : Bool) (early : Except Err Obj) : Except Err (Option Obj) × Reg :=
  match r.l1? n with
  | some o => (.ok (some o), r)                                      -- :50-53
  | none =>
    match r.l2? n with
    | some o => (.ok (some o), r)                                    -- :55-58
    | none =>
      if allowEarly then                                             -- :59
        if n ∈ r.l3 then                                             -- :61
          match early with                                           -- :63 factory.GetComponent()
          | .error e => (.error e, r)                                -- :64-66 (nothing stored, factory kept)
          | .ok o => (.ok (some o), { r with l2 := aset n o r.l2, l3 := sdel n r.l3 })   -- :67-70 L3 → L2
        else (.ok none, r)
      else (.ok none, r)                                             -- :73

/-- does `get r n allowEarly _` run the early-reference factory of `n`? (:61-63 reached) -/
def runsEarly (r : Reg) (n : Name) (allowEarly : Bool) : Bool :=
  (r.l1? n).isNone && (r.l2? n).isNone && allowEarly && decide (n ∈ r.l3)

/-- GetSingletonOrCreateByFactory, before the factory runs :77-81
    [skeleton: singletonObjects.Load → return; singletonCurrentlyInCreation.Put] -/
def beginCreate (r : Reg) (n : Name) : Option Obj × Reg :=
  match r.l1? n with
  | some o => (some o, r)                                            -- :77-79
  | none => (none, { r with inCr := sput n r.inCr })                 -- :81

/-- GetSingletonOrCreateByFactory, after the factory returned :84-91
    [skeleton: if err { self.RemoveSingleton; return }; singletonCurrentlyInCreation.Remove; self.AddSingleton] -/
def endCreate (r : Reg) (n : Name) (res : Except Err Obj) : Reg :=
  match res with
  | .error _ => r.remove n                                           -- :84-87 (the repaired failure path)
  | .ok o => ({ r with inCr := sdel n r.inCr }).addSingleton n o     -- :89-90

/-- the failure path as it was before the repair (`return nil, err` without RemoveSingleton);
    used only by `C04_clean_failure_needs_remove` -/
def endCreateNoCleanup (r : Reg) (n : Name) (res : Except Err Obj) : Reg :=
  match res with
  | .error _ => r
  | .ok o => ({ r with inCr := sdel n r.inCr }).addSingleton n o

/-- the registry when the body of a creation starts: GetSingletonOrCreateByFactory marked the name (:81),
    then the factory closure registers the early-reference factory iff the name is in creation
    (factory.go:192-198) -/
def startCreate (r : Reg) (n : Name) : Reg :=
  let r1 := (r.beginCreate n).2
  if r1.isInCreation n then r1.addFactory n else r1

/-! #### views of the primitive operations (simp set) -/

@[simp] theorem l1?_empty (m : Name) : empty.l1? m = none := rfl
@[simp] theorem l2?_empty (m : Name) : empty.l2? m = none := rfl
@[simp] theorem l3_empty : empty.l3 = [] := rfl
@[simp] theorem inCr_empty : empty.inCr = [] := rfl

@[simp] theorem isInCreation_eq (r : Reg) (n : Name) : r.isInCreation n = decide (n ∈ r.inCr) := rfl

@[simp] theorem l1?_addFactory (r : Reg) (n m : Name) : (r.addFactory n).l1? m = r.l1? m := rfl
@[simp] theorem l2?_addFactory (r : Reg) (n m : Name) : (r.addFactory n).l2? m = r.l2? m := rfl
@[simp] theorem mem_l3_addFactory (r : Reg) (n m : Name) : m ∈ (r.addFactory n).l3 ↔ m = n ∨ m ∈ r.l3 := by
  simp [addFactory]
@[simp] theorem inCr_addFactory (r : Reg) (n : Name) : (r.addFactory n).inCr = r.inCr := rfl

@[simp] theorem l1?_remove (r : Reg) (n m : Name) : (r.remove n).l1? m = if m = n then none else r.l1? m := by
  simp [remove, l1?]
@[simp] theorem l2?_remove (r : Reg) (n m : Name) : (r.remove n).l2? m = if m = n then none else r.l2? m := by
  simp [remove, l2?]
@[simp] theorem mem_l3_remove (r : Reg) (n m : Name) : m ∈ (r.remove n).l3 ↔ m ∈ r.l3 ∧ m ≠ n := by
  simp [remove]
@[simp] theorem mem_inCr_remove (r : Reg) (n m : Name) : m ∈ (r.remove n).inCr ↔ m ∈ r.inCr ∧ m ≠ n := by
  simp [remove]

@[simp] theorem l1?_addSingleton (r : Reg) (n m : Name) (o : Obj) :
    (r.addSingleton n o).l1? m = if m = n then some o else r.l1? m := by
  simp [addSingleton, l1?]
@[simp] theorem l2?_addSingleton (r : Reg) (n m : Name) (o : Obj) :
    (r.addSingleton n o).l2? m = if m = n then none else r.l2? m := by
  simp [addSingleton, l2?]
@[simp] theorem mem_l3_addSingleton (r : Reg) (n m : Name) (o : Obj) :
    m ∈ (r.addSingleton n o).l3 ↔ m ∈ r.l3 ∧ m ≠ n := by
  simp [addSingleton]
@[simp] theorem inCr_addSingleton (r : Reg) (n : Name) (o : Obj) : (r.addSingleton n o).inCr = r.inCr := rfl

/-- `get` by cases: what is returned and what the registry becomes -/
theorem get_l1 (r : Reg) (n : Name) (b : Bool) (e : Except Err Obj) (o : Obj) (h : r.l1? n = some o) :
    r.get n b e = (.ok (some o), r) := by simp [get, h]

theorem get_l2 (r : Reg) (n : Name) (b : Bool) (e : Except Err Obj) (o : Obj) (h1 : r.l1? n = none)
    (h2 : r.l2? n = some o) : r.get n b e = (.ok (some o), r) := by simp [get, h1, h2]

theorem get_early_ok (r : Reg) (n : Name) (o : Obj) (h1 : r.l1? n = none) (h2 : r.l2? n = none) (h3 : n ∈ r.l3) :
    r.get n true (.ok o) = (.ok (some o), { r with l2 := aset n o r.l2, l3 := sdel n r.l3 }) := by
  simp [get, h1, h2, h3]

theorem get_early_err (r : Reg) (n : Name) (x : Err) (h1 : r.l1? n = none) (h2 : r.l2? n = none) (h3 : n ∈ r.l3) :
    r.get n true (.error x) = (.error x, r) := by
  simp [get, h1, h2, h3]

theorem get_no_factory (r : Reg) (n : Name) (b : Bool) (e : Except Err Obj) (h1 : r.l1? n = none) (h2 : r.l2? n = none)
    (h3 : n ∉ r.l3) : r.get n b e = (.ok none, r) := by
  simp [get, h1, h2, h3]

theorem get_not_allowed (r : Reg) (n : Name) (e : Except Err Obj) (h1 : r.l1? n = none) (h2 : r.l2? n = none) :
    r.get n false e = (.ok none, r) := by
  simp [get, h1, h2]

/-- a lookup that finds nothing leaves the registry alone, and says why -/
theorem get_miss (r : Reg) (n : Name) (b : Bool) (e : Except Err Obj) (h : (r.get n b e).1 = .ok none) :
    (r.get n b e).2 = r ∧ r.l1? n = none ∧ r.l2? n = none ∧ (b = true → n ∉ r.l3) := by
  unfold get at h ⊢
  repeat' split at h
  all_goals simp_all

/-- `get` never touches l1 and inCr -/
@[simp] theorem get_l1_eq (r : Reg) (n : Name) (b : Bool) (e : Except Err Obj) : (r.get n b e).2.l1 = r.l1 := by
  unfold get; repeat' split
  all_goals rfl
@[simp] theorem get_inCr_eq (r : Reg) (n : Name) (b : Bool) (e : Except Err Obj) : (r.get n b e).2.inCr = r.inCr := by
  unfold get; repeat' split
  all_goals rfl
@[simp] theorem get_l1? (r : Reg) (n m : Name) (b : Bool) (e : Except Err Obj) : (r.get n b e).2.l1? m = r.l1? m := by
  simp [l1?]

/-- `get n` changes the other levels at `n` only -/
theorem get_l2?_other (r : Reg) (n m : Name) (b : Bool) (e : Except Err Obj) (hm : m ≠ n) :
    (r.get n b e).2.l2? m = r.l2? m := by
  unfold get; repeat' split
  all_goals simp [l2?, hm]
theorem get_l3_other (r : Reg) (n m : Name) (b : Bool) (e : Except Err Obj) (hm : m ≠ n) :
    m ∈ (r.get n b e).2.l3 ↔ m ∈ r.l3 := by
  unfold get; repeat' split
  all_goals simp [hm]

@[simp] theorem beginCreate_l1? (r : Reg) (n m : Name) : (r.beginCreate n).2.l1? m = r.l1? m := by
  unfold beginCreate; split <;> rfl
@[simp] theorem beginCreate_l2? (r : Reg) (n m : Name) : (r.beginCreate n).2.l2? m = r.l2? m := by
  unfold beginCreate; split <;> rfl
@[simp] theorem beginCreate_l3 (r : Reg) (n : Name) : (r.beginCreate n).2.l3 = r.l3 := by
  unfold beginCreate; split <;> rfl
theorem beginCreate_miss (r : Reg) (n : Name) (h : r.l1? n = none) :
    r.beginCreate n = (none, { r with inCr := sput n r.inCr }) := by simp [beginCreate, h]
theorem beginCreate_hit (r : Reg) (n : Name) (o : Obj) (h : r.l1? n = some o) :
    r.beginCreate n = (some o, r) := by simp [beginCreate, h]

/-- after a lookup that found nothing, creation really starts, and the early-reference factory is registered -/
theorem startCreate_eq (r : Reg) (n : Name) (h : r.l1? n = none) :
    r.startCreate n = { r with inCr := sput n r.inCr, l3 := sput n r.l3 } := by
  simp [startCreate, beginCreate_miss r n h, addFactory]

@[simp] theorem l1?_startCreate (r : Reg) (n m : Name) : (r.startCreate n).l1? m = r.l1? m := by
  unfold startCreate; dsimp only; split <;> simp
@[simp] theorem l2?_startCreate (r : Reg) (n m : Name) : (r.startCreate n).l2? m = r.l2? m := by
  unfold startCreate; dsimp only; split <;> simp

@[simp] theorem l1?_endCreate_ok (r : Reg) (n m : Name) (o : Obj) :
    (r.endCreate n (.ok o)).l1? m = if m = n then some o else r.l1? m := by
  simp [endCreate, l1?, addSingleton]
@[simp] theorem l2?_endCreate_ok (r : Reg) (n m : Name) (o : Obj) :
    (r.endCreate n (.ok o)).l2? m = if m = n then none else r.l2? m := by
  simp [endCreate, l2?, addSingleton]
@[simp] theorem mem_l3_endCreate_ok (r : Reg) (n m : Name) (o : Obj) :
    m ∈ (r.endCreate n (.ok o)).l3 ↔ m ∈ r.l3 ∧ m ≠ n := by
  simp [endCreate, addSingleton]
@[simp] theorem mem_inCr_endCreate_ok (r : Reg) (n m : Name) (o : Obj) :
    m ∈ (r.endCreate n (.ok o)).inCr ↔ m ∈ r.inCr ∧ m ≠ n := by
  simp [endCreate, addSingleton]
@[simp] theorem endCreate_err (r : Reg) (n : Name) (x : Err) : r.endCreate n (.error x) = r.remove n := rfl

/-- `endCreate n` changes every level at `n` only -/
theorem endCreate_other (r : Reg) (n m : Name) (res : Except Err Obj) (hm : m ≠ n) :
    (r.endCreate n res).l1? m = r.l1? m ∧ (r.endCreate n res).l2? m = r.l2? m ∧
    (m ∈ (r.endCreate n res).l3 ↔ m ∈ r.l3) ∧ (m ∈ (r.endCreate n res).inCr ↔ m ∈ r.inCr) := by
  cases res <;> simp [hm]

end Reg

/-! ### operation trees -/

/-- what one call returned: an object, nil, or an error -/
inductive Ret
  | obj (o : Obj)
  | none
  | err
deriving DecidableEq, Repr

def Ret.ofGet : Except Err (Option Obj) → Ret
  | .ok (some o) => .obj o
  | .ok Option.none => .none
  | .error _ => .err

/-- the observable trace: a creation body is entered, or a call returned
    (`inCr` = IsSingletonCurrentlyInCreation of the touched name right after the call,
     `ran` = the call ran the early-reference factory of that name) -/
inductive Ev
  | begin (n : Name)
  | ret (n : Name) (r : Ret) (inCr : Bool) (ran : Bool)
deriving DecidableEq, Repr

def Ev.name : Ev → Name
  | .begin n => n
  | .ret n _ _ _ => n

/-- what a factory can issue: a plain lookup (GetSingleton), or doGetComponent = lookup with early
    references allowed and, when that finds nothing, GetSingletonOrCreateByFactory whose factory closure
    registers the early-reference factory, runs `body`, and returns `res`.
    `early` = what the early-reference factory of `n` returns if this call runs it. -/
inductive Act
  | lookup (n : Name) (allowEarly : Bool) (early : Except Err Obj)
  | getOrCreate (n : Name) (early : Except Err Obj) (body : List Act) (res : Except Err Obj)
deriving Repr

def Ret.ofRes : Except Err Obj → Ret
  | .ok o => .obj o
  | .error _ => .err

/-- the event of a GetSingleton call -/
def lookupEv (r : Reg) (n : Name) (b : Bool) (e : Except Err Obj) : Ev :=
  .ret n (Ret.ofGet (r.get n b e).1) ((r.get n b e).2.isInCreation n) (r.runsEarly n b)

mutual
/-- one operation: the new registry and the trace -/
def exec (r : Reg) : Act → Reg × List Ev
  | .lookup n b e => ((r.get n b e).2, [lookupEv r n b e])           -- GetSingleton(n, b)
  | .getOrCreate n early body res =>                                  -- factory.go:140-162
    match (r.get n true early).1 with                                 -- :141 GetSingleton(n, true)
    | .ok none =>
      let r0 := (r.get n true early).2
      match (r0.beginCreate n).1 with                                 -- :154 → registry :77
      | some o => (r0, [.ret n (.obj o) (r0.isInCreation n) false])   -- :78 (dead after a nil lookup: `exec_create`)
      | none =>
        let rb := execs (r0.startCreate n) body                       -- :81-83, factory.go:192-198, then the body
        let r4 := rb.1.endCreate n res                                -- :84-91
        (r4, .begin n :: rb.2 ++ [.ret n (Ret.ofRes res) (r4.isInCreation n) false])
    | _ => ((r.get n true early).2, [lookupEv r n true early])        -- :142-153 error or shared instance
/-- a sequence of operations -/
def execs (r : Reg) : List Act → Reg × List Ev
  | [] => (r, [])
  | a :: as =>
    let x := exec r a
    let y := execs x.1 as
    (y.1, x.2 ++ y.2)
end

@[simp] theorem execs_nil (r : Reg) : execs r [] = (r, []) := by simp [execs]
theorem execs_cons (r : Reg) (a : Act) (as : List Act) :
    execs r (a :: as) = ((execs (exec r a).1 as).1, (exec r a).2 ++ (execs (exec r a).1 as).2) := by simp [execs]

theorem exec_lookup (r : Reg) (n : Name) (b : Bool) (e : Except Err Obj) :
    exec r (.lookup n b e) = ((r.get n b e).2, [lookupEv r n b e]) := by simp [exec]

/-- doGetComponent when the first lookup answers (object or error): it is that lookup -/
theorem exec_answered (r : Reg) (n : Name) (early : Except Err Obj) (body : List Act) (res : Except Err Obj)
    (h : (r.get n true early).1 ≠ .ok none) :
    exec r (.getOrCreate n early body res) = ((r.get n true early).2, [lookupEv r n true early]) := by
  simp only [exec]

/-- doGetComponent when the first lookup finds nothing: the creation runs -/
theorem exec_create (r : Reg) (n : Name) (early : Except Err Obj) (body : List Act) (res : Except Err Obj)
    (h : (r.get n true early).1 = .ok none) :
    exec r (.getOrCreate n early body res) =
      (((execs (r.startCreate n) body).1).endCreate n res,
       .begin n :: (execs (r.startCreate n) body).2 ++
         [.ret n (Ret.ofRes res) ((((execs (r.startCreate n) body).1).endCreate n res).isInCreation n) false]) := by
  obtain ⟨hr, h1, _, _⟩ := Reg.get_miss r n true early h
  simp only [exec, h, hr, Reg.beginCreate_miss r n h1]

end Ioc
