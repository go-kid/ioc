/-
  Ioc.SemDiscover — interpretation of the primitives called by the REGENERATED candidate-discovery programs:
    container/processors/dependency_aware_post_processors.go          PostProcessProperties (wire tag: by type / by name), isActualKind
    container/processors/dependency_function_aware_post_processors.go PostProcessProperties (func tag)
  in terms of M3 (Ioc.Match: `candidatesWire`, `candidatesFunc`).  reflect.Type values of the declared field types are
  `.ref t 80` (pointer to component type t), `.ref i 81` (interface i), `.ref t 82` / `.ref i 83` (slices of those),
  `.ref 0 84` (anything else); the options of package container are opaque tokens whose meaning is the filter the registry's
  GetMetas applies (container/options.go — the registry and the option closures themselves are modelled, not regenerated).
  Property nodes are `.ref i 20`; the world is the `Injects` list of every property node (`none` = a nil Meta).
-/
import Ioc.GoSem
import Ioc.Match
import Ioc.Generated.Progs
namespace Ioc.Sem
open Ioc Ioc.Go Ioc.Match

def encKind : Kind → Val
  | .ptr t => .ref t 80
  | .iface i => .ref i 81
  | .slicePtr t => .ref t 82
  | .sliceIface i => .ref i 83
  | .other => .ref 0 84

/-- one property node as the discovery processors see it -/
structure DProp where
  tag : String                 -- prop.Tag ("wire", "func", …)
  tagVal : String              -- prop.TagVal
  kind : Kind                  -- prop.Type
  returns : Option (List Nat) := none   -- the `returns` argument of a func tag: indices of the alternatives

/-- what an index beyond the property list stands for: a node with an unrecognised tag (skipped by both processors) -/
def DProp.dflt : DProp := { tag := "", tagVal := "", kind := .other }

/-- the i-th property node -/
def propAt (props : List DProp) (i : Nat) : DProp := props.getD i .dflt

abbrev DW := List (List (Option Nat))

def encMetaD : Option Nat → Val
  | none => .nil
  | some i => .ref i 0

def encInj (l : List (Option Nat)) : Val := .list (l.map encMetaD)

def decMetaD : Val → Option Nat
  | .ref i 0 => some i
  | _ => none

def decInj (vs : List Val) : List (Option Nat) := vs.map decMetaD

/-- the meaning of a type option token as a filter on providers (container.Type / container.InterfaceType) -/
def typeMeaning : Val → Option (Prov → Bool)
  | .tuple [.str "type", .int t] => some (fun p => p.ty == t.toNat)
  | .tuple [.str "iface", .int i] => some (fun p => p.impl.testBit i.toNat)
  | _ => none

/-- container.Or over FuncNameAndResult tokens -/
def orMeaning (funcRes : String → Nat → Prov → Bool) : List Val → Option (Prov → Bool)
  | [] => some (fun _ => false)
  | .tuple [.str "funcRes", .str s, .int r] :: rest =>
    (orMeaning funcRes rest).map (fun h => fun p => funcRes s r.toNat p || h p)
  | _ :: _ => none

/-- the meaning of a func option token -/
def funcMeaning (funcRes : String → Nat → Prov → Bool) (funcName : String → Prov → Bool) : Val → Option (Prov → Bool)
  | .tuple [.str "funcName", .str s] => some (funcName s)
  | .tuple [.str "or", .list opts] => orMeaning funcRes opts
  | _ => none

def kindName : Nat → String
  | 80 => "ptr" | 81 => "iface" | 82 => "slice" | 83 => "slice" | _ => "other"

/-- `byName s` = what Registry.GetMetaByName(s) answers (`none` = nil); `funcRes s r p` = container.FuncNameAndResult(s, <alternative r>)(p);
    `funcName s p` = container.FuncName(s)(p); `isActual` = the helper isActualKind (itself regenerated) -/
def discFn (pop : List Prov) (props : List DProp) (byName : String → Option Nat) (funcRes : String → Nat → Prov → Bool)
    (funcName : String → Prov → Bool) (isActual : Val → Val → Option Val) : String → List Val → DW → Option (Val × DW)
  | "$definition.InjectTag", [], w => some (.str "wire", w)
  | "$definition.FuncTag", [], w => some (.str "func", w)
  | "$reflect.Pointer", [], w => some (.str "ptr", w)
  | "$reflect.Ptr", [], w => some (.str "ptr", w)
  | "$reflect.Interface", [], w => some (.str "iface", w)
  | "$reflect.Slice", [], w => some (.str "slice", w)
  | ".Tag", [.ref i 20], w => some (.str (propAt props i).tag, w)
  | ".TagVal", [.ref i 20], w => some (.str (propAt props i).tagVal, w)
  | ".Type", [.ref i 20], w => some (encKind (propAt props i).kind, w)
  | ".Kind", [.ref _ k], w => some (.str (kindName k), w)
  | ".Elem", [.ref t 82], w => some (.ref t 80, w)
  | ".Elem", [.ref i 83], w => some (.ref i 81, w)
  | "isActualKind", [t, k], w => (isActual t k).map (·, w)
  | "container.Type", [.ref t 80], w => some (.tuple [.str "type", .int t], w)
  | "container.InterfaceType", [.ref i 81], w => some (.tuple [.str "iface", .int i], w)
  | "container.FuncName", [.str s], w => some (.tuple [.str "funcName", .str s], w)
  | "container.FuncNameAndResult", [.str s, .int r], w => some (.tuple [.str "funcRes", .str s, .int r], w)
  | "container.Or", [.list opts], w => some (.tuple [.str "or", .list opts], w)
  | "container.Or", [.nil], w => some (.tuple [.str "or", .list []], w)
  | "self.Registry.GetMetas", [opt], w =>
      (typeMeaning opt).map (fun f => (.list ((pop.filter f).map (fun p => .ref p.id 0)), w))
  | "self.Registry.GetMetas", [opt, fopt], w =>
      match typeMeaning opt, funcMeaning funcRes funcName fopt with
      | some f, some g => some (.list ((pop.filter (fun p => f p && g p)).map (fun p => .ref p.id 0)), w)
      | _, _ => none
  | "self.Registry.GetMetaByName", [.str s], w => some (encMetaD (byName s), w)
  | ".Args", [.ref i 20], w => some (.ref i 22, w)
  | ".Find", [.ref i 22, .str "returns"], w =>
      some (match (propAt props i).returns with
            | none => .tuple [.nil, .bool false]
            | some rs => .tuple [.list (rs.map (fun (r : Nat) => Val.int r)), .bool true], w)
  | ".Injects", [.ref i 20], w => some (encInj (w.getD i []), w)
  | ".set:Injects", [.ref i 20, .list vs], w => some (.tuple [], w.set i (decInj vs))
  | "append", [.list a, v], w => some (.list (a ++ [v]), w)
  | "append", [.nil, v], w => some (.list [v], w)
  | "append...", [.list a, .list b], w => some (.list (a ++ b), w)
  | _, _, _ => none

/-! equation lemmas of `discFn`, one per primitive (unfolding the 40-way string match inside `simp` is too expensive) -/
section eqs
variable (pop : List Prov) (props : List DProp) (bn : String → Option Nat) (fr : String → Nat → Prov → Bool) (fnm : String → Prov → Bool) (isa : Val → Val → Option Val)
-- naming one equation of `discFn` derives them all, once; a `rw [discFn]` that found none would derive them again
attribute [local simp] discFn.eq_1
theorem discFn_injectTag (w : DW) : discFn pop props bn fr fnm isa "$definition.InjectTag" [] w = some (.str "wire", w) := by rw [discFn]
theorem discFn_funcTag (w : DW) : discFn pop props bn fr fnm isa "$definition.FuncTag" [] w = some (.str "func", w) := by rw [discFn]
theorem discFn_rPointer (w : DW) : discFn pop props bn fr fnm isa "$reflect.Pointer" [] w = some (.str "ptr", w) := by rw [discFn]
theorem discFn_rPtr (w : DW) : discFn pop props bn fr fnm isa "$reflect.Ptr" [] w = some (.str "ptr", w) := by rw [discFn]
theorem discFn_rInterface (w : DW) : discFn pop props bn fr fnm isa "$reflect.Interface" [] w = some (.str "iface", w) := by rw [discFn]
theorem discFn_Tag (i : Nat) (w : DW) : discFn pop props bn fr fnm isa ".Tag" [.ref i 20] w = some (.str (propAt props i).tag, w) := by rw [discFn]
theorem discFn_TagVal (i : Nat) (w : DW) : discFn pop props bn fr fnm isa ".TagVal" [.ref i 20] w = some (.str (propAt props i).tagVal, w) := by rw [discFn]
theorem discFn_Type (i : Nat) (w : DW) : discFn pop props bn fr fnm isa ".Type" [.ref i 20] w = some (encKind (propAt props i).kind, w) := by rw [discFn]
theorem discFn_Kind (a k : Nat) (w : DW) : discFn pop props bn fr fnm isa ".Kind" [.ref a k] w = some (.str (kindName k), w) := by rw [discFn]
theorem discFn_isActual (t k : Val) (w : DW) : discFn pop props bn fr fnm isa "isActualKind" [t, k] w = (isa t k).map (·, w) := by rw [discFn]
theorem discFn_cType (t : Nat) (w : DW) : discFn pop props bn fr fnm isa "container.Type" [.ref t 80] w = some (.tuple [.str "type", .int t], w) := by rw [discFn]
theorem discFn_cIface (t : Nat) (w : DW) : discFn pop props bn fr fnm isa "container.InterfaceType" [.ref t 81] w = some (.tuple [.str "iface", .int t], w) := by rw [discFn]
theorem discFn_cFuncName (s : String) (w : DW) : discFn pop props bn fr fnm isa "container.FuncName" [.str s] w =
    some (.tuple [.str "funcName", .str s], w) := by rw [discFn]
theorem discFn_cFuncRes (s : String) (r : Int) (w : DW) : discFn pop props bn fr fnm isa "container.FuncNameAndResult" [.str s, .int r] w =
    some (.tuple [.str "funcRes", .str s, .int r], w) := by rw [discFn]
theorem discFn_cOr (opts : List Val) (w : DW) : discFn pop props bn fr fnm isa "container.Or" [.list opts] w = some (.tuple [.str "or", .list opts], w) := by rw [discFn]
theorem discFn_cOrNil (w : DW) : discFn pop props bn fr fnm isa "container.Or" [.nil] w = some (.tuple [.str "or", .list []], w) := by rw [discFn]
theorem discFn_getMetas1 (opt : Val) (w : DW) : discFn pop props bn fr fnm isa "self.Registry.GetMetas" [opt] w =
    (typeMeaning opt).map (fun f => (.list ((pop.filter f).map (fun p => .ref p.id 0)), w)) := by rw [discFn]
theorem discFn_getMetas2 (opt fopt : Val) (w : DW) : discFn pop props bn fr fnm isa "self.Registry.GetMetas" [opt, fopt] w =
    (match typeMeaning opt, funcMeaning fr fnm fopt with
     | some f, some g => some (.list ((pop.filter (fun p => f p && g p)).map (fun p => .ref p.id 0)), w)
     | _, _ => none) := by rw [discFn]
theorem discFn_byName (s : String) (w : DW) : discFn pop props bn fr fnm isa "self.Registry.GetMetaByName" [.str s] w =
    some (encMetaD (bn s), w) := by rw [discFn]
theorem discFn_Args (i : Nat) (w : DW) : discFn pop props bn fr fnm isa ".Args" [.ref i 20] w = some (.ref i 22, w) := by rw [discFn]
theorem discFn_Find (i : Nat) (w : DW) : discFn pop props bn fr fnm isa ".Find" [.ref i 22, .str "returns"] w =
    some (match (propAt props i).returns with
          | none => .tuple [.nil, .bool false]
          | some rs => .tuple [.list (rs.map (fun (r : Nat) => Val.int r)), .bool true], w) := by rw [discFn]
theorem discFn_Injects (i : Nat) (w : DW) : discFn pop props bn fr fnm isa ".Injects" [.ref i 20] w = some (encInj (w.getD i []), w) := by rw [discFn]
theorem discFn_setInjects (i : Nat) (vs : List Val) (w : DW) : discFn pop props bn fr fnm isa ".set:Injects" [.ref i 20, .list vs] w =
    some (.tuple [], w.set i (decInj vs)) := by rw [discFn]
theorem discFn_append (a : List Val) (v : Val) (w : DW) : discFn pop props bn fr fnm isa "append" [.list a, v] w = some (.list (a ++ [v]), w) := by rw [discFn]
theorem discFn_appendNil (v : Val) (w : DW) : discFn pop props bn fr fnm isa "append" [.nil, v] w = some (.list [v], w) := by rw [discFn]
theorem discFn_appendSpread (a b : List Val) (w : DW) : discFn pop props bn fr fnm isa "append..." [.list a, .list b] w = some (.list (a ++ b), w) := by rw [discFn]
end eqs

end Ioc.Sem
