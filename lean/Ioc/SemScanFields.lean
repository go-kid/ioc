/-
  Ioc.SemScanFields — interpretation of the primitives called by the REGENERATED programs
    component_definition/meta.go            Meta.scanFields       (with its function literal; the recursive call is a primitive)
    util/reflectx/range_struct.go           ForEachFieldV2        (three-clause loop over the fields, a function VALUE as parameter)
  One LEVEL of a struct is a list of `LField` (what reflection answers about each declared field); `own i` is the scanned-field
  record the level contributes for field i, `sub i` what scanning the embedded struct of field i contributes (the recursive
  call).  The world is the list `m.Fields`.
-/
import Ioc.GoSem
import Ioc.Generated.Progs
namespace Ioc.Sem
open Ioc Ioc.Go

/-- what reflection answers about one declared field -/
structure LField where
  anon : Bool        -- field.Anonymous
  tagEmpty : Bool    -- field.Tag == ""
  isStruct : Bool    -- field.Type.Kind() == reflect.Struct (a struct BY VALUE: a pointer has kind Ptr)
  canSet : Bool      -- value.CanSet()
deriving DecidableEq, Repr

def LField.dflt : LField := ⟨false, false, false, false⟩
def lfieldAt (fs : List LField) (i : Nat) : LField := fs.getD i .dflt

/-- meta.go:163: the scanner descends into anonymous, untagged, by-value structs — whether or not the field itself is settable -/
def LField.descends (f : LField) : Bool := f.anon && f.tagEmpty && f.isStruct

/-- what field i contributes to `m.Fields` -/
def fieldScan {α : Type} (f : LField) (own : α) (sub : List α) : List α :=
  if f.descends then sub else if f.canSet then [own] else []

/-- Meta.scanFields on one level: the fields in declaration order -/
def levelScan {α : Type} (fs : List LField) (own : Nat → α) (sub : Nat → List α) : Nat → List Nat → List α
  | _, [] => []
  | k, i :: rest => fieldScan (lfieldAt fs i) (own i) (sub i) ++ levelScan fs own sub k rest

/-- ForEachFieldV2's loop over a function literal (what the primitive does with the literal it is given): every field index
    below n in order, the first error ends it -/
def feLoopK {σ : Type} (k : Handler σ) : List Nat → σ → Option (Val × σ)
  | [], w => some (.nil, w)
  | i :: rest, w =>
    match k [.ref i 60, .ref i 61] w with
    | some (.nil, w') => feLoopK k rest w'
    | some (.tuple [.nil], w') => feLoopK k rest w'
    | some (.str e, w') => some (.str e, w')
    | _ => none

/-- … and over a total callback: `none` = no error -/
def feLoop {σ : Type} (cb : Nat → σ → Option String × σ) (skip : Nat → Bool) : List Nat → σ → Option String × σ
  | [], w => (none, w)
  | i :: rest, w =>
    if skip i then feLoop cb skip rest w
    else match cb i w with
      | (none, w') => feLoop cb skip rest w'
      | (some e, w') => (some e, w')

def scanFn {α : Type} (fs : List LField) (own : Nat → α) (sub : Nat → List α) :
    String → List Val → List α → Option (Val × List α)
  | ".Type", [.str "holder"], w => some (.str "T", w)               -- holder.Type
  | ".Value", [.str "holder"], w => some (.str "V", w)              -- holder.Value
  | ".Type", [.ref i 60], w => some (.ref i 65, w)             -- field.Type
  | ".Anonymous", [.ref i 60], w => some (.bool (lfieldAt fs i).anon, w)
  | ".Tag", [.ref i 60], w => some (.str (if (lfieldAt fs i).tagEmpty then "" else "tagged"), w)
  | ".Kind", [.ref i 65], w => some (.str (if (lfieldAt fs i).isStruct then "struct" else "other"), w)
  | "$reflect.Struct", [], w => some (.str "struct", w)
  | "&Base{Type,Value}", [.ref i 65, .ref _ 61], w => some (.ref i 62, w)
  | "NewEmbedHolder", [.ref i 62, .str "holder"], w => some (.ref i 63, w)
  | "self.scanFields", [.ref i 63], w => some (.tuple [], w ++ sub i)
  | ".CanSet", [.ref i 61], w => some (.bool (lfieldAt fs i).canSet, w)
  | "$self", [], w => some (.ref 0 69, w)
  | "$self.Fields", [], w => some (.ref 0 66, w)
  | "&Field{Base,Holder,StructField}", [.ref i 62, .str "holder", .ref _ 60], w => some (.ref i 67, w)
  | "append", [.ref 0 66, .ref i 67], w => some (.ref i 68, w)
  | ".set:Fields", [.ref 0 69, .ref i 68], w => some (.tuple [], w ++ [own i])
  | _, _, _ => none

section eqs
variable {α : Type} (fs : List LField) (own : Nat → α) (sub : Nat → List α)
-- naming one equation of `scanFn` derives them all, once; a `rw [scanFn]` that found none would derive them again
attribute [local simp] scanFn.eq_1
theorem scanFn_hType (w : List α) : scanFn fs own sub ".Type" [.str "holder"] w = some (.str "T", w) := by rw [scanFn]
theorem scanFn_hValue (w : List α) : scanFn fs own sub ".Value" [.str "holder"] w = some (.str "V", w) := by rw [scanFn]
theorem scanFn_fType (i : Nat) (w : List α) : scanFn fs own sub ".Type" [.ref i 60] w = some (.ref i 65, w) := by rw [scanFn]
theorem scanFn_Anonymous (i : Nat) (w : List α) : scanFn fs own sub ".Anonymous" [.ref i 60] w = some (.bool (lfieldAt fs i).anon, w) := by rw [scanFn]
theorem scanFn_Tag (i : Nat) (w : List α) : scanFn fs own sub ".Tag" [.ref i 60] w =
    some (.str (if (lfieldAt fs i).tagEmpty then "" else "tagged"), w) := by rw [scanFn]
theorem scanFn_Kind (i : Nat) (w : List α) : scanFn fs own sub ".Kind" [.ref i 65] w =
    some (.str (if (lfieldAt fs i).isStruct then "struct" else "other"), w) := by rw [scanFn]
theorem scanFn_rStruct (w : List α) : scanFn fs own sub "$reflect.Struct" [] w = some (.str "struct", w) := by rw [scanFn]
theorem scanFn_Base (i j : Nat) (w : List α) : scanFn fs own sub "&Base{Type,Value}" [.ref i 65, .ref j 61] w = some (.ref i 62, w) := by rw [scanFn]
theorem scanFn_Embed (i : Nat) (w : List α) : scanFn fs own sub "NewEmbedHolder" [.ref i 62, .str "holder"] w = some (.ref i 63, w) := by rw [scanFn]
theorem scanFn_rec (i : Nat) (w : List α) : scanFn fs own sub "self.scanFields" [.ref i 63] w = some (.tuple [], w ++ sub i) := by rw [scanFn]
theorem scanFn_CanSet (i : Nat) (w : List α) : scanFn fs own sub ".CanSet" [.ref i 61] w = some (.bool (lfieldAt fs i).canSet, w) := by rw [scanFn]
theorem scanFn_self (w : List α) : scanFn fs own sub "$self" [] w = some (.ref 0 69, w) := by rw [scanFn]
theorem scanFn_selfFields (w : List α) : scanFn fs own sub "$self.Fields" [] w = some (.ref 0 66, w) := by rw [scanFn]
theorem scanFn_Field (i j : Nat) (w : List α) :
    scanFn fs own sub "&Field{Base,Holder,StructField}" [.ref i 62, .str "holder", .ref j 60] w = some (.ref i 67, w) := by rw [scanFn]
theorem scanFn_append (i : Nat) (w : List α) : scanFn fs own sub "append" [.ref 0 66, .ref i 67] w = some (.ref i 68, w) := by rw [scanFn]
theorem scanFn_setFields (i : Nat) (w : List α) : scanFn fs own sub ".set:Fields" [.ref 0 69, .ref i 68] w = some (.tuple [], w ++ [own i]) := by rw [scanFn]
end eqs

/-- the level has `n` fields; ForEachFieldV2 is the loop over their indices -/
def scanPrims {α : Type} (fs : List LField) (own : Nat → α) (sub : Nat → List α) : Prims (List α) :=
  { fn := scanFn fs own sub
    hfn := fun f args k w =>
      match f, args with
      | "reflectx.ForEachFieldV2", [.str "T", .str "V", .bool false] => feLoopK k (List.range' 0 fs.length) w
      | _, _ => none }

/-! ### ForEachFieldV2 itself -/

/-- `t` is `"T"` (a struct type with n fields), `"PT"` (a pointer to it, its value `"PV"`) or `"OT"` (any other kind) -/
def feFn {σ : Type} (n : Nat) (pub : Nat → Bool) (cb : Nat → σ → Option String × σ) : String → List Val → σ → Option (Val × σ)
  | "$reflect.Ptr", [], w => some (.str "ptr", w)
  | "$reflect.Struct", [], w => some (.str "struct", w)
  | ".Kind", [.str "T"], w => some (.str "struct", w)
  | ".Kind", [.str "PT"], w => some (.str "ptr", w)
  | ".Kind", [.str "OT"], w => some (.str "other", w)
  | ".Elem", [.str "PT"], w => some (.str "T", w)
  | ".Elem", [.str "PV"], w => some (.str "V", w)             -- v.Elem() of the pointer value
  | ".NumField", [.str "T"], w => some (.int n, w)
  | ".Field", [.str "T", .int i], w => some (.ref i.toNat 60, w)
  | ".Field", [.str "V", .int i], w => some (.ref i.toNat 61, w)
  | "isPublicField", [.ref i 61], w => some (.bool (pub i), w)
  | ".call", [.ref 0 40, .ref i 60, .ref _ 61], w =>
      some (match (cb i w).1 with | none => .nil | some e => .str e, (cb i w).2)
  | _, _, _ => none

def fePrims {σ : Type} (n : Nat) (pub : Nat → Bool) (cb : Nat → σ → Option String × σ) (fuel : Nat) : Prims σ :=
  { fn := feFn n pub cb, fuel := fuel }

end Ioc.Sem
