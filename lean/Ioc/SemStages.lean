/-
  Ioc.SemStages — interpretation of the primitives called by the REGENERATED programs of the configuration stages:
    container/processors/properties_aware_post_processors.go      PostProcessProperties   (prefix)
    container/processors/value_aware_post_processors.go           PostProcessProperties   (value)
    container/processors/validate_aware_post_processors.go        PostProcessProperties   (validate)
    container/processors/config_quote_aware_post_processors.go    PostProcessProperties   (`${…}`, with its callback)
    container/processors/expression_tag_aware_post_processors.go  PostProcessProperties   (`#{…}`, with its callback)
    util/el/el.go                                                 ReplaceAllContent       (the bounded replacement loop)
  and the DECISION each of them takes per property node, written once as a function of a few answers
  (`prefixDecision`, `valueDecision`, `validateDecision`, `quoteDecision`) so that the regenerated code (theorems in
  IocProofs/Lemmas/SemStages) and the hand-written model of the stages (Ioc.Value, Ioc.Placeholder) are both shown to
  compute it.

  Property nodes are `.ref i 20`; configuration values and parsed values are `.nil` or `.ref a 30`; errors are strings.
  The world is the log of what happened to the nodes (`SEv`), so ORDER and ABSENCE of effects are part of every statement;
  `prop.TagVal` is read through the log (the last stage that stored it wins).
-/
import Ioc.GoSem
import Ioc.Generated.Progs
import Ioc.Generated.Facts
namespace Ioc.Sem
open Ioc Ioc.Go

/-- one property node as the configuration stages see it -/
structure SProp where
  tag : String := ""                 -- prop.Tag ("prefix", "value", "wire", …)
  tagStr : String := ""              -- prop.TagStr: the tag text as written
  tagVal : String := ""              -- prop.TagVal before any stage stored into it
  required : Bool := false           -- prop.IsRequired()
  cfgType : Bool := false            -- prop.PropertyType == PropertyTypeConfiguration
  validate : Option (List String) := none   -- prop.Args().Find("validate")
  isPtr : Bool := false              -- prop.Type.Kind() == reflect.Pointer
  isNil : Bool := false              -- prop.Value.IsNil()
  isStruct : Bool := false           -- the (pointee) type is a struct
  isTime : Bool := false             -- … convertible to time.Time (validated as a variable)
  canIface : Bool := true            -- prop.Value.CanInterface()

def SProp.dflt : SProp := {}

def spropAt (props : List SProp) (i : Nat) : SProp := props.getD i .dflt

/-- what happened, in order -/
inductive SEv
  | setCfg (i : Nat) (key : String) (v : Option Nat)   -- prop.SetConfiguration(key, value)
  | unmarshal (i : Nat) (v : Nat)                      -- prop.Unmarshall(value)
  | setTagVal (i : Nat) (s : String)                   -- prop.TagVal = s
  | vStruct (i : Nat)                                  -- validator.Struct(prop.Value.Interface())
  | vVar (i : Nat) (cs : String)                       -- validator.Var(prop.Value.Interface(), cs)
deriving Repr, DecidableEq

abbrev SW := List SEv

/-- the last text stored into `prop.TagVal` of node i, if any -/
def lastTagVal : SW → Nat → Option String
  | [], _ => none
  | ev :: rest, i =>
    match lastTagVal rest i with
    | some s => some s
    | none => match ev with
      | .setTagVal j s => if j = i then some s else none
      | _ => none

/-- `prop.TagVal` now: the last store, else the text the scan left there -/
def tagValNow (props : List SProp) (w : SW) (i : Nat) : String := (lastTagVal w i).getD (spropAt props i).tagVal

def encCV : Option Nat → Val
  | none => .nil
  | some a => .ref a 30

def encErr : Option String → Val
  | none => .nil
  | some e => .str e

/-- what a stage decides for one node -/
inductive Decision (ε : Type)
  | skip                 -- nothing is bound, no error
  | fail (e : ε)
  | bind                 -- the value was decoded into the field
deriving Repr, DecidableEq

/-- properties_aware_post_processors.go:52-66: absent and required → error, absent → skip, else the decoder's verdict -/
def prefixDecision {ε : Type} (absent required : Bool) (reqErr : ε) (unm : Option ε) : Decision ε :=
  if absent then (if required then .fail reqErr else .skip)
  else match unm with
    | none => .bind
    | some e => .fail e

/-- value_aware_post_processors.go:52-68: empty text and required → error, empty → skip, else parse, then decode -/
def valueDecision {ε α : Type} (empty required : Bool) (reqErr : ε) (parse : Except ε α) (unm : α → Option ε) : Decision ε :=
  if empty then (if required then .fail reqErr else .skip)
  else match parse with
    | .error e => .fail e
    | .ok v => match unm v with
      | none => .bind
      | some e => .fail e

/-! ### the prefix and the value loop -/

def encParse : Except String Nat → Val
  | .ok a => .tuple [.ref a 30, .nil]
  | .error e => .tuple [.nil, .str e]

/-- `cfg k` = Configure.Get(k) (`none` = nil); `unm i a` = what prop.Unmarshall answers for node i and value a (`none` = nil);
    `parse s` = strconv2.ParseAny(s) -/
def stageFn (props : List SProp) (cfg : String → Option Nat) (unm : Nat → Nat → Option String) (parse : String → Except String Nat) :
    String → List Val → SW → Option (Val × SW)
  | "$definition.PrefixTag", [], w => some (.str "prefix", w)
  | "$definition.ValueTag", [], w => some (.str "value", w)
  | ".Tag", [.ref i 20], w => some (.str (spropAt props i).tag, w)
  | ".TagVal", [.ref i 20], w => some (.str (tagValNow props w i), w)
  | ".IsRequired", [.ref i 20], w => some (.bool (spropAt props i).required, w)
  | "self.Configure.Get", [.str k], w => some (encCV (cfg k), w)
  | ".SetConfiguration", [.ref i 20, .str k, .nil], w => some (.tuple [], w ++ [.setCfg i k none])
  | ".SetConfiguration", [.ref i 20, .str k, .ref a 30], w => some (.tuple [], w ++ [.setCfg i k (some a)])
  | ".Unmarshall", [.ref i 20, .ref a 30], w => some (encErr (unm i a), w ++ [.unmarshal i a])
  | "strconv2.ParseAny", [.str s], w => some (encParse (parse s), w)
  | "errors.Errorf", _, w => some (.str "required", w)
  | "errors.WithMessagef", e :: _, w => some (e, w)
  | _, _, _ => none

section eqs
-- naming one equation of `stageFn` here derives them all, once; each proof below would otherwise derive them again
attribute [local simp] stageFn.eq_1
variable (props : List SProp) (cfg : String → Option Nat) (unm : Nat → Nat → Option String) (parse : String → Except String Nat)
theorem stageFn_prefixTag (w : SW) : stageFn props cfg unm parse "$definition.PrefixTag" [] w = some (.str "prefix", w) := stageFn.eq_1 ..
theorem stageFn_valueTag (w : SW) : stageFn props cfg unm parse "$definition.ValueTag" [] w = some (.str "value", w) := stageFn.eq_2 ..
theorem stageFn_Tag (i : Nat) (w : SW) : stageFn props cfg unm parse ".Tag" [.ref i 20] w = some (.str (spropAt props i).tag, w) := stageFn.eq_3 ..
theorem stageFn_TagVal (i : Nat) (w : SW) : stageFn props cfg unm parse ".TagVal" [.ref i 20] w = some (.str (tagValNow props w i), w) := stageFn.eq_4 ..
theorem stageFn_IsRequired (i : Nat) (w : SW) : stageFn props cfg unm parse ".IsRequired" [.ref i 20] w = some (.bool (spropAt props i).required, w) := stageFn.eq_5 ..
theorem stageFn_Get (k : String) (w : SW) : stageFn props cfg unm parse "self.Configure.Get" [.str k] w = some (encCV (cfg k), w) := stageFn.eq_6 ..
theorem stageFn_SetCfgNil (i : Nat) (k : String) (w : SW) :
    stageFn props cfg unm parse ".SetConfiguration" [.ref i 20, .str k, .nil] w = some (.tuple [], w ++ [.setCfg i k none]) := stageFn.eq_7 ..
theorem stageFn_SetCfg (i a : Nat) (k : String) (w : SW) :
    stageFn props cfg unm parse ".SetConfiguration" [.ref i 20, .str k, .ref a 30] w = some (.tuple [], w ++ [.setCfg i k (some a)]) := stageFn.eq_8 ..
theorem stageFn_Unmarshall (i a : Nat) (w : SW) :
    stageFn props cfg unm parse ".Unmarshall" [.ref i 20, .ref a 30] w = some (encErr (unm i a), w ++ [.unmarshal i a]) := stageFn.eq_9 ..
theorem stageFn_ParseAny (s : String) (w : SW) : stageFn props cfg unm parse "strconv2.ParseAny" [.str s] w = some (encParse (parse s), w) := stageFn.eq_10 ..
theorem stageFn_Errorf (args : List Val) (w : SW) : stageFn props cfg unm parse "errors.Errorf" args w = some (.str "required", w) := stageFn.eq_11 ..
theorem stageFn_WithMessagef (e : Val) (args : List Val) (w : SW) :
    stageFn props cfg unm parse "errors.WithMessagef" (e :: args) w = some (e, w) := stageFn.eq_12 ..
end eqs

def stagePrims (props : List SProp) (cfg : String → Option Nat) (unm : Nat → Nat → Option String) (parse : String → Except String Nat) :
    Prims SW := { fn := stageFn props cfg unm parse }

/-- the prefix stage on node i: events and, when the stage fails, the error -/
def prefixNode (props : List SProp) (cfg : String → Option Nat) (unm : Nat → Nat → Option String) (i : Nat) (w : SW) :
    SW × Option String :=
  let p := spropAt props i
  if p.tag != "prefix" then (w, none) else
  let k := tagValNow props w i
  let w1 := w ++ [.setCfg i k (cfg k)]
  match cfg k with
  | none => (w1, if p.required then some "required" else none)
  | some a => (w1 ++ [.unmarshal i a], unm i a)

/-- … and the decision it is an instance of -/
def prefixNodeDecision (props : List SProp) (cfg : String → Option Nat) (unm : Nat → Nat → Option String) (i : Nat) (w : SW) :
    Decision String :=
  let k := tagValNow props w i
  prefixDecision (cfg k).isNone (spropAt props i).required "required" ((cfg k).bind (unm i))

/-- the value stage on node i -/
def valueNode (props : List SProp) (unm : Nat → Nat → Option String) (parse : String → Except String Nat) (i : Nat) (w : SW) :
    SW × Option String :=
  let p := spropAt props i
  if p.tag != "value" then (w, none) else
  let s := tagValNow props w i
  if s == "" then (w, if p.required then some "required" else none) else
  match parse s with
  | .error e => (w, some e)
  | .ok a => (w ++ [.unmarshal i a], unm i a)

def valueNodeDecision (props : List SProp) (unm : Nat → Nat → Option String) (parse : String → Except String Nat) (i : Nat) (w : SW) :
    Decision String :=
  let s := tagValNow props w i
  valueDecision (s == "") (spropAt props i).required "required" (parse s) (unm i)

/-- a stage over the nodes in order: the first failure ends it -/
def stageLoop (node : Nat → SW → SW × Option String) : List Nat → SW → SW × Option String
  | [], w => (w, none)
  | i :: rest, w =>
    match node i w with
    | (w', none) => stageLoop node rest w'
    | (w', some e) => (w', some e)

/-! ### the validate loop -/

/-- validate_aware_post_processors.go:38-62: only configuration nodes with a `validate` argument; a nil pointer is skipped;
    a struct (or pointer to struct) that is NOT a time value goes to validator.Struct, anything else that can be read —
    time values included (fix of defect D25) — to validator.Var; `isStruct` below = "struct and not convertible to time.Time" -/
def validateDecision {ε α : Type} (cfgType : Bool) (arg : Option α) (nilPtr isStruct canIface : Bool) (vs : Option ε)
    (vv : α → Option ε) : Decision ε :=
  if !cfgType then .skip else
  match arg with
  | none => .skip
  | some a =>
    if nilPtr then .skip else
    if isStruct then (match vs with | none => .bind | some e => .fail e)
    else if canIface then (match vv a with | none => .bind | some e => .fail e)
    else .skip

def strsOf : List Val → Option (List String)
  | [] => some []
  | .str s :: rest => (strsOf rest).map (s :: ·)
  | _ :: _ => none

theorem strsOf_map (ts : List String) : strsOf (ts.map Val.str) = some ts := by
  induction ts with
  | nil => rfl
  | cons t rest ih => simp [strsOf, ih]

/-- `vS i` = validator.Struct on the value of node i, `vV i cs` = validator.Var with the constraint text `cs` -/
def validFn (props : List SProp) (vS : Nat → Option String) (vV : Nat → String → Option String) :
    String → List Val → SW → Option (Val × SW)
  | "$component_definition.PropertyTypeConfiguration", [], w => some (.str "configuration", w)
  | "$ArgValidate", [], w => some (.str "validate", w)
  | "$reflect.Pointer", [], w => some (.str "ptr", w)
  | "$reflect.Struct", [], w => some (.str "struct", w)
  | "$timeType", [], w => some (.str "time.Time", w)
  | ".ConvertibleTo", [.ref i 21, .str "time.Time"], w => some (.bool (spropAt props i).isTime, w)
  | ".ConvertibleTo", [.ref i 23, .str "time.Time"], w => some (.bool (spropAt props i).isTime, w)
  | ".PropertyType", [.ref i 20], w => some (.str (if (spropAt props i).cfgType then "configuration" else "component"), w)
  | ".Args", [.ref i 20], w => some (.ref i 22, w)
  | ".Find", [.ref i 22, .str "validate"], w =>
      some (match (spropAt props i).validate with
            | none => .tuple [.nil, .bool false]
            | some ts => .tuple [.list (ts.map Val.str), .bool true], w)
  | ".Type", [.ref i 20], w => some (.ref i 21, w)
  | ".Kind", [.ref i 21], w =>
      some (.str (if (spropAt props i).isPtr then "ptr" else if (spropAt props i).isStruct then "struct" else "other"), w)
  | ".Elem", [.ref i 21], w => some (.ref i 23, w)
  | ".Kind", [.ref i 23], w => some (.str (if (spropAt props i).isStruct then "struct" else "other"), w)
  | ".Value", [.ref i 20], w => some (.ref i 24, w)
  | ".IsNil", [.ref i 24], w => some (.bool (spropAt props i).isNil, w)
  | ".CanInterface", [.ref i 24], w => some (.bool (spropAt props i).canIface, w)
  | ".Interface", [.ref i 24], w => some (.ref i 25, w)
  | "self.v.Struct", [.ref i 25], w => some (encErr (vS i), w ++ [.vStruct i])
  | "self.v.Var", [.ref i 25, .str cs], w => some (encErr (vV i cs), w ++ [.vVar i cs])
  | "strings.Join", [.list vs, .str sep], w => (strsOf vs).map (fun ss => (.str (sep.intercalate ss), w))
  | "errors.Wrapf", e :: _, w => some (e, w)
  | _, _, _ => none

section veqs
attribute [local simp] validFn.eq_1
variable (props : List SProp) (vS : Nat → Option String) (vV : Nat → String → Option String)
theorem validFn_cfgType (w : SW) : validFn props vS vV "$component_definition.PropertyTypeConfiguration" [] w = some (.str "configuration", w) := validFn.eq_1 ..
theorem validFn_argValidate (w : SW) : validFn props vS vV "$ArgValidate" [] w = some (.str "validate", w) := validFn.eq_2 ..
theorem validFn_rPointer (w : SW) : validFn props vS vV "$reflect.Pointer" [] w = some (.str "ptr", w) := validFn.eq_3 ..
theorem validFn_rStruct (w : SW) : validFn props vS vV "$reflect.Struct" [] w = some (.str "struct", w) := validFn.eq_4 ..
theorem validFn_timeType (w : SW) : validFn props vS vV "$timeType" [] w = some (.str "time.Time", w) := validFn.eq_5 ..
theorem validFn_Conv (i : Nat) (w : SW) : validFn props vS vV ".ConvertibleTo" [.ref i 21, .str "time.Time"] w =
    some (.bool (spropAt props i).isTime, w) := validFn.eq_6 ..
theorem validFn_ConvElem (i : Nat) (w : SW) : validFn props vS vV ".ConvertibleTo" [.ref i 23, .str "time.Time"] w =
    some (.bool (spropAt props i).isTime, w) := validFn.eq_7 ..
theorem validFn_PropertyType (i : Nat) (w : SW) : validFn props vS vV ".PropertyType" [.ref i 20] w =
    some (.str (if (spropAt props i).cfgType then "configuration" else "component"), w) := validFn.eq_8 ..
theorem validFn_Args (i : Nat) (w : SW) : validFn props vS vV ".Args" [.ref i 20] w = some (.ref i 22, w) := validFn.eq_9 ..
theorem validFn_Find (i : Nat) (w : SW) : validFn props vS vV ".Find" [.ref i 22, .str "validate"] w =
    some (match (spropAt props i).validate with
          | none => .tuple [.nil, .bool false]
          | some ts => .tuple [.list (ts.map Val.str), .bool true], w) := validFn.eq_10 ..
theorem validFn_Type (i : Nat) (w : SW) : validFn props vS vV ".Type" [.ref i 20] w = some (.ref i 21, w) := validFn.eq_11 ..
theorem validFn_Kind (i : Nat) (w : SW) : validFn props vS vV ".Kind" [.ref i 21] w =
    some (.str (if (spropAt props i).isPtr then "ptr" else if (spropAt props i).isStruct then "struct" else "other"), w) := validFn.eq_12 ..
theorem validFn_Elem (i : Nat) (w : SW) : validFn props vS vV ".Elem" [.ref i 21] w = some (.ref i 23, w) := validFn.eq_13 ..
theorem validFn_KindElem (i : Nat) (w : SW) : validFn props vS vV ".Kind" [.ref i 23] w =
    some (.str (if (spropAt props i).isStruct then "struct" else "other"), w) := validFn.eq_14 ..
theorem validFn_Value (i : Nat) (w : SW) : validFn props vS vV ".Value" [.ref i 20] w = some (.ref i 24, w) := validFn.eq_15 ..
theorem validFn_IsNil (i : Nat) (w : SW) : validFn props vS vV ".IsNil" [.ref i 24] w = some (.bool (spropAt props i).isNil, w) := validFn.eq_16 ..
theorem validFn_CanInterface (i : Nat) (w : SW) : validFn props vS vV ".CanInterface" [.ref i 24] w = some (.bool (spropAt props i).canIface, w) := validFn.eq_17 ..
theorem validFn_Interface (i : Nat) (w : SW) : validFn props vS vV ".Interface" [.ref i 24] w = some (.ref i 25, w) := validFn.eq_18 ..
theorem validFn_Struct (i : Nat) (w : SW) : validFn props vS vV "self.v.Struct" [.ref i 25] w = some (encErr (vS i), w ++ [.vStruct i]) := validFn.eq_19 ..
theorem validFn_Var (i : Nat) (cs : String) (w : SW) : validFn props vS vV "self.v.Var" [.ref i 25, .str cs] w =
    some (encErr (vV i cs), w ++ [.vVar i cs]) := validFn.eq_20 ..
theorem validFn_Join (vs : List Val) (sep : String) (w : SW) : validFn props vS vV "strings.Join" [.list vs, .str sep] w =
    (strsOf vs).map (fun ss => (.str (sep.intercalate ss), w)) := validFn.eq_21 ..
theorem validFn_Wrapf (e : Val) (args : List Val) (w : SW) : validFn props vS vV "errors.Wrapf" (e :: args) w = some (e, w) := validFn.eq_22 ..
end veqs

def validPrims (props : List SProp) (vS : Nat → Option String) (vV : Nat → String → Option String) : Prims SW :=
  { fn := validFn props vS vV }

/-- the validate stage on node i -/
def validateNode (props : List SProp) (vS : Nat → Option String) (vV : Nat → String → Option String) (i : Nat) (w : SW) :
    SW × Option String :=
  let p := spropAt props i
  if !p.cfgType then (w, none) else
  match p.validate with
  | none => (w, none)
  | some ts =>
    if p.isPtr && p.isNil then (w, none) else
    if p.isStruct && !p.isTime then (w ++ [.vStruct i], vS i)
    else if p.canIface then (w ++ [.vVar i (",".intercalate ts)], vV i (",".intercalate ts))
    else (w, none)

def validateNodeDecision (props : List SProp) (vS : Nat → Option String) (vV : Nat → String → Option String) (i : Nat) :
    Decision String :=
  let p := spropAt props i
  validateDecision p.cfgType p.validate (p.isPtr && p.isNil) (p.isStruct && !p.isTime) p.canIface (vS i) (fun ts => vV i (",".intercalate ts))

/-! ### util/el ReplaceAllContent: the bounded replacement loop, for ANY callback (which may change the world) -/

/-- the string operations the loop uses, over any type of strings `S`:
    `find s` = FindString (the EMPTY string when nothing matches), `content elr` = the match without its delimiters,
    `replace1 s old new` = strings.Replace(s, old, new, 1) -/
structure ElOps (S : Type) where
  find : S → S
  isEmpty : S → Bool
  content : S → S
  replace1 : S → S → S → S

/-- el.go:42-61 as a function: `fuel` rounds at most are interpreted (`none` beyond), `round` counts replacements,
    `bound` = maxReplaceRounds -/
def elLoop {S σ ε : Type} (ops : ElOps S) (cb : S → σ → Except ε S × σ) (boundErr : ε) (bound : Nat) :
    Nat → Nat → S → σ → Option (Except ε S × σ)
  | 0, _, _, _ => none
  | fuel + 1, round, s, w =>
    if ops.isEmpty (ops.find s) then some (.ok s, w)
    else if round ≥ bound then some (.error boundErr, w)
    else match cb (ops.content (ops.find s)) w with
      | (.error e, w') => some (.error e, w')
      | (.ok r, w') => elLoop ops cb boundErr bound fuel (round + 1) (ops.replace1 s (ops.find s) r) w'

def encStrRes : Except String String → Val
  | .ok r => .tuple [.str r, .nil]
  | .error e => .tuple [.str "", .str e]

/-- the callback is `.ref 0 40`; calling it is the primitive `.call` -/
def elFn {σ : Type} (ops : ElOps String) (cb : String → σ → Except String String × σ) (bound : Nat) :
    String → List Val → σ → Option (Val × σ)
  | "self.FindString", [.str s], w => some (.str (ops.find s), w)
  | "self.content", [.str s], w => some (.str (ops.content s), w)
  | ".call", [.ref 0 40, .str c], w => some (encStrRes (cb c w).1, (cb c w).2)
  | "strings.Replace", [.str s, .str old, .str new, .int 1], w => some (.str (ops.replace1 s old new), w)
  | "$maxReplaceRounds", [], w => some (.int bound, w)
  | "fmt.Errorf", _, w => some (.str "unresolved", w)
  | _, _, _ => none

def elPrims {σ : Type} (ops : ElOps String) (cb : String → σ → Except String String × σ) (bound fuel : Nat) : Prims σ :=
  { fn := elFn ops cb bound, fuel := fuel }

/-! ### the quote stage: PostProcessProperties with its callback -/

/-- the loop over a function literal (what the primitive `self.el.ReplaceAllContent` does with the literal it is given) -/
def elLoopK {σ : Type} (ops : ElOps String) (k : Handler σ) (bound : Nat) : Nat → Nat → String → σ → Option (Val × σ)
  | 0, _, _, _ => none
  | fuel + 1, round, s, w =>
    if ops.find s == "" then some (.tuple [.str s, .nil], w)
    else if round ≥ bound then some (.tuple [.str "", .str "unresolved"], w)
    else match k [.str (ops.content (ops.find s))] w with
      | some (.tuple [.str r, .nil], w') => elLoopK ops k bound fuel (round + 1) (ops.replace1 s (ops.find s) r) w'
      | some (.tuple [.str _, .str e], w') => some (.tuple [.str "", .str e], w')
      | _ => none

inductive QKind | scalar | map | list
deriving DecidableEq, Repr

def QKind.code : QKind → Nat
  | .scalar => 30
  | .map => 31
  | .list => 32

/-- a configured value: identity and kind -/
abbrev QV := Nat × QKind

def encQV : Option QV → Val
  | none => .nil
  | some (a, k) => .ref a k.code

/-- config_quote_aware_post_processors.go:56-62: nil, an empty map and an empty list count as absent -/
def quoteAbsent (lenOf : Nat → Nat) : Option QV → Bool
  | none => true
  | some (a, .map) => lenOf a == 0
  | some (a, .list) => lenOf a == 0
  | some (_, .scalar) => false

/-- lines 50-92 as a decision: which value is recorded and formatted — the configured one, the parsed default, or nothing;
    a default that does not parse is an error BEFORE anything is recorded -/
def quoteDecision {ε α S : Type} (absent : Bool) (configured : α) (dflt : Option S) (dEmpty : S → Bool)
    (parse : S → Except ε α) : Except ε (Option α) :=
  if absent then
    match dflt with
    | none => .ok none
    | some d => if dEmpty d then .ok none else (parse d).map some
  else .ok (some configured)

/-- the callback on node i: `splitN` = strings.SplitN(exp, ":", 2), `cfg` = Configure.Get, `parse` = strconv2.ParseAny,
    `fmtAny` = strconv2.FormatAny -/
def quoteCb (splitN : String → String × Option String) (cfg : String → Option QV) (lenOf : Nat → Nat)
    (parse : String → Except String Nat) (fmtAny : Nat → Except String String) (i : Nat) (exp : String) (w : SW) :
    Except String String × SW :=
  let key := (splitN exp).1
  match quoteDecision (quoteAbsent lenOf (cfg key)) ((cfg key).map (·.1) |>.getD 0) (splitN exp).2 (· == "") parse with
  | .error e => (.error e, w)
  | .ok none => (.ok "", w ++ [.setCfg i key none])
  | .ok (some a) => (fmtAny a, w ++ [.setCfg i key (some a)])

def quoteFn (props : List SProp) (ops : ElOps String) (splitN : String → String × Option String) (cfg : String → Option QV)
    (lenOf : Nat → Nat) (parse : String → Except String Nat) (fmtAny : Nat → Except String String) :
    String → List Val → SW → Option (Val × SW)
  | "self.el.MatchString", [.str s], w => some (.bool (!(ops.find s == "")), w)
  | ".TagStr", [.ref i 20], w => some (.str (spropAt props i).tagStr, w)
  | "strings.SplitN", [.str e, .str ":", .int 2], w =>
      some (match (splitN e).2 with
            | none => .list [.str (splitN e).1]
            | some d => .list [.str (splitN e).1, .str d], w)
  | "self.Configure.Get", [.str k], w => some (encQV (cfg k), w)
  | "assert2:map[string]any", [.ref a 31], w => some (.tuple [.list (List.replicate (lenOf a) .nil), .bool true], w)
  | "assert2:map[string]any", [.ref _ _], w => some (.tuple [.nil, .bool false], w)
  | "assert2:[]any", [.ref a 32], w => some (.tuple [.list (List.replicate (lenOf a) .nil), .bool true], w)
  | "assert2:[]any", [.ref _ _], w => some (.tuple [.nil, .bool false], w)
  | "strconv2.ParseAny", [.str s], w => some (encParse (parse s), w)
  | "strconv2.FormatAny", [.ref a _], w => some (encStrRes (fmtAny a), w)
  | ".SetConfiguration", [.ref i 20, .str k, .nil], w => some (.tuple [], w ++ [.setCfg i k none])
  | ".SetConfiguration", [.ref i 20, .str k, .ref a _], w => some (.tuple [], w ++ [.setCfg i k (some a)])
  | ".set:TagVal", [.ref i 20, .str s], w => some (.tuple [], w ++ [.setTagVal i s])
  | "errors.Wrapf", e :: _, w => some (e, w)
  | "errors.WithMessagef", e :: _, w => some (e, w)
  | _, _, _ => none

section qeqs
attribute [local simp] quoteFn.eq_1
variable (props : List SProp) (ops : ElOps String) (splitN : String → String × Option String) (cfg : String → Option QV)
  (lenOf : Nat → Nat) (parse : String → Except String Nat) (fmtAny : Nat → Except String String)
theorem quoteFn_Match (s : String) (w : SW) : quoteFn props ops splitN cfg lenOf parse fmtAny "self.el.MatchString" [.str s] w =
    some (.bool (!(ops.find s == "")), w) := quoteFn.eq_1 ..
theorem quoteFn_TagStr (i : Nat) (w : SW) : quoteFn props ops splitN cfg lenOf parse fmtAny ".TagStr" [.ref i 20] w =
    some (.str (spropAt props i).tagStr, w) := quoteFn.eq_2 ..
theorem quoteFn_SplitN (e : String) (w : SW) : quoteFn props ops splitN cfg lenOf parse fmtAny "strings.SplitN" [.str e, .str ":", .int 2] w =
    some (match (splitN e).2 with
          | none => .list [.str (splitN e).1]
          | some d => .list [.str (splitN e).1, .str d], w) := quoteFn.eq_3 ..
theorem quoteFn_Get (k : String) (w : SW) : quoteFn props ops splitN cfg lenOf parse fmtAny "self.Configure.Get" [.str k] w =
    some (encQV (cfg k), w) := quoteFn.eq_4 ..
theorem quoteFn_assertMap31 (a : Nat) (w : SW) : quoteFn props ops splitN cfg lenOf parse fmtAny "assert2:map[string]any" [.ref a 31] w =
    some (.tuple [.list (List.replicate (lenOf a) .nil), .bool true], w) := quoteFn.eq_5 ..
theorem quoteFn_assertMap30 (a : Nat) (w : SW) : quoteFn props ops splitN cfg lenOf parse fmtAny "assert2:map[string]any" [.ref a 30] w =
    some (.tuple [.nil, .bool false], w) := by rw [quoteFn.eq_6]; decide
theorem quoteFn_assertMap32 (a : Nat) (w : SW) : quoteFn props ops splitN cfg lenOf parse fmtAny "assert2:map[string]any" [.ref a 32] w =
    some (.tuple [.nil, .bool false], w) := by rw [quoteFn.eq_6]; decide
theorem quoteFn_assertList30 (a : Nat) (w : SW) : quoteFn props ops splitN cfg lenOf parse fmtAny "assert2:[]any" [.ref a 30] w =
    some (.tuple [.nil, .bool false], w) := by rw [quoteFn.eq_8]; decide
theorem quoteFn_assertList31 (a : Nat) (w : SW) : quoteFn props ops splitN cfg lenOf parse fmtAny "assert2:[]any" [.ref a 31] w =
    some (.tuple [.nil, .bool false], w) := by rw [quoteFn.eq_8]; decide
theorem quoteFn_assertList32 (a : Nat) (w : SW) : quoteFn props ops splitN cfg lenOf parse fmtAny "assert2:[]any" [.ref a 32] w =
    some (.tuple [.list (List.replicate (lenOf a) .nil), .bool true], w) := quoteFn.eq_7 ..
theorem quoteFn_ParseAny (s : String) (w : SW) : quoteFn props ops splitN cfg lenOf parse fmtAny "strconv2.ParseAny" [.str s] w =
    some (encParse (parse s), w) := quoteFn.eq_9 ..
theorem quoteFn_FormatAny (a k : Nat) (w : SW) : quoteFn props ops splitN cfg lenOf parse fmtAny "strconv2.FormatAny" [.ref a k] w =
    some (encStrRes (fmtAny a), w) := quoteFn.eq_10 ..
theorem quoteFn_SetCfgNil (i : Nat) (k : String) (w : SW) :
    quoteFn props ops splitN cfg lenOf parse fmtAny ".SetConfiguration" [.ref i 20, .str k, .nil] w = some (.tuple [], w ++ [.setCfg i k none]) := quoteFn.eq_11 ..
theorem quoteFn_SetCfg (i a kk : Nat) (k : String) (w : SW) :
    quoteFn props ops splitN cfg lenOf parse fmtAny ".SetConfiguration" [.ref i 20, .str k, .ref a kk] w =
      some (.tuple [], w ++ [.setCfg i k (some a)]) := quoteFn.eq_12 ..
theorem quoteFn_setTagVal (i : Nat) (s : String) (w : SW) :
    quoteFn props ops splitN cfg lenOf parse fmtAny ".set:TagVal" [.ref i 20, .str s] w = some (.tuple [], w ++ [.setTagVal i s]) := quoteFn.eq_13 ..
theorem quoteFn_Wrapf (e : Val) (args : List Val) (w : SW) :
    quoteFn props ops splitN cfg lenOf parse fmtAny "errors.Wrapf" (e :: args) w = some (e, w) := quoteFn.eq_14 ..
theorem quoteFn_WithMessagef (e : Val) (args : List Val) (w : SW) :
    quoteFn props ops splitN cfg lenOf parse fmtAny "errors.WithMessagef" (e :: args) w = some (e, w) := quoteFn.eq_15 ..
end qeqs

def quotePrims (props : List SProp) (ops : ElOps String) (splitN : String → String × Option String) (cfg : String → Option QV)
    (lenOf : Nat → Nat) (parse : String → Except String Nat) (fmtAny : Nat → Except String String) (bound fuel : Nat) : Prims SW :=
  { fn := quoteFn props ops splitN cfg lenOf parse fmtAny
    hfn := fun f args k w =>
      match f, args with
      | "self.el.ReplaceAllContent", [.str s] => elLoopK ops k bound fuel 0 s w
      | _, _ => none }

/-- the quote stage on node i: untouched without a match; else the loop over the tag text AS WRITTEN, and the result is
    stored into TagVal only when every replacement succeeded -/
def quoteNode (props : List SProp) (ops : ElOps String) (splitN : String → String × Option String) (cfg : String → Option QV)
    (lenOf : Nat → Nat) (parse : String → Except String Nat) (fmtAny : Nat → Except String String) (bound fuel : Nat)
    (i : Nat) (w : SW) : SW × Option String :=
  let p := spropAt props i
  if ops.find p.tagStr == "" then (w, none) else
  match elLoop ops (quoteCb splitN cfg lenOf parse fmtAny i) "unresolved" bound fuel 0 p.tagStr w with
  | none => (w, some "out of fuel")
  | some (.error e, w') => (w', some e)
  | some (.ok s, w') => (w' ++ [.setTagVal i s], none)

/-! ### the expression stage -/

/-- expression_tag_aware_post_processors.go:42-56: compile, run, format — the first failure is the answer -/
def exprCb (compile : String → Except String Nat) (runP : Nat → Except String Nat) (fmtAny : Nat → Except String String)
    (c : String) (w : SW) : Except String String × SW :=
  match compile c with
  | .error e => (.error e, w)
  | .ok p =>
    match runP p with
    | .error e => (.error e, w)
    | .ok r => (fmtAny r, w)

def encNatRes : Except String Nat → Nat → Val
  | .ok a, k => .tuple [.ref a k, .nil]
  | .error e, _ => .tuple [.nil, .str e]

def exprFn (props : List SProp) (ops : ElOps String) (compile : String → Except String Nat) (runP : Nat → Except String Nat)
    (fmtAny : Nat → Except String String) : String → List Val → SW → Option (Val × SW)
  | "self.el.MatchString", [.str s], w => some (.bool (!(ops.find s == "")), w)
  | ".TagVal", [.ref i 20], w => some (.str (tagValNow props w i), w)
  | "expr.Compile", [.str c], w => some (encNatRes (compile c) 33, w)
  | "expr.Run", [.ref p 33, .nil], w => some (encNatRes (runP p) 30, w)
  | "strconv2.FormatAny", [.ref a 30], w => some (encStrRes (fmtAny a), w)
  | ".set:TagVal", [.ref i 20, .str s], w => some (.tuple [], w ++ [.setTagVal i s])
  | "errors.Wrapf", e :: _, w => some (e, w)
  | "errors.WithMessagef", e :: _, w => some (e, w)
  | _, _, _ => none

section xeqs
attribute [local simp] exprFn.eq_1
variable (props : List SProp) (ops : ElOps String) (compile : String → Except String Nat) (runP : Nat → Except String Nat)
  (fmtAny : Nat → Except String String)
theorem exprFn_Match (s : String) (w : SW) : exprFn props ops compile runP fmtAny "self.el.MatchString" [.str s] w =
    some (.bool (!(ops.find s == "")), w) := exprFn.eq_1 ..
theorem exprFn_TagVal (i : Nat) (w : SW) : exprFn props ops compile runP fmtAny ".TagVal" [.ref i 20] w =
    some (.str (tagValNow props w i), w) := exprFn.eq_2 ..
theorem exprFn_Compile (c : String) (w : SW) : exprFn props ops compile runP fmtAny "expr.Compile" [.str c] w =
    some (encNatRes (compile c) 33, w) := exprFn.eq_3 ..
theorem exprFn_Run (p : Nat) (w : SW) : exprFn props ops compile runP fmtAny "expr.Run" [.ref p 33, .nil] w =
    some (encNatRes (runP p) 30, w) := exprFn.eq_4 ..
theorem exprFn_FormatAny (a : Nat) (w : SW) : exprFn props ops compile runP fmtAny "strconv2.FormatAny" [.ref a 30] w =
    some (encStrRes (fmtAny a), w) := exprFn.eq_5 ..
theorem exprFn_setTagVal (i : Nat) (s : String) (w : SW) :
    exprFn props ops compile runP fmtAny ".set:TagVal" [.ref i 20, .str s] w = some (.tuple [], w ++ [.setTagVal i s]) := exprFn.eq_6 ..
theorem exprFn_Wrapf (e : Val) (args : List Val) (w : SW) :
    exprFn props ops compile runP fmtAny "errors.Wrapf" (e :: args) w = some (e, w) := exprFn.eq_7 ..
theorem exprFn_WithMessagef (e : Val) (args : List Val) (w : SW) :
    exprFn props ops compile runP fmtAny "errors.WithMessagef" (e :: args) w = some (e, w) := exprFn.eq_8 ..
end xeqs

def exprPrims (props : List SProp) (ops : ElOps String) (compile : String → Except String Nat) (runP : Nat → Except String Nat)
    (fmtAny : Nat → Except String String) (bound fuel : Nat) : Prims SW :=
  { fn := exprFn props ops compile runP fmtAny
    hfn := fun f args k w =>
      match f, args with
      | "self.el.ReplaceAllContent", [.str s] => elLoopK ops k bound fuel 0 s w
      | _, _ => none }

/-- the expression stage on node i: works on TagVal AS IT IS NOW (what the quote stage left there) -/
def exprNode (props : List SProp) (ops : ElOps String) (compile : String → Except String Nat) (runP : Nat → Except String Nat)
    (fmtAny : Nat → Except String String) (bound fuel : Nat) (i : Nat) (w : SW) : SW × Option String :=
  let tv := tagValNow props w i
  if ops.find tv == "" then (w, none) else
  match elLoop ops (exprCb compile runP fmtAny) "unresolved" bound fuel 0 tv w with
  | none => (w, some "out of fuel")
  | some (.error e, w') => (w', some e)
  | some (.ok s, w') => (w' ++ [.setTagVal i s], none)

end Ioc.Sem
