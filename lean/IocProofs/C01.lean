/-
  C01 — singleton identity: every holder of a component receives the one object registered (published) under that name.

  About the Go code
    container/factory/factory.go                          doGetComponent (cache lookup, else create),
                                                          createComponent / doCreateComponent (early exposure, populate,
                                                          initialization callbacks, version check), populateComponent
    container/support/singleton_component_registry.go     GetSingleton / AddSingleton / the three cache levels
    component_definition/property.go                      Inject (what a field finally receives)
  through the model Ioc.Container (M2), an executable small-step machine checked against that code by the differential
  harness (sub-harness `graph`).  A scenario `sc : Scen` fixes the definitions, the candidate lists of every injection
  point in the enumeration order imposed on the run (so: every dependency graph — chains, diamonds, slice fan-in, cycles
  of any length — every candidate order, every scan order), which callbacks fail, and two ARBITRARY functions
  `earlyO`, `afterO` for substituting post-processors.  `WF sc` only says a substitute keeps the component's name.

  Proofs: IocProofs/Lemmas/M2Step.lean (one characterisation of `step`) and IocProofs/Lemmas/M2Inv.lean (the invariant).
-/
import IocProofs.Lemmas.M2Inv
import IocProofs.Lemmas.SemFactory2
import IocProofs.Lemmas.M2Lookups
import IocProofs.Lemmas.SemAppRun
namespace Ioc.C01
open Ioc.M2

/-- After a successful start every field holds the object published under its name. -/
theorem C01_identity (sc : Scen) (wf : WF sc) (h : (final sc).status = .done) :
    ∀ k i o, o ∈ (final sc).fields k i → (final sc).l1 o.name = some o :=
  (inv_run sc wf _).done h

/-- Two holders of the same name hold the same object. -/
theorem C01_one_object (sc : Scen) (wf : WF sc) (h : (final sc).status = .done) :
    ∀ k i k' i' o o', o ∈ (final sc).fields k i → o' ∈ (final sc).fields k' i' → o.name = o'.name → o = o' :=
  fun k i k' i' o o' ho ho' hn => Option.some.inj
    ((C01_identity sc wf h k i o ho).symm.trans (hn ▸ C01_identity sc wf h k' i' o' ho'))

/-- ... and this needs neither success nor the end of the start: at EVERY reachable state (also after a failed start)
    no two fields hold different objects of one name. -/
theorem C01_one_object_everywhere (sc : Scen) (wf : WF sc) (n : Nat) :
    ∀ k i k' i' o o', o ∈ (run sc n (init sc)).fields k i → o' ∈ (run sc n (init sc)).fields k' i' →
      o.name = o'.name → o = o' :=
  fun k i k' i' o o' => (inv_run sc wf n).one_ver k i o k' i' o'

/-
  Full statement asked for:
    theorem C01_every_quiescent_state (sc) (wf) (n : Nat) : (run sc n (init sc)).stack = [] →
      ∀ k i o, o ∈ (run sc n (init sc)).fields k i → (run sc n (init sc)).l1 o.name = some o
  It is FALSE of the machine (and of the code) for a start that has failed: a failure empties the stack and removes the
  failed components from the cache (RemoveSingleton), while a component published earlier keeps the early reference it
  was given (`C01_every_quiescent_state_counterexample`).  It holds at every quiescent state of a start that has not failed:
-/
theorem C01_every_quiescent_state_partial (sc : Scen) (wf : WF sc) (n : Nat)
    (hnf : ∀ w s, (run sc n (init sc)).status ≠ .failed w s) : (run sc n (init sc)).stack = [] →
    ∀ k i o, o ∈ (run sc n (init sc)).fields k i → (run sc n (init sc)).l1 o.name = some o :=
  fun he => (inv_run sc wf n).quiescent hnf he

/-- GetComponentByName after the start (doGetComponent on a published name): the published object, and nothing is
    created or changed. -/
theorem C01_lookup_after_start (sc : Scen) (st : St) (n : Nat) (o : Obj) (hn : st.l1 n = some o) :
    (match lookup sc st n with
     | .hit o' st' => o' = o ∧ st'.l1 = st.l1 ∧ st'.l2 = st.l2 ∧ st'.l3 = st.l3 ∧ st'.stack = st.stack ∧
         st'.fields = st.fields
     | _ => False) := by
  simp [lookup, hn]

/-- Without substitution every holder sees the registered instance itself. -/
theorem C01_raw (sc : Scen) (wf : WF sc) (ns : ∀ n, sc.earlyO n = raw n ∧ sc.afterO n = raw n)
    (h : (final sc).status = .done) :
    ∀ k i o, o ∈ (final sc).fields k i → o = raw o.name := by
  intro k i o ho
  have hi : Inv sc (final sc) := inv_run sc wf (fuelBound sc)
  rcases hi.l1_src o.name o (C01_identity sc wf h k i o ho) with h1 | h1
  · exact h1.trans (ns o.name).1
  · refine h1.trans ?_
    unfold initResult; split
    · exact (ns o.name).2
    · rfl

/-! ### non-vacuity -/

/-- a scenario without faults -/
def mk (names : List Nat) (points : Nat → Option (List Point)) (earlyO afterO : Nat → Obj)
    (fInit : Nat → Bool := fun _ => false) : Scen :=
  { names := names, boot := [], eager := names, points := points, wired := fun _ => true, logged := fun _ => true,
    cfgOk := fun _ => true, fBefore := fun _ => false, fAps := fun _ => false, fInit := fInit, fAfter := fun _ => false,
    fEarly := fun _ => false, earlyO := earlyO, afterO := afterO }

/-- 3-cycle 0 → 1 → 2 → 0, a slice point of 0 fed by 1, 2, 3 (fan-in), and a diamond tail 1 → 4 ← 2 (and 3 → 4) -/
def cyc : Scen := mk [0, 1, 2, 3, 4]
  (fun n => match n with
    | 0 => some [⟨[1], false, true, []⟩, ⟨[1, 2, 3], true, true, []⟩]
    | 1 => some [⟨[2], false, true, []⟩, ⟨[4], false, true, []⟩]
    | 2 => some [⟨[0], false, true, []⟩, ⟨[4], false, true, []⟩]
    | 3 => some [⟨[4], false, false, []⟩]
    | _ => some []) raw raw

theorem cyc_wf : WF cyc := ⟨fun _ => rfl, fun _ => rfl⟩

example : (final cyc).status = .done := by decide +kernel
example : (final cyc).fields 0 1 = [raw 1, raw 2, raw 3] := by decide +kernel
example : (final cyc).fields 2 0 = [raw 0] ∧ (final cyc).l1 0 = some (raw 0) := by decide +kernel
-- the hypotheses of C01_identity / C01_one_object / C01_raw hold for `cyc`, and the conclusion speaks about non-empty fields
example : ∀ k i o, o ∈ (final cyc).fields k i → (final cyc).l1 o.name = some o :=
  C01_identity cyc cyc_wf (by decide +kernel)
example : ∀ k i o, o ∈ (final cyc).fields k i → o = raw o.name :=
  C01_raw cyc cyc_wf (fun _ => ⟨rfl, rfl⟩) (by decide +kernel)

/-- the same cycle created through 2 first, with an early substitute for 2 (InitializeComponent returns the raw instance
    later) and 4 substituted after initialization: still one object per name -/
def cycSub : Scen :=
  { cyc with eager := [2, 0, 1, 3, 4], earlyO := fun n => if n = 2 then ⟨2, 9⟩ else raw n,
             afterO := fun n => if n = 4 then ⟨4, 5⟩ else raw n }
theorem cycSub_wf : WF cycSub :=
  ⟨fun n => by simp only [cycSub]; split <;> simp_all [raw], fun n => by simp only [cycSub]; split <;> simp_all [raw]⟩
example : (final cycSub).status = .done ∧ (final cycSub).fields 1 0 = [⟨2, 9⟩] ∧ (final cycSub).l1 2 = some ⟨2, 9⟩ ∧
    (final cycSub).fields 1 1 = [⟨4, 5⟩] ∧ (final cycSub).fields 3 0 = [⟨4, 5⟩] := by
  decide +kernel

/-- a published name looked up later -/
example : (match lookup cyc (final cyc) 3 with
    | .hit o' st' => o' = raw 3 ∧ st'.l1 = (final cyc).l1 ∧ st'.l2 = (final cyc).l2 ∧ st'.l3 = (final cyc).l3 ∧
        st'.stack = (final cyc).stack ∧ st'.fields = (final cyc).fields
    | _ => False) :=
  C01_lookup_after_start cyc (final cyc) 3 (raw 3) (by decide +kernel)

/-- 0 {1, 2}, 1 {0}, Init of 2 fails: 1 was published holding the early reference of 0, then 0 is abandoned -/
def dangling : Scen := mk [0, 1, 2]
  (fun n => match n with
    | 0 => some [⟨[1], false, true, []⟩, ⟨[2], false, true, []⟩]
    | 1 => some [⟨[0], false, true, []⟩]
    | _ => some []) raw raw (fun n => n == 2)

/-- the full `C01_every_quiescent_state` fails after a failed start -/
theorem C01_every_quiescent_state_counterexample :
    WF dangling ∧ (final dangling).stack = [] ∧ (final dangling).status = .failed 2 .refresh ∧
    raw 0 ∈ (final dangling).fields 1 0 ∧ (final dangling).l1 1 = some (raw 1) ∧ (final dangling).l1 0 = none :=
  ⟨⟨fun _ => rfl, fun _ => rfl⟩, by decide +kernel⟩

/-- GetComponentByName (factory.go:131-137), regenerated: the instance (`Raw`) of exactly the meta doGetComponent returned —
    the lookup adds no copy of its own; an error of doGetComponent is returned as it is -/
theorem C01_code_GetComponentByName (n : Nat) (res : Option Nat) :
    Go.run (Sem.gcbPrims res) Progs.fac_GetComponentByName [.int n] () =
      some (match res with
            | some v => .tuple [.ref n (1000 + v), .nil]
            | none => .tuple [.nil, Sem.errF], ()) :=
  Sem.getComponentByName_sem n res

/-! ### lazily created components: lookups after the start

`M2.lookupAfter sc st n` resumes creation for the name `n` from the state the start (or an earlier lookup) left —
`GetComponentByName` of a component that was not needed at start-up.  As long as NO attempt fails, the machine invariant is
carried from lookup to lookup (`Lc.lookupsAfter_inv`), so after ANY sequence of such lookups that ends in a finished state,
every field of every holder — created at start-up or by any of the lookups — holds the published instance of its
component, and no two fields hold different versions of one name.  (With a FAILED attempt in the sequence this is false:
`C03_retry_counterexample`, known finding KF-C03-1.) -/
theorem C01_identity_after_lookups (sc : Scen) (wf : WF sc) (ns : List Nat)
    (hall : Lc.AllNF sc (final sc) ns) (hd : (Lc.lookupsAfter sc (final sc) ns).status = .done) :
    ∀ k i o, o ∈ (Lc.lookupsAfter sc (final sc) ns).fields k i → (Lc.lookupsAfter sc (final sc) ns).l1 o.name = some o :=
  (Lc.lookupsAfter_inv sc wf ns _ (inv_run sc wf _) hall).1.done hd

theorem C01_one_object_after_lookups (sc : Scen) (wf : WF sc) (ns : List Nat) (hall : Lc.AllNF sc (final sc) ns) :
    ∀ k i k' i' o o', o ∈ (Lc.lookupsAfter sc (final sc) ns).fields k i →
      o' ∈ (Lc.lookupsAfter sc (final sc) ns).fields k' i' → o.name = o'.name → o = o' :=
  fun k i k' i' o o' => (Lc.lookupsAfter_inv sc wf ns (final sc) (inv_run sc wf (fuelBound sc)) hall).1.one_ver k i o k' i' o'

/-- … and what was published before a lookup stays published: a lookup never replaces an instance -/
theorem C01_published_survives_lookups (sc : Scen) (wf : WF sc) (st : St) (hi : Inv sc st) (hnf : NF st) (n x : Nat) (o : Obj)
    (h : st.l1 x = some o) : (lookupAfter sc st n).l1 x = some o := by
  unfold lookupAfter
  cases hs : st.status with
  | running => exact h
  | done => exact l1_stable_run sc wf _ _ (Lc.Inv.restart hi hnf n) x o h
  | failed w s => exact absurd hs (hnf w s)

/-- non-vacuity: a lazy two-cycle 1 ⇄ 2 (nothing is created by the start), looked up as 1, then 2: both attempts end done,
    and the hypotheses of the theorems above hold -/
def lazyPair : Scen :=
  { names := [1, 2], boot := [], eager := [],
    points := fun n => match n with
      | 1 => some [⟨[2], false, true, []⟩]
      | 2 => some [⟨[1], false, true, []⟩]
      | _ => some [],
    wired := fun _ => true, logged := fun _ => true, cfgOk := fun _ => true,
    fBefore := fun _ => false, fAps := fun _ => false, fInit := fun _ => false, fAfter := fun _ => false,
    fEarly := fun _ => false, earlyO := fun n => if n = 1 then ⟨1, 1⟩ else raw n, afterO := raw }

example : Lc.AllNF lazyPair (final lazyPair) [1, 2] ∧ (Lc.lookupsAfter lazyPair (final lazyPair) [1, 2]).status = .done ∧
    (Lc.lookupsAfter lazyPair (final lazyPair) [1, 2]).fields 2 0 = [⟨1, 1⟩] ∧
    (Lc.lookupsAfter lazyPair (final lazyPair) [1, 2]).l1 1 = some ⟨1, 1⟩ :=
  ⟨⟨NF_of_done (by decide), NF_of_done (by decide), NF_of_done (by decide)⟩, by decide⟩

/-- registry.RegisterSingleton, regenerated (`Panicf` kept as a call that does not return): a new name is stored; the SAME
    object again changes nothing; a DIFFERENT object under a name that is taken panics and the registry keeps what it had —
    two objects never share a name, so a name never stands for two instances -/
theorem C01_code_RegisterSingleton (nameOf : Nat → String) (i : Nat) (w : Sem.CMap) :
    Go.run (Sem.rsPrims nameOf) Progs.sreg_RegisterSingleton [.ref i 0] w =
      (match Sem.cmLoad w (nameOf i) with
       | none => some (.tuple [], Sem.cmStore (nameOf i) i w)
       | some j => if j = i then some (.tuple [], w) else none) :=
  Sem.registerSingleton_sem nameOf i w

end Ioc.C01
