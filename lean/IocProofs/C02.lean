/-
  C02 — Circular references between singletons resolve: start-up terminates for every dependency graph.
  PROPERTY THEOREMS ONLY (lemmas live in IocProofs/Lemmas/M2Term.lean, M2TermSelf.lean, M2Succeeds*.lean).

  Model: Ioc.Container (M2), the component factory as a small-step machine over the three-level singleton cache.
    container/factory/factory.go:92-118    Refresh: one GetComponent per non-lazy definition (work lists `todoBoot`, `todo`)
    container/factory/factory.go:140-162   doGetComponent: GetSingleton(name, true), else create (`lookup`, `enter`)
    container/factory/factory.go:190-198   early exposure: AddSingletonFactory before populate (`l3 := true` in `enter`);
                                           guarded by `allowCircularReferences`, regenerated fact below
    container/factory/factory.go:252-283   populateComponent: one nested doGetComponent per candidate — the recursion
                                           (the explicit creation stack of the machine)
    component_definition/property.go:72-81 Inject removes the holder itself from what was obtained; nothing left is an
                                           error when required, the field stays empty otherwise
  Why it terminates: the second visit of a name that is still being created finds it in l3 (or l2) and returns the early
  reference instead of pushing a second frame, so every definition is entered at most once and every frame walks its
  finite candidate lists once. The potential `mu` makes this exact; the number of steps is at most `fuelBound sc`.
  The termination proof needs NO hypothesis on the scenario (`C02_terminates_unconditional`); `TermWF` (names distinct)
  is kept in the signature of `C02_terminates` for callers and is not used.
-/
import IocProofs.Lemmas.M2TermSelf
import IocProofs.Lemmas.M2SucceedsPerm
import Ioc.Generated.Facts
import IocProofs.Lemmas.SemCreate
import IocProofs.Lemmas.SemRefresh
import IocProofs.Lemmas.M2Lookups
import IocProofs.Lemmas.SemFacAccess
import IocProofs.Lemmas.SemMeta
import IocProofs.Lemmas.SemUnmarshall
namespace Ioc.C02
open Ioc Ioc.M2

/-- start-up terminates for EVERY dependency graph: cycles of any length, overlapping cycles, cycles through slices,
    any candidate order, any post-processors, any faults -/
theorem C02_terminates (sc : Scen) (wf : TermWF sc) : (final sc).status ≠ .running :=
  terminates sc wf

/-- the same without any well-formedness hypothesis: unknown names, duplicated definitions, anything -/
theorem C02_terminates_unconditional (sc : Scen) : (final sc).status ≠ .running :=
  terminates_any sc

/-- the bound is explicit: one step per work-list entry, and per definition two steps plus one per point and candidate -/
theorem C02_fuel_explicit (sc : Scen) :
    fuelBound sc = 1 + sc.boot.length + sc.eager.length + (sc.names.map (work sc)).sum := rfl

/-- the mechanism behind the bound: a potential that is exactly `fuelBound` at the start and strictly decreases at every
    step taken from a running state, under an invariant that holds in every reachable running state -/
theorem C02_potential (sc : Scen) :
    mu sc (init sc) = fuelBound sc ∧
    (∀ k, (run sc k (init sc)).status = .running → TInv sc (run sc k (init sc))) ∧
    (∀ st, TInv sc st → st.status = .running → mu sc (step sc st) < mu sc st) :=
  ⟨mu_init_eq sc, tinv_reachable sc, mu_dec sc⟩

/-- once stopped the machine stays in the same state: `final` is THE result, more fuel changes nothing -/
theorem C02_stable (sc : Scen) (m : Nat) : run sc (fuelBound sc + m) (init sc) = final sc :=
  run_stable sc (fuelBound sc) m (terminates_any sc)

/-- regenerated from factory.go: the early-exposure flag is the constant true and nothing assigns it -/
theorem C02_early_exposure_on : Ioc.Facts.allowCircularReferences = true := by decide +kernel

/-- a component is never wired to itself, at any time of any start -/
theorem C02_never_self (sc : Scen) (k : Nat) : ∀ h i o, o ∈ (run sc k (init sc)).fields h i → o.name ≠ h :=
  noSelf_reachable sc k

/-- a required point that could only be satisfied by its own holder is reported as an error: when the top frame `f` has
    finished collecting point `f.p`, the point has candidates, and everything obtained is `f` itself, the next step fails
    the start and blames `f` -/
theorem C02_self_only_required (sc : Scen) (st : St) (f : Frame) (rest : List Frame)
    (hr : st.status = .running) (hs : st.stack = f :: rest)
    (hp : f.p < (pts sc f.name).length)
    (hd : f.d = ((pts sc f.name)[f.p]).cands.length)
    (hne : ((pts sc f.name)[f.p]).cands ≠ [])
    (hacc : ∀ o ∈ f.acc, o.name = f.name)
    (hreq : ((pts sc f.name)[f.p]).required = true) :
    (step sc st).status = .failed f.name st.stage := by
  rw [step_self_only sc st f rest hr hs hp hd hne hacc, if_pos hreq]; rfl

/-- … and an optional one is left empty: no field is written and the frame moves on to its next point -/
theorem C02_self_only_optional (sc : Scen) (st : St) (f : Frame) (rest : List Frame)
    (hr : st.status = .running) (hs : st.stack = f :: rest)
    (hp : f.p < (pts sc f.name).length)
    (hd : f.d = ((pts sc f.name)[f.p]).cands.length)
    (hne : ((pts sc f.name)[f.p]).cands ≠ [])
    (hacc : ∀ o ∈ f.acc, o.name = f.name)
    (hopt : ((pts sc f.name)[f.p]).required = false) :
    (step sc st).fields = st.fields ∧ (step sc st).status = .running ∧
    (step sc st).stack = { f with p := f.p + 1, d := 0, acc := [] } :: rest := by
  rw [step_self_only sc st f rest hr hs hp hd hne hacc, hopt]
  exact ⟨rfl, hr, rfl⟩

/-! ### non-vacuity: concrete graphs with cycles -/

/-- a scenario without faults, every processor active, no substitution -/
def plain (names : List Nat) (points : Nat → Option (List Point)) : Scen :=
  { names := names, boot := [], eager := names, points := points,
    wired := fun _ => true, logged := fun _ => true, cfgOk := fun _ => true,
    fBefore := fun _ => false, fAps := fun _ => false, fInit := fun _ => false, fAfter := fun _ => false,
    fEarly := fun _ => false, earlyO := raw, afterO := raw }

/-- 3-cycle 0→1→2→0 with a slice fan-in on 0 (which also lists members of the cycle) and a diamond tail into 4 -/
def cyc : Scen := plain [0, 1, 2, 3, 4] fun n => match n with
  | 0 => some [⟨[1], false, true, []⟩, ⟨[1, 2, 3], true, true, []⟩]
  | 1 => some [⟨[2], false, true, []⟩, ⟨[4], false, true, []⟩]
  | 2 => some [⟨[0], false, true, []⟩, ⟨[4], false, true, []⟩]
  | 3 => some [⟨[4], false, false, []⟩]
  | _ => some []

/-- a component whose only candidate for a point is itself -/
def selfLoop (required : Bool) : Scen := plain [0] fun _ => some [⟨[0], false, required, []⟩]

/-- 5-cycle 0→1→2→3→4→0 -/
def cyc5 : Scen := plain [0, 1, 2, 3, 4] fun n => some [⟨[(n + 1) % 5], false, true, []⟩]

/-- two cycles sharing node 1 (0→1→0 and 1→2→3→1), the shared node reached through a slice -/
def overlap : Scen := plain [0, 1, 2, 3] fun n => match n with
  | 0 => some [⟨[1], false, true, []⟩]
  | 1 => some [⟨[0, 2], true, true, []⟩]
  | 2 => some [⟨[3], false, true, []⟩]
  | 3 => some [⟨[1], false, true, []⟩]
  | _ => some []

example : TermWF cyc := ⟨by decide +kernel⟩
example : TermWF (selfLoop true) := ⟨by decide +kernel⟩
example : TermWF (selfLoop false) := ⟨by decide +kernel⟩
example : TermWF cyc5 := ⟨by decide +kernel⟩
example : TermWF overlap := ⟨by decide +kernel⟩

example : fuelBound cyc = 32 := by decide +kernel
example : (final cyc).status = .done := by decide +kernel
example : (final cyc5).status = .done := by decide +kernel
example : (final overlap).status = .done := by decide +kernel
example : (final (selfLoop true)).status = .failed 0 .refresh := by decide +kernel
example : (final (selfLoop false)).status = .done := by decide +kernel

/-- the cycle really is wired with the early references, and the slice gets all three -/
example : (final cyc).fields 2 0 = [raw 0] ∧ (final cyc).fields 0 1 = [raw 1, raw 2, raw 3] := by decide +kernel
/-- the bound is not far off: the 5-cycle needs 21 of its 26 steps -/
example : fuelBound cyc5 = 26 ∧ (run cyc5 20 (init cyc5)).status = .running ∧ (run cyc5 21 (init cyc5)).status = .done := by
  decide +kernel
/-- the optional self-only point is left empty -/
example : (final (selfLoop false)).fields 0 0 = [] := by decide +kernel

/-- the hypotheses of `C02_self_only_required` are met by a reachable state: two steps into `selfLoop true` the frame of
    0 has obtained its own early reference and nothing else -/
example :
    let sc := selfLoop true
    let st := run sc 2 (init sc)
    ∃ f rest, st.status = .running ∧ st.stack = f :: rest ∧ f.name = 0 ∧ f.p = 0 ∧ f.d = 1 ∧
      f.acc = [raw 0] ∧ (step sc st).status = .failed 0 .refresh :=
  ⟨⟨0, 0, 1, [raw 0]⟩, [], by decide, rfl, rfl, rfl, rfl, rfl, by decide⟩

/-- … and of `C02_self_only_optional`: same state of `selfLoop false`; the step leaves the field empty and moves on -/
example :
    let sc := selfLoop false
    let st := run sc 2 (init sc)
    ∃ f rest, st.status = .running ∧ st.stack = f :: rest ∧ f.name = 0 ∧ f.p = 0 ∧ f.d = 1 ∧
      f.acc = [raw 0] ∧ (step sc st).status = .running ∧ (step sc st).fields 0 0 = [] :=
  ⟨⟨0, 0, 1, [raw 0]⟩, [], by decide, rfl, rfl, rfl, rfl, rfl, by decide, by decide⟩

/-! ### the success characterisation

  Vocabulary (IocProofs/Lemmas/M2SucceedsDefs.lean), all on the scenario alone — the machine is not mentioned:
  `Sx.NoSubstitution sc`  no post-processor substitutes a component: `earlyO n = raw n ∧ afterO n = raw n` for every n.
  `Sx.Reach sc n`         least set containing `boot ++ eager` and closed under "candidate of a point of `pts sc n`".
  `Sx.StaticFault sc n`   n is not a definition; or n is wired and its configuration fails / a required point has no
                          candidate (`points n = none`); or a callback of n fails (`Lc.CbFault`); or n has a required point
                          with candidates that are all n itself (`Sx.SelfOnly`) or with a candidate other than n that is
                          not assignable (`Sx.Unassignable`).
  `Sx.NoFault sc`         `static`: no reached name has a static fault; `early`: no reached name has a failing
                          early-reference factory (that fault is only met when the early reference is asked for, which
                          depends on the creation order — see C10_counterexample_early).
  `Sx.NoFaultOn sc S`     decidable certificate for `NoFault`: the list S contains boot ++ eager, is closed under candidates
                          and is fault free (`Sx.noFault_of_on`).
  `Sx.expected n pt`      what the field of point `pt` of holder `n` holds: `[]` when no candidate other than n exists or
                          one of them is not assignable, else the registered instances of all of them (slice) / of the
                          first (single).
-/
section succeeds
open Ioc.M2.Sx

/-- For every dependency graph — cycles of any length, overlapping cycles, cycles through slices, any candidate order —
    when no post-processor substitutes components and no reachable component has a fault, start-up SUCCEEDS. -/
theorem C02_succeeds (sc : Scen) (ns : NoSubstitution sc) (nf : NoFault sc) : (final sc).status = .done :=
  succeeds sc ns nf

/-- … and the faults listed are exactly what can make it fail: without substitution and without a failing
    early-reference factory on a reachable name, the start succeeds IFF no reachable name has a static fault. -/
theorem C02_succeeds_iff (sc : Scen) (ns : NoSubstitution sc) (he : ∀ n, Reach sc n → sc.fEarly n = false) :
    (final sc).status = .done ↔ ∀ n, Reach sc n → ¬ StaticFault sc n :=
  done_iff sc ns he

/-- After a successful start without substitution every reachable name is published as its registered instance and
    every one of its injection points holds exactly the registered instances of its usable candidates. -/
theorem C02_wired (sc : Scen) (ns : NoSubstitution sc) (hd : (final sc).status = .done) (n : Nat) (hn : Reach sc n) :
    (final sc).l1 n = some (raw n) ∧
    ∀ i pt, (pts sc n)[i]? = some pt → (final sc).fields n i = expected n pt := by
  have hpub := done_reach_published sc ns.wf _ hd n hn
  have hnf : ¬ Lc.Failed (final sc) := fun ⟨x, s, h⟩ => by rw [hd] at h; cases h
  refine ⟨?_, fun i pt hpt => fields_expected sc ns hnf n i pt hpt hpub⟩
  cases h : (final sc).l1 n with
  | none => exact absurd h hpub
  | some o => rw [l1_raw sc ns _ n o h]

/-- Every required injection point (with candidates; a required point without any is `points n = none`, a static fault)
    of every reachable component is populated by its target at the end. -/
theorem C02_required_populated (sc : Scen) (ns : NoSubstitution sc) (nf : NoFault sc) (n : Nat) (hn : Reach sc n)
    (i : Nat) (pt : Point) (hpt : (pts sc n)[i]? = some pt) (hreq : pt.required = true) (hne : pt.cands ≠ []) :
    (final sc).fields n i ≠ [] ∧ (final sc).fields n i = expected n pt := by
  have hw := (C02_wired sc ns (succeeds sc ns nf) n hn).2 i pt hpt
  refine ⟨?_, hw⟩
  rw [hw]
  exact expected_ne_nil hreq hne (fun hb => nf.static n hn (Or.inr (Or.inr (Or.inr ⟨pt, List.mem_of_getElem? hpt, hb⟩))))

/-! non-vacuity: the 3-cycle with slice fan-in and diamond tail, the 5-cycle, the overlapping cycles -/
theorem plain_noSubst (names : List Nat) (points : Nat → Option (List Point)) : NoSubstitution (plain names points) :=
  fun _ => ⟨rfl, rfl⟩
example : NoFaultOn cyc [0, 1, 2, 3, 4] := by decide +kernel
example : NoFault cyc := noFault_of_on (S := [0, 1, 2, 3, 4]) (by decide +kernel)
example : NoFault cyc5 := noFault_of_on (S := [0, 1, 2, 3, 4]) (by decide +kernel)
example : NoFault overlap := noFault_of_on (S := [0, 1, 2, 3]) (by decide +kernel)
example : (final cyc).status = .done := C02_succeeds cyc (plain_noSubst _ _) (noFault_of_on (S := [0, 1, 2, 3, 4]) (by decide +kernel))
-- the hypotheses of C02_required_populated: 2 is reachable, its point 0 is required with the candidate 0 (on the cycle)
example : Reach cyc 2 := ((Reach.root (n := 0) (by decide +kernel)).edge 1 (by decide +kernel)).edge 2 (by decide +kernel)
example : (pts cyc 2)[0]?.map (fun p => (p.cands, p.required)) = some ([0], true) ∧
    expected 2 ⟨[0], false, true, []⟩ = [raw 0] ∧ expected 0 ⟨[1, 2, 3], true, true, []⟩ = [raw 1, raw 2, raw 3] := by decide +kernel
-- the self-only required point is a static fault, and (C02_succeeds_iff) the start fails
example : StaticFault (selfLoop true) 0 ∧ Reach (selfLoop true) 0 := ⟨by decide +kernel, Reach.root (by decide +kernel)⟩
example : (final (selfLoop true)).status ≠ .done :=
  fun h => (C02_succeeds_iff _ (plain_noSubst _ _) (fun _ _ => rfl)).mp h 0 (Reach.root (by decide +kernel)) (by decide +kernel)

end succeeds

/-! ### the tie to the code: early exposure precedes population (regenerated doCreateComponent)

Cycles resolve because a component in creation registers its early-reference factory BEFORE its dependencies are looked
up.  About the regenerated program of `doCreateComponent` (see C03_code_doCreateComponent): whenever the component is a
singleton in creation and circular references are allowed, the first effectful call is AddSingletonFactory and
populateComponent comes right after it — for every behaviour of every collaborator. -/
theorem C02_code_exposure_before_populate (d : Sem.DCC) (hc : Sem.dccConsistent d)
    (hx : (d.singleton && d.allow && d.inCrOf d.n) = true) :
    ∃ out rest, Go.run (Sem.dccPrims d) Progs.fac_doCreateComponent [.int d.n, .ref d.n 0] [] =
      some (out, "addFactory" :: "populate" :: rest) := by
  obtain ⟨rest, hr⟩ := Sem.createDecision_calls d
  exact ⟨_, rest, (Sem.doCreateComponent_sem d hc).trans (by rw [hr, hx]; rfl)⟩

/-! ### the tie to the code: Meta.IsSelf (regenerated, a three-clause loop)

`Ioc.Progs.meta_IsSelf` is the syntax tree of Meta.IsSelf (meta.go:76-83) — the test behind "never wired to itself"
(`Property.Inject` drops the candidates for which the holder's `IsSelf` answers true, `C06_code_Inject`).  For a proxy chain
of EVERY length (metas numbered from the chain's end), every assignment of origin addresses and every holder address, the
regenerated loop answers true exactly when SOME meta of the chain — the candidate itself or anything it proxies, at any
depth — originates from the holder's address (`Sem.isSelfModel`); `nil` is never self.  The three-clause loop is interpreted
with fuel; the statement holds for every fuel above the chain length + 1 (out of fuel is `none`, never a made-up answer). -/
theorem C02_code_IsSelf (selfPtr : Nat) (addr : Nat → Nat) (t : Option Nat) (fuel : Nat)
    (hf : (match t with | none => 1 | some k => k + 2) ≤ fuel) :
    Go.run (Sem.isSelfPrims selfPtr addr fuel) Progs.meta_IsSelf [Sem.encMetaO t] () =
      some (.bool (Sem.isSelfModel selfPtr addr t), ()) :=
  Sem.isSelf_sem selfPtr addr t fuel hf

/-- non-vacuity: a chain of three metas whose innermost (meta 0) is the holder's own instance -/
example : Sem.isSelfModel 77 (fun k => if k == 0 then 77 else 10 + k) (some 2) = true ∧
    Sem.isSelfModel 77 (fun k => 10 + k) (some 2) = false := by decide +kernel

/-- … and so does every lookup after the start (`M2.lookupAfter`: a lazily created component, a retry after a failure): from
    any stopped state with an empty creation stack it stops within `fuelBound sc + 1` steps, for every graph -/
theorem C02_lookup_terminates (sc : Scen) (st : St) (n : Nat) (hs : st.stack = []) (hnr : st.status ≠ .running) :
    (lookupAfter sc st n).status ≠ .running :=
  lookupAfter_terminates sc st n hs hnr

/-- every declared injection point stays a point of its holder: the IDs (regenerated: Field.ID / Holder.ID / Property.ID /
    info) of two same-named fields in DIFFERENT embedded structs differ — a field's ID contains its holder's ID, which for an
    embedded holder contains the embedding path — and SetProperties (regenerated, `C07_code_SetProperties`) appends EVERY
    property it is handed to the group of its type, whatever its ID -/
theorem C02_code_points_kept (holderID typeName metaID fieldName fieldID info pt tag tagStr : String) (isEmbed : Bool) :
    Go.run (Sem.idPrims holderID typeName metaID fieldName fieldID info pt tag tagStr isEmbed) Progs.field_ID [] () =
      some (.str (holderID ++ ".Field(" ++ fieldName ++ ")"), ()) ∧
    Go.run (Sem.idPrims holderID typeName metaID fieldName fieldID info pt tag tagStr isEmbed) Progs.holder_ID [] () =
      some (.str (if isEmbed then holderID ++ ".Embed(" ++ typeName ++ ")" else metaID), ()) ∧
    Go.run (Sem.idPrims holderID typeName metaID fieldName fieldID info pt tag tagStr isEmbed) Progs.prop_ID [] () =
      some (.str (fieldID ++ info), ()) ∧
    Go.run (Sem.idPrims holderID typeName metaID fieldName fieldID info pt tag tagStr isEmbed) Progs.prop_info [] () =
      some (.str (".Type(" ++ pt ++ ").Tag(" ++ tag ++ ":'" ++ tagStr ++ "')"), ()) :=
  Sem.ids_sem holderID typeName metaID fieldName fieldID info pt tag tagStr isEmbed

/-- SetProperties appends EVERY property it is handed, in order, to the group of its type — none is dropped for its name, tag
    or ID (the same regenerated function as in `C07_code_SetProperties`, stated here because "every required point is
    populated" needs every declared point to BE a point) -/
theorem C02_code_SetProperties_keeps_all (idOf nameOf : Nat → String) (isComp : Nat → Bool) (ps : List Nat) (w : Sem.MW) :
    Go.run (Sem.metaPrims idOf nameOf isComp) Progs.meta_SetProperties [.list (ps.map (fun i => Go.Val.ref i 20))] w =
      some (.tuple [], { w with comp := w.comp ++ ps.filter isComp, conf := w.conf ++ ps.filter (fun i => !isComp i) }) :=
  Sem.metaSetProperties_sem idOf nameOf isComp ps w

/-- "or left empty when optional": a point is optional exactly when its `required` argument holds the value "false" among its
    values (IsRequired, regenerated, `C09_code_IsRequired`) -/
theorem C02_code_IsRequired (has : Sem.AM → String → List String → Bool) (fmtKey : String → String) (w : Sem.PW) :
    Go.run (Sem.pmPrims has fmtKey) Progs.prop_IsRequired [] w = some (.bool (!(has w.args "required" ["false"])), w) :=
  Sem.isRequired_sem has fmtKey w

end Ioc.C02
