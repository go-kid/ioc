/-
  C03 — no stale version: when post-processors substitute a component (early reference and/or after initialization), no
  holder keeps a version other than the published one; if a finished holder already has the early version and
  InitializeComponent returns another object, the start FAILS (it never silently keeps both).

  About the Go code
    container/factory/factory.go:164-250   doCreateComponent: early exposure, populate, InitializeComponent, the version check
                                           (lines 222-247: compare with the early reference, look for holders that have it)
    container/factory/factory.go:285-299   getEarlyBeanReference
    container/support/singleton_component_registry.go   the three cache levels
    component_definition/property.go       Inject
  through the model Ioc.Container (M2).  `sc.earlyO` and `sc.afterO` are ARBITRARY functions, so every substitution timing is
  covered: early only, after only, both consistently, both inconsistently, early with the raw instance returned later.

  Proofs: IocProofs/Lemmas/M2Step.lean, IocProofs/Lemmas/M2Inv.lean.
-/
import IocProofs.Lemmas.M2Inv
import Ioc.FactorySkel
import Ioc.Generated.Facts
import IocProofs.Lemmas.SemCreate
import IocProofs.Lemmas.M2IsCode
import IocProofs.Lemmas.SemFactory2
import IocProofs.Lemmas.SemDelegate
import IocProofs.Lemmas.M2Lookups
import IocProofs.Lemmas.SemMeta
import IocProofs.Lemmas.SemPrepare
namespace Ioc.C03
open Ioc.M2

/-- After a successful start every field holds the published version. -/
theorem C03_no_stale (sc : Scen) (wf : WF sc) (h : (final sc).status = .done) :
    ∀ k i o, o ∈ (final sc).fields k i → (final sc).l1 o.name = some o :=
  (inv_run sc wf _).done h

/-
  Full statement asked for:
    theorem C03_consistent_everywhere (sc) (wf) (n : Nat) : ∀ k i o, o ∈ (run sc n (init sc)).fields k i →
      (run sc n (init sc)).l1 o.name = some o ∨ (run sc n (init sc)).l2 o.name = some o
  FALSE after a failed start (the failed components are removed from the cache, components published before keep the
  references they were given: `C03_consistent_everywhere_counterexample`).  Proved: it holds at every reachable state of a
  start that has not failed, and "never two versions" holds at every reachable state without exception.
-/
theorem C03_consistent_everywhere_partial (sc : Scen) (wf : WF sc) (n : Nat)
    (hnf : ∀ w s, (run sc n (init sc)).status ≠ .failed w s) :
    ∀ k i o, o ∈ (run sc n (init sc)).fields k i →
      (run sc n (init sc)).l1 o.name = some o ∨ (run sc n (init sc)).l2 o.name = some o :=
  fun k i o ho => ((inv_run sc wf n).fld hnf k i o ho).cur

/-- At EVERY reachable state (running, done or failed) all stored objects of one name are one and the same version. -/
theorem C03_one_version_everywhere (sc : Scen) (wf : WF sc) (n : Nat) :
    ∀ k i k' i' o o', o ∈ (run sc n (init sc)).fields k i → o' ∈ (run sc n (init sc)).fields k' i' →
      o.name = o'.name → o = o' :=
  fun k i k' i' o o' => (inv_run sc wf n).one_ver k i o k' i' o'

/-- The published and the early level never hold the same name at once, and an early version exists only for a component
    still in creation. -/
theorem C03_levels_exclusive (sc : Scen) (wf : WF sc) (n : Nat) (x : Nat) (o : Obj)
    (h : (run sc n (init sc)).l1 x = some o) : (run sc n (init sc)).l2 x = none :=
  (inv_run sc wf n).l1_l2 x o h

/-- A published entry is final. -/
theorem C03_published_final (sc : Scen) (wf : WF sc) (n m : Nat) (x : Nat) (o : Obj) :
    (run sc n (init sc)).l1 x = some o → (run sc (n + m) (init sc)).l1 x = some o := by
  intro h
  rw [run_add]
  exact l1_stable_run sc wf m _ (inv_run sc wf n) x o h

/-- Whenever a step publishes `x` as `pub`, no field of any holder holds an object named `x` other than `pub`. -/
theorem C03_stale_fails (sc : Scen) (wf : WF sc) (st : St) (hi : Inv sc st) (x : Nat) (pub : Obj)
    (h0 : st.l1 x = none) (h1 : (step sc st).l1 x = some pub) :
    ∀ k i o, o ∈ (step sc st).fields k i → o.name = x → o = pub :=
  publish_no_stale sc wf st hi x pub h0 h1

/-- ... and what is published is the early version or the result of InitializeComponent, nothing else. -/
theorem C03_published_source (sc : Scen) (wf : WF sc) (n : Nat) (x : Nat) (o : Obj)
    (h : (run sc n (init sc)).l1 x = some o) : o = sc.earlyO x ∨ o = initResult sc x :=
  (inv_run sc wf n).l1_src x o h

/-- factory.go:222-247 read directly: the creation of `f.name` has resolved all its points, the callbacks succeed,
    InitializeComponent returned a substitute, an early version `e` was handed out, and a finished holder has it:
    the start fails at this component. -/
theorem C03_wrapped_with_finished_holder_fails (sc : Scen) (st st' : St) (f : Frame) (rest : List Frame) (e : Obj)
    (hr : st.status = .running) (hs : st.stack = f :: rest) (hp : ¬ f.p < (pts sc f.name).length)
    (hcb : initCallbacks sc st f.name = (st', true)) (hw : initResult sc f.name ≠ raw f.name)
    (h2 : st'.l2 f.name = some e) (hh : finishedHolderHas sc st' e = true) :
    (step sc st).status = .failed f.name st.stage := by
  have hst : st'.stage = st.stage := by
    have := (initCallbacks_same sc st f.name).stage
    rw [hcb] at this; exact this
  simp [step, hr, hs, hp, hcb, h2, hw, hh, failAt, hst]

/-! ### non-vacuity -/

def mk (names : List Nat) (points : Nat → Option (List Point)) (earlyO afterO : Nat → Obj)
    (fInit : Nat → Bool := fun _ => false) : Scen :=
  { names := names, boot := [], eager := names, points := points, wired := fun _ => true, logged := fun _ => true,
    cfgOk := fun _ => true, fBefore := fun _ => false, fAps := fun _ => false, fInit := fInit, fAfter := fun _ => false,
    fEarly := fun _ => false, earlyO := earlyO, afterO := afterO }

/-- E14: H(0){S:[A,B]} A(1){B} B(2){A}; A is substituted after initialization; candidate order of the slice is the input -/
def e14 (order : List Nat) : Scen := mk [0, 1, 2]
  (fun n => if n = 0 then some [⟨order, true, true, []⟩] else if n = 1 then some [⟨[2], false, true, []⟩]
            else if n = 2 then some [⟨[1], false, true, []⟩] else some [])
  raw (fun n => if n = 1 then ⟨1, 7⟩ else raw n)

theorem e14_wf (order : List Nat) : WF (e14 order) :=
  ⟨fun _ => rfl, fun n => by simp only [e14, mk]; split <;> simp_all [raw]⟩

/-- order [A, B]: A is created first, B (finished before A) holds A's early version, A comes back wrapped: the start fails -/
example : (final (e14 [1, 2])).status = .failed 1 .refresh := by decide +kernel
/-- order [B, A]: B is created first, A finishes inside B's creation before anybody has seen an early version: success,
    and everybody holds the wrapped A -/
example : (final (e14 [2, 1])).status = .done ∧ (final (e14 [2, 1])).l1 1 = some ⟨1, 7⟩ ∧
    (final (e14 [2, 1])).fields 0 0 = [raw 2, ⟨1, 7⟩] ∧ (final (e14 [2, 1])).fields 2 0 = [⟨1, 7⟩] := by decide +kernel
example : ∀ k i o, o ∈ (final (e14 [2, 1])).fields k i → (final (e14 [2, 1])).l1 o.name = some o :=
  C03_no_stale _ (e14_wf _) (by decide +kernel)

/-- the hypotheses of `C03_wrapped_with_finished_holder_fails` hold in the run of `e14 [1, 2]` after 7 steps
    (the frame of A has resolved its point; B is finished and holds `raw 1`) -/
example : (step (e14 [1, 2]) (run (e14 [1, 2]) 7 (init (e14 [1, 2])))).status = .failed 1 .refresh :=
  C03_wrapped_with_finished_holder_fails (e14 [1, 2]) (run (e14 [1, 2]) 7 (init (e14 [1, 2])))
    (initCallbacks (e14 [1, 2]) (run (e14 [1, 2]) 7 (init (e14 [1, 2]))) 1).1 ⟨1, 1, 0, []⟩ [⟨0, 0, 0, []⟩] (raw 1)
    (by decide) (by rfl) (by decide) (by rfl) (by decide) (by decide) (by decide)

/-- E10 (adapted: the self point is optional, since Inject filters the holder out of its own candidates):
    A(0){Me:[A], B} B(1){A}; A has an early substitute ⟨0,1⟩ which B receives; with `after` InitializeComponent returns yet
    another object ⟨0,2⟩ (both, inconsistently) -/
def e10 (after : Bool) : Scen := mk [0, 1]
  (fun n => if n = 0 then some [⟨[0], true, false, []⟩, ⟨[1], false, true, []⟩]
            else if n = 1 then some [⟨[0], false, true, []⟩] else some [])
  (fun n => if n = 0 then ⟨0, 1⟩ else raw n) (fun n => if n = 0 ∧ after then ⟨n, 2⟩ else raw n)

theorem e10_wf (after : Bool) : WF (e10 after) :=
  ⟨fun n => by simp only [e10, mk]; split <;> simp_all [raw], fun n => by simp only [e10, mk]; split <;> simp_all [raw]⟩

/-- early substitute, raw instance returned later: the early version is what gets published, B holds it -/
example : (final (e10 false)).status = .done ∧ (final (e10 false)).l1 0 = some ⟨0, 1⟩ ∧
    (final (e10 false)).fields 1 0 = [⟨0, 1⟩] ∧ (final (e10 false)).fields 0 0 = [] := by decide +kernel
/-- early and after substitutes that differ: B is finished with ⟨0,1⟩, the start fails -/
example : (final (e10 true)).status = .failed 0 .refresh := by decide +kernel

/-- 0 {1, 2}, 1 {0}, Init of 2 fails -/
def dangling : Scen := mk [0, 1, 2]
  (fun n => match n with
    | 0 => some [⟨[1], false, true, []⟩, ⟨[2], false, true, []⟩]
    | 1 => some [⟨[0], false, true, []⟩]
    | _ => some []) raw raw (fun n => n == 2)

/-- the full `C03_consistent_everywhere` fails after a failed start: the published 1 holds the early reference of the
    abandoned 0 -/
theorem C03_consistent_everywhere_counterexample :
    WF dangling ∧ (final dangling).status = .failed 2 .refresh ∧ raw 0 ∈ (final dangling).fields 1 0 ∧
    (final dangling).l1 0 = none ∧ (final dangling).l2 0 = none :=
  ⟨⟨fun _ => rfl, fun _ => rfl⟩, by decide +kernel⟩


/-! ### regenerated facts: what the model abstracts about Inject and the version check is still what the source does -/

/-- Property.Inject: self filter, assignability loop, and in the slice branch `dependOn` is called for EVERY element
    (the machine's `finishedHolderHas` relies on every holder of an early reference being recorded) -/
theorem C03_inject_skeleton : Ioc.Facts.injectSkel = Ioc.expectedInjectSkel ∧ Ioc.Facts.isSelfSkel = Ioc.expectedIsSelfSkel :=
  ⟨rfl, rfl⟩

/-- doCreateComponent / getEarlyBeanReference: early exposure before population, the version check reads the early
    reference with allowEarlyReference = false and consults the dependents of BOTH the early reference and the raw meta -/
theorem C03_version_check_skeleton : Ioc.Facts.factorySkel = Ioc.expectedFactorySkel := rfl

/-! ### the tie to the code: the version check IS the regenerated program of doCreateComponent

`Ioc.Progs.fac_doCreateComponent` is the syntax tree of `defaultFactory.doCreateComponent` (container/factory/factory.go),
re-translated from /repo's source on every run into the MiniGo deep embedding (Ioc.GoSem).  Its collaborators — the registry
calls, populateComponent, InitializeComponent, genProxyComponent, the dependents lists — are arbitrary data (`Sem.DCC`).
Run by the interpreter it returns `Sem.createDecision` and makes its effectful calls in the order `createDecision` lists:
early exposure (AddSingletonFactory) BEFORE population, then initialization, then the reconciliation with the early
reference.  Any edit of that function (which earlier seeded changes C01A, C03A, C03D, C04D all were) changes the term this
theorem is about. -/

theorem C03_code_doCreateComponent (d : Sem.DCC) (hc : Sem.dccConsistent d) :
    Go.run (Sem.dccPrims d) Progs.fac_doCreateComponent [.int d.n, .ref d.n 0] [] =
      some (Sem.encDecision d.n (Sem.createDecision d).1, (Sem.createDecision d).2) :=
  Sem.doCreateComponent_sem d hc

/-- what that decision guarantees when an early reference of version `e` was handed out (the situation of a cycle):
    a component that initialization did not wrap is published AS that early reference; a wrapped one is published only
    if no dependent of the early reference (or of the raw instance) has already finished — otherwise the creation fails.
    This is the rule `C03_stale_fails` / `C03_wrapped_with_finished_holder_fails` state for the machine. -/
theorem C03_code_decision (d : Sem.DCC) (e w : Nat)
    (hx : (d.singleton && d.allow && d.inCrOf d.n) = true) (hp : d.populateOk = true) (hi : d.initRes = some w)
    (hpr : d.proxyOk = true) (he : d.earlyRes = some (some e)) :
    (w = 0 → (Sem.createDecision d).1 = some e) ∧
    (w ≠ 0 → ((Sem.createDecision d).1 = some w ↔ ∀ x ∈ d.depsEarly ++ d.depsRaw, d.inCrOf x = true) ∧
             ((Sem.createDecision d).1 = none ↔ ∃ x ∈ d.depsEarly ++ d.depsRaw, d.inCrOf x = false)) := by
  refine ⟨fun hw => by simp [Sem.createDecision, hx, hp, hi, hpr, he, hw], fun hw => ?_⟩
  have hc : ((d.depsEarly ++ d.depsRaw).filter (fun x => !(d.inCrOf x))).isEmpty = true ↔
      ∀ x ∈ d.depsEarly ++ d.depsRaw, d.inCrOf x = true := by simp [List.filter_eq_nil_iff, or_imp, forall_and]
  have hn : (∃ x ∈ d.depsEarly ++ d.depsRaw, d.inCrOf x = false) ↔ ¬ ∀ x ∈ d.depsEarly ++ d.depsRaw, d.inCrOf x = true := by
    simp
  rw [hn, ← hc]
  simp only [Sem.createDecision, hx, hp, hi, hpr, he]
  cases ((d.depsEarly ++ d.depsRaw).filter (fun x => !(d.inCrOf x))).isEmpty <;> simp [hw]

/-- THE MACHINE IS THE CODE at the step that decides C03.  At every reachable state of every scenario whose top frame has
    all its points done, the factory machine's `step` (initialization callbacks, version check, publication or failure —
    what `C03_no_stale`, `C03_stale_fails`, `C03_published_source` are about) does exactly what the REGENERATED
    doCreateComponent returns when its collaborators answer from the machine state (`M2.dccOf`: the name is in creation,
    InitializeComponent returns `initResult`, GetSingleton(name,false) returns the level-2 entry, GetDependents lists the
    holders whose fields contain the object, IsSingletonCurrentlyInCreation is membership of the creation stack). -/
theorem C03_machine_finish_is_code (sc : Scen) (wf : WF sc) (k : Nat) (f : Frame) (rest : List Frame)
    (hrun : (run sc k (init sc)).status = .running) (hst : (run sc k (init sc)).stack = f :: rest)
    (hp : ¬ f.p < (pts sc f.name).length) :
    ∃ r t, Go.run (Sem.dccPrims (M2.dccOf sc (run sc k (init sc)) f.name)) Progs.fac_doCreateComponent
              [.int f.name, .ref f.name 0] [] = some (Sem.encDecision f.name r, t) ∧
      step sc (run sc k (init sc)) =
        (match r with
         | none => failAt (initCallbacks sc (run sc k (init sc)) f.name).1 f.name
         | some v => publish (initCallbacks sc (run sc k (init sc)) f.name).1 f.name ⟨f.name, v⟩ rest) := by
  have hi := inv_run sc wf k
  refine ⟨_, _, Sem.doCreateComponent_sem _ (M2.dccOf_consistent sc _ hi f.name), ?_⟩
  exact M2.step_finish_is_code sc wf _ hi f rest hrun hst hp

/-- non-vacuity: a wrapped component (version 2) whose early reference (version 1) sits in a holder that already
    finished (3, not in creation) is refused; with that holder still in creation it is published as version 2 -/
def exDCC (inCr : Nat → Bool) : Sem.DCC :=
  { n := 7, singleton := true, allow := true, populateOk := true, initRes := some 2, proxyOk := true,
    earlyRes := some (some 1), depsEarly := [3], depsRaw := [], inCrOf := inCr }
example : (Sem.createDecision (exDCC (· == 7))).1 = none := by decide +kernel
example : (Sem.createDecision (exDCC (fun x => x == 7 || x == 3))).1 = some 2 := by decide +kernel
example : Sem.dccConsistent (exDCC (· == 7)) := by intro h; cases h

/-- getEarlyBeanReference (factory.go:285-299), regenerated: the early reference is what the processors' chain returns for
    the raw instance — the raw meta itself when they return the instance unchanged, a proxy meta of that version when they
    substitute, an error when they or the proxy creation fail (the machine's `earlyO` / `fEarly`) -/
theorem C03_code_getEarlyBeanReference (d : Sem.GEB) :
    Go.run (Sem.gebPrims d) Progs.fac_getEarlyBeanReference [.int d.n, .ref d.n 0] [] =
      some (Sem.encMeta d.n (Sem.earlyModel d).1, (Sem.earlyModel d).2) :=
  Sem.getEarlyBeanReference_sem d

/-- the delegate's GetEarlyBeanReference, regenerated (delegate:232-246): the early version handed to holders is the
    composition, in the order of `componentPostProcessors`, of the GetEarlyBeanReference callbacks of the Smart processors —
    `Order.getEarlyBeanReference`; without an InstantiationAware processor nobody is asked and the component itself is the early
    reference.  This is the `early` version of the machine (`C03_code_getEarlyBeanReference` is the factory side). -/
theorem C03_code_delegate_GetEarlyBeanReference (procs : List Nat) (hasInst : Bool) (isSmart : Nat → Bool)
    (get : Nat → Nat → Option Nat) (c : Nat) :
    Go.run (Sem.dgebPrims procs hasInst isSmart get) Progs.del_GetEarlyBeanReference [.str "n", Sem.encC c] [] =
      some (Sem.encEarlyD (Order.getEarlyBeanReference hasInst isSmart get procs c).2,
            (Order.getEarlyBeanReference hasInst isSmart get procs c).1) :=
  Sem.delegateEarlyRef_sem procs hasInst isSmart get c

/-- non-vacuity: two smart processors wrap 5 → 6 → 12, a third (not smart) is skipped -/
example : Order.getEarlyBeanReference true (fun p => p != 3) (fun p c => some (if p == 1 then c + 1 else c * 2)) [1, 3, 2] 5 =
    ([1, 2], some 12) := by decide +kernel

/-! ### KF-C03-1 (D21) in the model: a refused retry leaves a stale partner behind

`M2.lookupAfter` resumes creation for one name after a start (or an earlier lookup) has ended — registries and fields as the
last run left them.  A LAZY cycle H ⇄ P, H substituted when its early reference is requested AND (by another object) after
initialization, P's `Init` failing the first time: the first lookup of H fails in P; the second is REFUSED by the
stale-version check — correctly — but P, completed meanwhile with H's early version, stays published (`failAt` removes the
cache entries of what was in creation, nothing else); the third lookup of H succeeds, nobody asks for an early reference any
more, and the after-initialization version is published: P holds ⟨1,1⟩, the lookup gives ⟨1,2⟩.  The full statement of C03
fails on this history; `C03_no_stale` is about one start. -/
namespace Retry
def lazyRing : Scen :=
  { names := [1, 2], boot := [], eager := [],
    points := fun n => match n with
      | 1 => some [⟨[2], false, true, []⟩]
      | 2 => some [⟨[1], false, true, []⟩]
      | _ => some [],
    wired := fun _ => true, logged := fun _ => true, cfgOk := fun _ => true,
    fBefore := fun _ => false, fAps := fun _ => false, fInit := fun _ => false, fAfter := fun _ => false,
    fEarly := fun _ => false,
    earlyO := fun n => if n = 1 then ⟨1, 1⟩ else raw n,
    afterO := fun n => if n = 1 then ⟨1, 2⟩ else raw n }
def lazyRingFail : Scen := { lazyRing with fInit := fun n => n == 2 }
def a0 : St := final lazyRingFail
def a1 : St := lookupAfter lazyRingFail a0 1
def a2 : St := lookupAfter lazyRing a1 1
def a3 : St := lookupAfter lazyRing a2 1
end Retry

theorem C03_retry_counterexample :
    Retry.a0.status = .done ∧
    Retry.a1.status = .failed 2 .refresh ∧ Retry.a1.l1 2 = none ∧
    Retry.a2.status = .failed 1 .refresh ∧ Retry.a2.l1 2 = some (raw 2) ∧ Retry.a2.fields 2 0 = [⟨1, 1⟩] ∧
    Retry.a3.status = .done ∧ Retry.a3.l1 1 = some ⟨1, 2⟩ ∧ Retry.a3.fields 2 0 = [⟨1, 1⟩] := by decide +kernel

/-- the positive side of the retry story: over any sequence of lookups after the start none of which FAILS (substituting
    post-processors, cycles, lazily created components included), every holder and the by-name lookup see the one version
    that is published — the invariant of one start is carried from lookup to lookup (`Lc.lookupsAfter_inv`) -/
theorem C03_no_stale_after_lookups (sc : Scen) (wf : WF sc) (ns : List Nat)
    (hall : Lc.AllNF sc (final sc) ns) (hd : (Lc.lookupsAfter sc (final sc) ns).status = .done) :
    ∀ k i o, o ∈ (Lc.lookupsAfter sc (final sc) ns).fields k i → (Lc.lookupsAfter sc (final sc) ns).l1 o.name = some o :=
  (Lc.lookupsAfter_inv sc wf ns _ (inv_run sc wf _) hall).1.done hd

/-! ### the REGENERATED dependents bookkeeping (meta.go: dependOn, GetDependents)

    The stale-version check of doCreateComponent reads `GetDependents()`: under the interpretation Ioc.SemMeta a holder is
    recorded ONCE PER ID in the definition's OWN set (state of the receiver: nothing outside the definition is consulted), in
    the order of first recording, and `GetDependents` answers with the names of exactly the recorded holders. -/
section dependents
open Ioc.Go Ioc.Sem

theorem C03_code_dependOn (idOf nameOf : Nat → String) (isComp : Nat → Bool) (d : Nat) (w : MW) :
    run (metaPrims idOf nameOf isComp) Progs.meta_dependOn [.ref d 0] w =
      some (.tuple [], if w.depSet.contains (idOf d) then w
                       else { w with dependent := w.dependent ++ [d], depSet := w.depSet ++ [idOf d] }) :=
  metaDependOn_sem idOf nameOf isComp d w

theorem C03_code_GetDependents (idOf nameOf : Nat → String) (isComp : Nat → Bool) (w : MW) :
    run (metaPrims idOf nameOf isComp) Progs.meta_GetDependents [] w = some (encStrs (w.dependent.map nameOf), w) :=
  metaGetDependents_sem idOf nameOf isComp w

end dependents


/-! ### NewMeta, CreateProxy, genProxyComponent, REGENERATED (interpretation Ioc.SemPrepare) -/
section proxy
open Ioc.Go Ioc.Sem

/-- NewMeta: ONE new definition for the component, named by the naming helper, Raw = the component, no proxy link, its fields
    scanned once with a holder of this very definition -/
theorem C03_code_NewMeta (naming : Nat → String × String) (icept : Nat → Option String) (c : Nat) (w : NMW) :
    run (nmPrims naming icept) Progs.meta_NewMeta [.ref c 0] w =
      some (.ref w.metas.length 1, { w with metas := w.metas ++ [⟨c, (naming c).1, (naming c).2, none, true⟩] }) :=
  newMeta_sem naming icept c w

/-- CreateProxy: ONE new definition for the substituted component, carrying the name it is GIVEN (the name under which the
    origin is registered — not the new component's own), and `ProxyMeta` = the origin: the version chain; interceptors run in
    order on it, the first error ends the call with no definition.  genProxyComponent is this without interceptors -/
theorem C03_code_CreateProxy (naming : Nat → String × String) (icept : Nat → Option String) (o c : Nat) (n : String)
    (ks : List Nat) (w : NMW) :
    run (cpPrims naming icept) Progs.meta_CreateProxy [.ref o 1, .str n, .ref c 0, .list (ks.map (fun k => Val.ref k 140))] w =
      some (match (icRun icept ks).2 with
            | none => .tuple [.ref w.metas.length 1, .nil]
            | some e => .tuple [.nil, .str e],
            { metas := w.metas ++ [⟨c, n, (naming c).2, some o, true⟩],
              intercepted := w.intercepted ++ (icRun icept ks).1 }) ∧
    run (cpPrims naming icept) Progs.factory_genProxyComponent [.ref o 1, .str n, .ref c 0] w =
      some (.tuple [.ref w.metas.length 1, .nil], { w with metas := w.metas ++ [⟨c, n, (naming c).2, some o, true⟩] }) :=
  ⟨createProxy_sem naming icept o c n ks w, genProxy_sem naming icept o c n w⟩

end proxy

end Ioc.C03
