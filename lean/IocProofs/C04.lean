/-
  C04 — Singleton cache protocol: one early reference, final publication, clean failure.
  PROPERTY THEOREMS ONLY (lemmas live in IocProofs/Lemmas/Registry.lean, M2RefinesM1.lean).

  Model: Ioc.Registry (M1) — container/support/singleton_component_registry.go driven the way
  factory.go:140-162 / :190-198 drive it.  A history "a factory can issue" is a list of operation trees
  (`Act`): plain lookups (GetSingleton, early references allowed or not, the early-reference factory
  succeeding or failing) and doGetComponent (= lookup, then GetSingletonOrCreateByFactory whose factory
  closure registers the early-reference factory, runs a body of further operations, and succeeds or fails).
  Every theorem below is for ALL registries satisfying the invariant, ALL names, ALL trees (every depth):
  the proofs are mutual structural recursions over `Act` / `List Act`.

  `exec r a` = (registry afterwards, trace).  Trace events: `.begin n` (the body of a creation of n is
  entered) and `.ret n result inCreationAfterwards ranEarlyFactory` (a call on n returned).
-/
import IocProofs.Lemmas.Registry
import IocProofs.Lemmas.RegistryRest
import IocProofs.Lemmas.M2RefinesM1
import Ioc.RegistrySkel
import Ioc.Generated.Facts
import IocProofs.Lemmas.SemRegistry
import IocProofs.Lemmas.SemFactory
import IocProofs.Lemmas.SemCreate
import IocProofs.Lemmas.M2StepFault
namespace Ioc.C04
open Ioc Ioc.Reg

/-- Facts obligation: the call skeleton regenerated from singleton_component_registry.go on this run is the
    one the model was written against (dropping RemoveSingleton from the failure path, reordering or dropping
    a Delete in AddSingleton, dropping the L3→L2 promotion in GetSingleton, … change the generated term). -/
theorem C04_registry_skeleton : Facts.registryOps = RegistrySkel.expectedRegistryOps := rfl

/-- The fresh registry satisfies the invariant. -/
theorem C04_inv_empty : Reg.empty.Inv := inv_empty

/-- The invariant (l1 ∩ inCr = ∅, l2 ∪ l3 ⊆ inCr, l2 ∩ l3 = ∅, no duplicates) is preserved by every
    operation tree and every list of operation trees. -/
theorem C04_inv (r : Reg) (h : r.Inv) (as : List Act) : (execs r as).1.Inv ∧ ∀ a, (exec r a).1.Inv :=
  ⟨execs_inv r h as, exec_inv r h⟩

/-- doGetComponent whose first lookup answers (a published or early object, or an error of the early factory)
    is exactly that lookup: no creation is started, no body runs. -/
theorem C04_answered (r : Reg) (n : Name) (early : Except Err Obj) (body : List Act) (res : Except Err Obj)
    (h : (r.get n true early).1 ≠ .ok none) :
    exec r (.getOrCreate n early body res) = exec r (.lookup n true early) := by
  rw [exec_answered r n early body res h, exec_lookup]

/-- One early reference.  Inside one creation of `n` (the trace `evs` of its body, nested creations of other
    names included, at every depth):
    all objects returned for `n` are one and the same; the early-reference factory produced an object at most
    once; no second creation of `n` starts; `n` is reported as in creation after every call on it; and as soon
    as some call has returned an object `o` for `n`, every later call on `n` returns `o` without running the
    factory again. -/
theorem C04_early_once (r : Reg) (hi : r.Inv) (n : Name) (early : Except Err Obj) (body : List Act)
    (res : Except Err Obj) (hmiss : (r.get n true early).1 = .ok none) :
    ∃ evs last, (exec r (.getOrCreate n early body res)).2 = .begin n :: evs ++ [last] ∧
      evs = (execs (r.startCreate n) body).2 ∧
      (∀ a ∈ objsOf n evs, ∀ b ∈ objsOf n evs, a = b) ∧
      okRuns n evs ≤ 1 ∧
      (∀ ev ∈ evs, ev ≠ .begin n) ∧
      (∀ ev ∈ evs, ∀ m ret ic ran, ev = .ret m ret ic ran → m = n → ic = true) ∧
      (∀ pre post o, evs = pre ++ post → o ∈ objsOf n pre →
         ∀ ev ∈ post, ev.name = n → ev = .ret n (.obj o) true false) := by
  obtain ⟨_, h1, h2, _⟩ := get_miss r n true early hmiss
  have s := (execs_early _ (hi.startCreate n h2) n (.startCreate_self r n h1) body).1
  exact ⟨_, _, by rw [exec_create r n early body res hmiss], rfl, earlyRun_once n _ _ _ s⟩

/-- Final publication.  After a creation of `n` whose factory returned `o`: `o` is the published instance,
    `n` is not in creation, has no early reference and no early-reference factory; the call returned `o`. -/
theorem C04_published (r : Reg) (n : Name) (early : Except Err Obj) (body : List Act) (o : Obj)
    (hmiss : (r.get n true early).1 = .ok none) :
    let x := exec r (.getOrCreate n early body (.ok o))
    x.1.l1? n = some o ∧ n ∉ x.1.inCr ∧ n ∉ x.1.l3 ∧ x.1.l2? n = none ∧
    x.2.getLast? = some (.ret n (.obj o) false false) := by
  refine ⟨?_, ?_, ?_, ?_, exec_create_last r n early body (.ok o) hmiss⟩ <;>
    simp [exec_create r n early body (.ok o) hmiss]

/-- Stability.  Once `o` is published under `n`, in EVERY later history every lookup / doGetComponent of `n`
    returns `o`, reports `n` as not in creation and runs no early-reference factory; no body of a
    doGetComponent of `n` is run; and `o` stays published. -/
theorem C04_stable (r : Reg) (hi : r.Inv) (n : Name) (o : Obj) (h : r.l1? n = some o) (as : List Act) :
    (∀ ev ∈ (execs r as).2, ev.name = n → ev = .ret n (.obj o) false false) ∧
    .begin n ∉ (execs r as).2 ∧
    (execs r as).1.l1? n = some o := by
  refine ⟨execs_stable r hi n o h as, fun hb => ?_, execs_l1_mono r n o h as⟩
  cases execs_stable r hi n o h as _ hb rfl

/-- Publication and stability together: after a successful creation, every later history sees only `o`. -/
theorem C04_published_forever (r : Reg) (hi : r.Inv) (n : Name) (early : Except Err Obj) (body : List Act) (o : Obj)
    (hmiss : (r.get n true early).1 = .ok none) (as : List Act) :
    let r' := (exec r (.getOrCreate n early body (.ok o))).1
    (∀ ev ∈ (execs r' as).2, ev.name = n → ev = .ret n (.obj o) false false) ∧ .begin n ∉ (execs r' as).2 := by
  intro r'
  have h := C04_stable r' (exec_inv r hi _) n o (C04_published r n early body o hmiss).1 as
  exact ⟨h.1, h.2.1⟩

/-- Clean failure.  After a creation of `n` whose factory failed: `n` is in none of the four containers and
    the call returned the error; a following lookup (early references allowed or not) returns nil and changes
    nothing; a following doGetComponent runs its body again. -/
theorem C04_clean_failure (r : Reg) (n : Name) (early : Except Err Obj) (body : List Act) (x : Err)
    (hmiss : (r.get n true early).1 = .ok none) :
    let y := exec r (.getOrCreate n early body (.error x))
    (y.1.l1? n = none ∧ y.1.l2? n = none ∧ n ∉ y.1.l3 ∧ n ∉ y.1.inCr) ∧
    y.2.getLast? = some (.ret n .err false false) ∧
    (∀ b e, exec y.1 (.lookup n b e) = (y.1, [.ret n .none false false])) ∧
    (∀ e body' res', (exec y.1 (.getOrCreate n e body' res')).2.head? = some (.begin n)) := by
  intro y
  have ha : Absent y.1 n := .of_failed r n early body x hmiss
  refine ⟨⟨ha.l1, ha.l2, ha.l3, ha.inCr⟩, exec_create_last r n early body (.error x) hmiss, ?_, ?_⟩
  · intro b e
    obtain ⟨hg, hev⟩ := lookupEv_absent y.1 n ha b e
    rw [exec_lookup, hev, hg]
  · intro e body' res'
    have hg := (lookupEv_absent y.1 n ha true e).1
    rw [exec_create y.1 n e body' res' (by rw [hg])]
    simp

/-- Clean failure, for every later history: after the failed creation, until a new creation of `n` begins,
    every call on `n` returns nil (never an object, in particular never the half-built one), reports `n` as not
    in creation and runs no early-reference factory; and if no creation of `n` begins at all, `n` is still in
    none of the four containers at the end. -/
theorem C04_clean_failure_forever (r : Reg) (n : Name) (early : Except Err Obj) (body : List Act) (x : Err)
    (hmiss : (r.get n true early).1 = .ok none) (as : List Act) :
    let y := (exec r (.getOrCreate n early body (.error x))).1
    absentRun n (execs y as).2 = true ∧
    (.begin n ∉ (execs y as).2 → Absent (execs y as).1 n) := by
  intro y
  obtain ⟨s, c⟩ := execs_absent y n (.of_failed r n early body x hmiss) as
  exact ⟨s, fun hb => c (Bool.eq_false_iff.2 fun h => hb ((hasBegin_iff n _).mp h))⟩

/-- What the RemoveSingleton call on the failure path buys: with the failure path as it was before the repair
    (`return nil, err` only), a creation of 1 that handed out its early reference and then failed leaves that
    half-built object in the early cache — a later lookup returns it and 1 is still reported as in creation —
    while the repaired path returns nil. -/
theorem C04_clean_failure_needs_remove :
    let e : Obj := ⟨1, 7⟩
    let r2 := ((Reg.empty.startCreate 1).get 1 true (.ok e)).2
    let bad := r2.endCreateNoCleanup 1 (.error .fail)
    let good := r2.endCreate 1 (.error .fail)
    Ret.ofGet (bad.get 1 false (.error .fail)).1 = .obj e ∧ bad.isInCreation 1 = true ∧
    Ret.ofGet (good.get 1 false (.error .fail)).1 = .none ∧ good.isInCreation 1 = false := by
  decide +kernel

/-! ### the factory machine uses this protocol (refinement M2 → M1)

  The factory machine Ioc.Container (M2, the model behind C01–C03, C05, C09) inlines its cache moves.  They are the
  operations of this registry model, in the pattern of doGetComponent: `M2.Rf.Abs st r` — the registry `r` has the same
  l1 / l2 (objects translated by `toM1`), `n ∈ r.l3 ↔ st.l3 n`, `n ∈ r.inCr ↔ n is on the creation stack`.
  `M2.Rf.Proto r` — `r` is reachable from `Reg.empty` by `get n true _`, `startCreate n` after a `get` that returned nil,
  and `endCreate n res` for an `n` in creation. -/

/-- Every reachable state of the factory machine — any scenario, any number of steps, failed or not — has a registry
    abstraction produced by protocol operations only; in particular it satisfies the registry invariant `Reg.Inv`. -/
theorem C04_machine_uses_protocol (sc : M2.Scen) (k : Nat) :
    ∃ r : Reg, M2.Rf.Abs (M2.run sc k (M2.init sc)) r ∧ M2.Rf.Proto r ∧ r.Inv := by
  obtain ⟨r, ha, hp⟩ := M2.Rf.run_refines sc k
  exact ⟨r, ha, hp, hp.inv⟩

/-- `M2.lookup` is `GetSingleton(c, true)`: same answer (object / nil / error), and the states stay related. -/
theorem C04_machine_lookup (sc : M2.Scen) (st : M2.St) (r : Reg) (c : Nat) (h : M2.Rf.Abs st r) :
    (∀ o st', M2.lookup sc st c = .hit o st' →
      (r.get c true (M2.Rf.earlyOf sc c)).1 = .ok (some (M2.Rf.toM1 o)) ∧
      M2.Rf.Abs st' (r.get c true (M2.Rf.earlyOf sc c)).2) ∧
    (M2.lookup sc st c = .miss → r.get c true (M2.Rf.earlyOf sc c) = (.ok none, r)) ∧
    (∀ st', M2.lookup sc st c = .err st' →
      r.get c true (M2.Rf.earlyOf sc c) = (.error .fail, r) ∧ M2.Rf.Abs st' r) :=
  M2.Rf.lookup_refines sc st r c h

/-- the cache part of `M2.enter` (push a frame, register the early-reference factory) is `startCreate` =
    `beginCreate` + `addFactory`; `M2.publish` is `endCreate (ok pub)`; `M2.failAt` is `endCreate (error)` for every
    creation in progress, innermost first -/
theorem C04_machine_moves (st : M2.St) (r : Reg) (h : M2.Rf.Abs st r) :
    (∀ c, st.l1 c = none → M2.Rf.Abs (M2.Lc.push st c) (r.startCreate c)) ∧
    (∀ f rest pub, st.stack = f :: rest → (M2.Lc.snames st).Nodup →
      M2.Rf.Abs (M2.publish st f.name pub rest) (r.endCreate f.name (.ok (M2.Rf.toM1 pub)))) ∧
    (∀ x, (∀ n ∈ M2.Lc.snames st, st.l1 n = none) →
      M2.Rf.Abs (M2.failAt st x) ((M2.Lc.snames st).foldl (fun r m => r.endCreate m (.error .fail)) r)) :=
  ⟨fun c h1 => M2.Rf.push_refines st r c h h1,
   fun f rest pub hs hnd => M2.Rf.publish_refines st r f rest pub h hs hnd,
   fun x hoff => M2.Rf.failAt_refines st r x h hoff⟩

/-- the hypothesis `Abs st r` is satisfiable: the initial machine state and the empty registry -/
example (sc : M2.Scen) : M2.Rf.Abs (M2.init sc) Reg.empty := M2.Rf.abs_init sc

/-! ### non-vacuity: concrete, non-trivial histories -/

/-- create 1 { lookup 1; lookup 1; create 2 { lookup 1 } ok } fails ; lookup 1 -/
def demo : List Act :=
  [.getOrCreate 1 (.ok ⟨1, 5⟩)
     [.lookup 1 true (.ok ⟨1, 5⟩), .lookup 1 true (.ok ⟨1, 9⟩),
      .getOrCreate 2 (.error .fail) [.lookup 1 true (.error .fail)] (.ok ⟨2, 0⟩)]
     (.error .fail),
   .lookup 1 true (.error .fail)]

-- one early object seen three times (the factory ran once), 2 published, then `err`, then `nil`
example : (execs Reg.empty demo).2 =
    [.begin 1, .ret 1 (.obj ⟨1, 5⟩) true true, .ret 1 (.obj ⟨1, 5⟩) true false,
     .begin 2, .ret 1 (.obj ⟨1, 5⟩) true false, .ret 2 (.obj ⟨2, 0⟩) false false,
     .ret 1 .err false false, .ret 1 .none false false] := by decide +kernel
example : (execs Reg.empty demo).1 = { l1 := [(2, ⟨2, 0⟩)] } := by decide +kernel
-- the hypothesis of C04_early_once / C04_published / C04_clean_failure holds on the fresh registry
example : (Reg.empty.get 1 true (.ok ⟨1, 5⟩)).1 = .ok none := rfl
-- … and inside the body the automaton really sees objects and one run
example : objsOf 1 (execs (Reg.empty.startCreate 1) [.lookup 1 false (.ok ⟨1, 5⟩), .lookup 1 true (.error .fail),
    .lookup 1 true (.ok ⟨1, 5⟩), .getOrCreate 1 (.ok ⟨1, 6⟩) [] (.ok ⟨1, 7⟩), .lookup 1 false (.ok ⟨1, 8⟩)]).2
    = [⟨1, 5⟩, ⟨1, 5⟩, ⟨1, 5⟩] := by decide +kernel
-- a failed creation followed by a second attempt that succeeds: the body runs again, then 1 is stable
example : (execs Reg.empty [.getOrCreate 1 (.ok ⟨1, 0⟩) [] (.error .fail), .getOrCreate 1 (.ok ⟨1, 1⟩) [] (.ok ⟨1, 2⟩),
    .getOrCreate 1 (.ok ⟨1, 3⟩) [.lookup 2 true (.ok ⟨2, 0⟩)] (.ok ⟨1, 4⟩)]).2 =
    [.begin 1, .ret 1 .err false false, .begin 1, .ret 1 (.obj ⟨1, 2⟩) false false, .ret 1 (.obj ⟨1, 2⟩) false false] := by decide +kernel
-- the hypothesis of C04_stable is reachable
example : (execs Reg.empty [.getOrCreate 1 (.ok ⟨1, 0⟩) [] (.ok ⟨1, 2⟩)]).1.l1? 1 = some ⟨1, 2⟩ := by decide +kernel

/-! ### the tie to the code: the registry model IS the regenerated program

`Ioc.Progs.reg_*` are the syntax trees of the six methods of container/support/singleton_component_registry.go,
re-translated from /repo's source on every run (harness/cmd/facts/prog.go) into the MiniGo deep embedding (Ioc.GoSem).
Run by the MiniGo interpreter with the sync2.Map / ConcurrentSets calls read as map and set operations on the three
levels (Ioc.SemRegistry), each of them computes exactly the model function all theorems above are about — for EVERY
registry, name, and behaviour of the factories.  (`C04_registry_skeleton` compares call skeletons only; these compare
behaviour, including which value is tested, stored and returned.) -/

theorem C04_code_AddSingletonFactory (early : Except Err Obj) (body : Sem.Body) (r : Reg) (n m : Nat) :
    Go.run (Sem.regPrims early body) Progs.reg_AddSingletonFactory [.int n, .ref m 0] r = some (.tuple [], r.addFactory n) :=
  Sem.addSingletonFactory_sem early body r n m

theorem C04_code_RemoveSingleton (early : Except Err Obj) (body : Sem.Body) (r : Reg) (n : Nat) :
    Go.run (Sem.regPrims early body) Progs.reg_RemoveSingleton [.int n] r = some (.tuple [], r.remove n) :=
  Sem.removeSingleton_sem early body r n

theorem C04_code_AddSingleton (early : Except Err Obj) (body : Sem.Body) (r : Reg) (n : Nat) (o : Obj) :
    Go.run (Sem.regPrims early body) Progs.reg_AddSingleton [.int n, Sem.encObj o] r = some (.tuple [], r.addSingleton n o) :=
  Sem.addSingleton_sem early body r n o

theorem C04_code_IsSingletonCurrentlyInCreation (early : Except Err Obj) (body : Sem.Body) (r : Reg) (n : Nat) :
    Go.run (Sem.regPrims early body) Progs.reg_IsSingletonCurrentlyInCreation [.int n] r = some (.bool (r.isInCreation n), r) :=
  Sem.isInCreation_sem early body r n

/-- GetSingleton(name, allowEarly) = `Reg.get`: level 1, else level 2, else (when allowed) run the level-3 factory once,
    move its result to level 2 and drop the factory; an error of the factory stores nothing -/
theorem C04_code_GetSingleton (early : Except Err Obj) (body : Sem.Body) (r : Reg) (n : Nat) (b : Bool) :
    Go.run (Sem.regPrims early body) Progs.reg_GetSingleton [.int n, .bool b] r
      = some (Sem.encGet (r.get n b early).1, (r.get n b early).2) :=
  Sem.getSingleton_sem early body r n b

/-- GetSingletonOrCreateByFactory(name, factory) = `beginCreate`, the factory's effect, `endCreate` (publication on
    success, RemoveSingleton on failure) -/
theorem C04_code_GetSingletonOrCreateByFactory (early : Except Err Obj) (body : Sem.Body) (r : Reg) (n : Nat) :
    Go.run (Sem.regPrims early body) Progs.reg_GetSingletonOrCreateByFactory [.int n, .ref n 1] r
      = some (match (r.beginCreate n).1 with
              | some o => (.tuple [Sem.encObj o, .nil], r)
              | none =>
                let x := body (r.beginCreate n).2
                (Sem.encRes x.1, x.2.endCreate n x.1)) :=
  Sem.getSingletonOrCreate_sem early body r n

/-- non-vacuity: the regenerated GetSingleton promotes an early reference from level 3 to level 2 -/
example : Go.run (Sem.regPrims (.ok ⟨1, 5⟩) (fun r => (.error .fail, r))) Progs.reg_GetSingleton [.int 1, .bool true]
    ({ l3 := [1] } : Reg) = some (.tuple [.ref 1 5, .nil], { l2 := [(1, ⟨1, 5⟩)] }) :=
  (Sem.getSingleton_sem (.ok ⟨1, 5⟩) (fun r => (.error .fail, r)) { l3 := [1] } 1 true).trans (by rfl)

/-- doGetComponent (container/factory/factory.go:140-162), regenerated, over the model registry: the lookup with early
    references allowed; an object or an error ends it; otherwise GetSingletonOrCreateByFactory runs the creation between
    `beginCreate` and `endCreate` -/
theorem C04_code_doGetComponent (early : Except Err Obj) (create : Sem.Body) (r : Reg) (n : Nat) :
    Go.run (Sem.facPrims early create) Progs.fac_doGetComponent [.int n] r = some (Sem.doGet r n early create) :=
  Sem.doGetComponent_sem early create r n

/-- … and that is exactly one operation `Act.getOrCreate` of the protocol model: the registry after the regenerated
    doGetComponent — whose creation registers the early-reference factory when the name is in creation and then issues the
    operations `body` — is the registry after `exec`.  So every theorem above about operation trees is a theorem about
    what these regenerated functions do to the three cache levels. -/
theorem C04_exec_is_code (r : Reg) (n : Nat) (early : Except Err Obj) (body : List Act) (res : Except Err Obj) :
    ∃ out, Go.run (Sem.facPrims early (Sem.createOf n body res)) Progs.fac_doGetComponent [.int n] r = some out ∧
      out.2 = (exec r (.getOrCreate n early body res)).1 :=
  ⟨_, Sem.doGetComponent_sem early _ r n, Sem.doGet_is_exec r n early body res⟩

/-- the assumption under which M1 drives the registry ("the factory closure registers the early-reference factory first
    thing, iff the name is in creation", `Reg.startCreate`), proved about the regenerated doCreateComponent: its first
    effectful call is AddSingletonFactory exactly when the component is a singleton, circular references are allowed
    and IsSingletonCurrentlyInCreation(name) — whatever its collaborators do.  (A seeded change that made early exposure
    depend on the component having injection points broke this and started a second creation inside the first.) -/
theorem C04_code_startCreate (d : Sem.DCC) (hc : Sem.dccConsistent d) :
    ∃ out t, Go.run (Sem.dccPrims d) Progs.fac_doCreateComponent [.int d.n, .ref d.n 0] [] = some (out, t) ∧
      (t.head? = some "addFactory" ↔ (d.singleton && d.allow && d.inCrOf d.n) = true) := by
  obtain ⟨rest, hr⟩ := Sem.createDecision_calls d
  refine ⟨_, _, Sem.doCreateComponent_sem d hc, ?_⟩
  rw [hr]
  cases d.singleton && d.allow && d.inCrOf d.n <;> simp

/-! ### clean failure at every nesting depth (the registry at rest)

  `C04_clean_failure` speaks about the name whose creation failed.  An error usually passes through SEVERAL creations
  (the innermost one fails — e.g. a name without definition was asked for — and every enclosing creation fails with that
  error).  The statement for all of them at once: whenever no creation is running, levels 2 and 3 are EMPTY. -/

/-- Every history that starts at rest (no creation running; e.g. the fresh registry) ends at rest, and then there is no
    early reference and no early-reference factory in the registry at all — of no name, whatever failed inside the history,
    at whatever depth, through however many enclosing creations the error passed.  Hence every lookup afterwards (early
    references allowed or not) answers from the published instances alone — an object only if its creation completed —,
    changes nothing and runs no factory: a half-built instance is never returned as if it had been created. -/
theorem C04_rest_clean (r : Reg) (hi : r.Inv) (h0 : ∀ k, k ∉ r.inCr) (as : List Act) :
    let r' := (execs r as).1
    (∀ k, k ∉ r'.inCr) ∧ (∀ n, r'.l2? n = none ∧ n ∉ r'.l3) ∧
    (∀ n b e, r'.get n b e = (.ok (r'.l1? n), r') ∧ r'.runsEarly n b = false) := by
  intro r'
  obtain ⟨hc, hl⟩ := execs_rest r hi h0 as
  exact ⟨hc, hl, fun n b e => (execs_inv r hi as).rest_get hc n b e⟩

/-- … in particular for every history on the fresh registry (what a factory issues between two calls of its public API). -/
theorem C04_rest_clean_fresh (as : List Act) :
    let r' := (execs Reg.empty as).1
    (∀ k, k ∉ r'.inCr) ∧ (∀ n, r'.l2? n = none ∧ n ∉ r'.l3) ∧
    (∀ n b e, r'.get n b e = (.ok (r'.l1? n), r') ∧ r'.runsEarly n b = false) :=
  C04_rest_clean Reg.empty inv_empty (by simp) as

/-- The marks after an operation tree are among the marks before it: every creation drops its own mark on both exits. -/
theorem C04_marks_dropped (r : Reg) (k : Name) (as : List Act) (h : k ∈ (execs r as).1.inCr) : k ∈ r.inCr :=
  execs_inCr_sub r k as h

/-- What dropping ONLY the mark on the failure path would do to an enclosing creation (a seeded change did this whenever
    the error's cause chain contained "unknown name", which is true of every creation the error passes through): the
    early-reference factory of 1 stays in level 3 while 1 is no longer in creation, and the next lookup runs it and returns
    the half-built object; the real failure path (`endCreate` = RemoveSingleton) answers nil. -/
theorem C04_clean_failure_needs_remove_nested :
    let body := (exec (Reg.empty.startCreate 1) (.getOrCreate 2 (.error .fail) [] (.error .fail))).1
    let bad : Reg := { body with inCr := sdel 1 body.inCr }
    let good := body.endCreate 1 (.error .fail)
    Ret.ofGet (bad.get 1 true (.ok ⟨1, 7⟩)).1 = .obj ⟨1, 7⟩ ∧ bad.isInCreation 1 = false ∧
    Ret.ofGet (good.get 1 true (.ok ⟨1, 7⟩)).1 = .none ∧ good = Reg.empty := by
  decide +kernel

/-- non-vacuity: the failure chain of an unknown name through three enclosing creations (one of which had handed out its
    early reference), then lookups of all of them: nil, and the registry is the fresh one -/
example : (execs Reg.empty [.getOrCreate 1 (.error .fail) [.getOrCreate 2 (.error .fail)
              [.lookup 1 true (.ok ⟨1, 0⟩), failChain .fail 3 [4]] (.error .fail)] (.error .fail),
            .lookup 1 true (.ok ⟨1, 0⟩), .lookup 2 true (.ok ⟨2, 0⟩), .lookup 3 false (.error .fail)]) =
    (Reg.empty, [.begin 1, .begin 2, .ret 1 (.obj ⟨1, 0⟩) true true, .begin 3, .begin 4, .ret 4 .err false false,
      .ret 3 .err false false, .ret 2 .err false false, .ret 1 .err false false,
      .ret 1 .none false false, .ret 2 .none false false, .ret 3 .none false false]) := by decide +kernel

/-- the last clause of C04 on the factory machine: after a FAILED run, a lookup of a name that is not published
    (`M2.lookupAfter`: the state as the failed run left it, creation resumed for that name) is answered by NOTHING of the
    failed attempt — no early reference (l2) and no early-reference factory (l3) is left (`C09_failed_final`) — so the first
    step is a fresh `enter`: it re-attempts creation (and then reports an error or publishes a completed instance) -/
theorem C04_machine_retry_recreates (sc sc' : M2.Scen) (k x : Nat) (s : M2.Stage) (n : Nat)
    (h : (M2.run sc k (M2.init sc)).status = .failed x s) (hl : (M2.run sc k (M2.init sc)).l1 n = none) :
    M2.step sc' { (M2.run sc k (M2.init sc)) with status := .running, todo := [n], todoBoot := [], stage := .refresh } =
      M2.enter sc' { (M2.run sc k (M2.init sc)) with status := .running, todo := [], todoBoot := [], stage := .refresh } n := by
  obtain ⟨_, hst, hc⟩ := M2.Lc.failed_final sc k x s h
  simp [M2.step, hst, M2.lookup, hl, hc n]

end Ioc.C04
