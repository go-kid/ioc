/-
  C05 — Lifecycle: populate, then initialise exactly once, dependencies first.
  PROPERTY THEOREMS ONLY (lemmas: IocProofs/Lemmas/M2Step.lean, M2StepInv.lean, M2Log.lean, M2LogFields.lean,
  M2LogReach.lean, M2LogDeps.lean, M2LogEarly.lean).

  Model: the factory machine Ioc.Container (factory.go; InitializeComponent =
  post_processor_registration_delegate.go:96-136).  `log` is the event log (newest first) written by the observing
  post-processor / the component's own AfterPropertiesSet and Init: `new n` (instantiated), `conf n` (configuration
  values and properties callbacks done; the injection points are filled after it), `before n`, `aps n`, `init n`,
  `after n` (the four initialization callbacks), `early n` (GetEarlyBeanReference ran).
  Every theorem is for ALL scenarios `sc` (every dependency graph incl. cycles, candidate order, post-processor
  behaviour, fault placement) and EVERY step count `k`: invariants of `step`, lifted over `run` by induction.

  Vocabulary (lemma files, namespace Ioc.M2.Lc): see C05_vocabulary below.
-/
import IocProofs.Lemmas.M2LogDeps
import Ioc.FactorySkel
import Ioc.Generated.Facts
import IocProofs.Lemmas.M2LogEarly
import IocProofs.Lemmas.M2Examples
import IocProofs.Lemmas.SemFactory2
import IocProofs.Lemmas.SemPopulate
import IocProofs.Lemmas.SemInit
import IocProofs.Lemmas.SemMisc
namespace Ioc.C05
open Ioc Ioc.M2 Ioc.M2.Lc

/-- The vocabulary of the statements, spelled out:
    the component an event belongs to; the lifecycle in the order it has to occur; `Needs sc b c` = c is a candidate of
    an injection point of b that the factory iterates; `Reaches` = its reflexive-transitive closure. -/
theorem C05_vocabulary (sc : Scen) (n b c : Nat) :
    (evName (.new n) = n ∧ evName (.conf n) = n ∧ evName (.before n) = n ∧ evName (.aps n) = n ∧
      evName (.init n) = n ∧ evName (.after n) = n ∧ evName (.early n) = n) ∧
    lifecycle n = [.new n, .conf n, .before n, .aps n, .init n, .after n] ∧
    (Needs sc b c ↔ ∃ pt ∈ pts sc b, c ∈ pt.cands) ∧
    (Reaches sc b c ↔ b = c ∨ ∃ m, Reaches sc b m ∧ Needs sc m c) := by
  refine ⟨⟨rfl, rfl, rfl, rfl, rfl, rfl, rfl⟩, rfl, Iff.rfl, ?_⟩
  constructor
  · intro h
    cases h with
    | refl => exact Or.inl rfl
    | tail h1 h2 => exact Or.inr ⟨_, h1, h2⟩
  · rintro (rfl | ⟨m, h1, h2⟩)
    · exact Reaches.refl _
    · exact Reaches.tail h1 h2

/-- Exactly once, in order.  At every step count, for every published (= created) component whose events are observed
    and whose post-processors are wired: its lifecycle events occur in the log exactly once each and in the order
    new, conf (→ population), before-init, AfterPropertiesSet, Init, after-init. -/
theorem C05_once_in_order (sc : Scen) (k : Nat) (n : Nat) (hp : (run sc k (init sc)).l1 n ≠ none)
    (hl : sc.logged n = true) (hw : sc.wired n = true) :
    (run sc k (init sc)).log.reverse.filter (fun e => decide (evName e = n ∧ e ≠ Ev.early n)) = lifecycle n := by
  rw [once_in_order sc k n hp hl, hw]; rfl

/-- Finding D8 (the statement above without `wired n` is false): a component created while the instantiation-aware
    processors are not yet active (a post-processor created in the boot phase) gets AfterPropertiesSet and Init —
    exactly once each, in this order — and nothing else: no configuration, no injection, no before/after callbacks. -/
theorem C05_once_in_order_unwired (sc : Scen) (k : Nat) (n : Nat) (hp : (run sc k (init sc)).l1 n ≠ none)
    (hl : sc.logged n = true) (hw : sc.wired n = false) :
    (run sc k (init sc)).log.reverse.filter (fun e => decide (evName e = n ∧ e ≠ Ev.early n)) = [.aps n, .init n] := by
  rw [once_in_order sc k n hp hl, hw]; rfl

/-- The other two states of a component, while the start has not failed: in creation — exactly [new, conf] so far
    (no initialization callback yet); never entered — no event at all. -/
theorem C05_log_states (sc : Scen) (k : Nat) (n : Nat) (hl : sc.logged n = true)
    (hnf : ∀ x s, (run sc k (init sc)).status ≠ .failed x s) (hnp : (run sc k (init sc)).l1 n = none) :
    (n ∈ (run sc k (init sc)).stack.map (·.name) →
      (run sc k (init sc)).log.reverse.filter (fun e => decide (evName e = n ∧ e ≠ Ev.early n)) =
        if sc.wired n then [.new n, .conf n] else []) ∧
    (n ∉ (run sc k (init sc)).stack.map (·.name) →
      (run sc k (init sc)).log.filter (fun e => decide (evName e = n ∧ e ≠ Ev.early n)) = []) := by
  have nf : ¬ Failed (run sc k (init sc)) := fun ⟨x, s, hx⟩ => hnf x s hx
  exact ⟨in_creation_log sc k n hl nf, (logInv_run sc k).off nf n hl hnp⟩

/-- The early reference (circular dependencies): ALL events of a published wired component, oldest first, are its
    lifecycle with at most one `early` event, and that one sits between `conf` and `before-init` — the early reference
    is handed out at most once and only while the component is being populated. -/
theorem C05_early_once (sc : Scen) (k : Nat) (n : Nat) (hp : (run sc k (init sc)).l1 n ≠ none)
    (hl : sc.logged n = true) (hw : sc.wired n = true) :
    (run sc k (init sc)).log.reverse.filter (fun e => decide (evName e = n)) =
        [.new n, .conf n, .before n, .aps n, .init n, .after n] ∨
    (run sc k (init sc)).log.reverse.filter (fun e => decide (evName e = n)) =
        [.new n, .conf n, .early n, .before n, .aps n, .init n, .after n] :=
  early_once sc k n hp hl hw

/-- Populate before initialise.  The step that logs the first initialization callback of n (or any of the four) is
    the finishing step of n's own frame, and that frame has gone through ALL injection points of n
    (p = number of points); the step itself writes no field. -/
theorem C05_populated_before_init (sc : Scen) (k : Nat) (n : Nat) (e : Ev)
    (he : e = .before n ∨ e = .aps n ∨ e = .init n ∨ e = .after n)
    (hnew : e ∈ (run sc (k + 1) (init sc)).log) (hold : e ∉ (run sc k (init sc)).log) :
    ∃ f rest, (run sc k (init sc)).stack = f :: rest ∧ f.name = n ∧ f.p = (pts sc n).length ∧
      (run sc (k + 1) (init sc)).fields = (run sc k (init sc)).fields := by
  rw [run_succ] at hnew ⊢
  have hr : (run sc k (init sc)).status = .running :=
    Classical.byContradiction fun hr => hold (step_not_running sc _ hr ▸ hnew)
  exact callback_logged sc _ (frameInv_run sc k) hr n e he hnew hold

/-- A field of h is written only by the frame of h itself, at the point that frame is working on. -/
theorem C05_field_writer (sc : Scen) (st : St) (hr : st.status = .running) (h i : Nat)
    (hne : (step sc st).fields h i ≠ st.fields h i) :
    ∃ f rest, st.stack = f :: rest ∧ f.name = h ∧ f.p = i ∧ i < (pts sc h).length :=
  field_writer_rel sc st _ (step_rel sc st hr) h i hne

/-- Once published, a component is never entered again: its cache entry and all its fields stay as they are at every
    later step count — nothing is injected after initialization. -/
theorem C05_published_frozen (sc : Scen) (k m : Nat) (n : Nat) (hp : (run sc k (init sc)).l1 n ≠ none) :
    (run sc (k + m) (init sc)).l1 n = (run sc k (init sc)).l1 n ∧
    (run sc (k + m) (init sc)).fields n = (run sc k (init sc)).fields n :=
  published_frozen sc k m n hp

/-- LazyInit: whatever is ever entered (in creation or published) or has any event in the log — in particular
    whatever gets its Init called — is a boot / eager component or is (transitively) a candidate of an injection
    point of one.  A component outside boot ++ eager is initialised only if an eagerly created component needs it;
    by C05_once_in_order then exactly once. -/
theorem C05_lazy_only_if_needed (sc : Scen) (k : Nat) (n : Nat) :
    ((n ∈ (run sc k (init sc)).stack.map (·.name) ∨ (run sc k (init sc)).l1 n ≠ none) →
      ∃ r ∈ sc.boot ++ sc.eager, Reaches sc r n) ∧
    (∀ e ∈ (run sc k (init sc)).log, evName e = n → ∃ r ∈ sc.boot ++ sc.eager, Reaches sc r n) := by
  have h := reachInv_run sc k
  exact ⟨fun hn => h.ent n hn, fun e he hn => hn ▸ h.log e he⟩

/-- Dependencies first, local form.  In a running state whose top frame f has processed all its points (the next
    step runs f's initialization callbacks): every object held in a field of f belongs to another component that is
    either published or still in creation BELOW f on the stack; and every frame below f (transitively) depends on f
    — consecutive frames are joined by candidate edges. -/
theorem C05_deps_published_or_below (sc : Scen) (wf : WF sc) (k : Nat) (f : Frame) (rest : List Frame)
    (hr : (run sc k (init sc)).status = .running) (hs : (run sc k (init sc)).stack = f :: rest) :
    (∀ i, ∀ o ∈ (run sc k (init sc)).fields f.name i,
      o.name ≠ f.name ∧ ((run sc k (init sc)).l1 o.name ≠ none ∨ o.name ∈ rest.map (·.name))) ∧
    (∀ g ∈ rest, Reaches sc g.name f.name) := by
  obtain ⟨⟨_, hl⟩, hc⟩ := deps_run sc wf k
  rw [hs] at hc
  refine ⟨fun i o ho => ?_, chain_reaches hc⟩
  obtain ⟨he, hne⟩ := (hl (not_failed_of_running hr)).fld f.name i o ho
  exact ⟨hne, he.symm.imp_right fun he => by simpa [snames, hs, hne] using he⟩

/-- Dependencies first.  When the initialization callbacks of f run (top frame, all points processed), every
    dependency o injected into f that does not (transitively) depend back on f is already published, hence has
    completed its own initialization: its `after` event is in the log before the step, and the step appends
    `before f` (then AfterPropertiesSet, Init, …) on top of that log. -/
theorem C05_deps_first (sc : Scen) (wf : WF sc) (k : Nat) (f : Frame) (rest : List Frame)
    (hr : (run sc k (init sc)).status = .running) (hs : (run sc k (init sc)).stack = f :: rest)
    (hp : ¬ f.p < (pts sc f.name).length) (i : Nat) (o : Obj) (ho : o ∈ (run sc k (init sc)).fields f.name i)
    (hback : ¬ Reaches sc o.name f.name) :
    (run sc k (init sc)).l1 o.name ≠ none ∧
    (sc.logged o.name = true → sc.wired o.name = true → Ev.after o.name ∈ (run sc k (init sc)).log) ∧
    (sc.logged f.name = true → sc.wired f.name = true →
      ∃ l, (run sc (k + 1) (init sc)).log = l ++ Ev.before f.name :: (run sc k (init sc)).log) := by
  obtain ⟨hfld, hchain⟩ := C05_deps_published_or_below sc wf k f rest hr hs
  have hpub : (run sc k (init sc)).l1 o.name ≠ none := (hfld i o ho).2.resolve_right fun h => by
    obtain ⟨g, hg, hgn⟩ := List.mem_map.mp h
    exact hback (hgn ▸ hchain g hg)
  refine ⟨hpub, after_logged sc k o.name hpub, fun hlf hwf => ?_⟩
  obtain ⟨l, hl⟩ := cbEvs_before sc f.name hlf hwf
  exact ⟨l, by rw [run_succ, step_finish_log sc _ f rest hr hs hp, hl]; simp⟩

/-! ### non-vacuity -/

open Ioc.M2.Ex

theorem cyc_wf : WF cyc := ⟨fun _ => rfl, fun _ => rfl⟩

/-- the 3-cycle with a diamond tail: all six eager-or-needed components are published, the lazy 6 is not -/
example : (final cyc).status = .done ∧ (∀ n ∈ [0, 1, 2, 3, 4, 5], (final cyc).l1 n ≠ none) ∧
    (final cyc).l1 6 = none := by decide +kernel

/-- the lifecycle of 2 (member of the cycle) and of 5 (lazy, needed twice through the diamond: initialised once) -/
example : (final cyc).log.reverse.filter (fun e => decide (evName e = 2 ∧ e ≠ Ev.early 2)) = lifecycle 2 ∧
    (final cyc).log.reverse.filter (fun e => decide (evName e = 5 ∧ e ≠ Ev.early 5)) = lifecycle 5 ∧
    (final cyc).log.filter (fun e => decide (evName e = 6)) = [] := by decide +kernel

/-- 0 is the member of the cycle that is referenced early -/
example : (final cyc).log.reverse.filter (fun e => decide (evName e = 0)) =
    [.new 0, .conf 0, .early 0, .before 0, .aps 0, .init 0, .after 0] := by decide +kernel

/-- D8: a boot post-processor created before the dependency processors are active -/
example : let sc : Scen := { cyc with boot := [6], wired := fun n => n != 6 }
    (final sc).status = .done ∧
    (final sc).log.reverse.filter (fun e => decide (evName e = 6 ∧ e ≠ Ev.early 6)) = [.aps 6, .init 6] := by decide +kernel

/-- the hypotheses of C05_deps_first in a reachable state: after 16 steps the top frame is 2 with all three points
    processed; its fields hold 0 (early reference — 0 is below on the stack and depends on 2), 3 and 4 (published) -/
example : (run cyc 16 (init cyc)).status = .running ∧
    (run cyc 16 (init cyc)).stack.map (fun f => (f.name, f.p)) = [(2, 3), (1, 0), (0, 0)] ∧
    (pts cyc 2).length = 3 ∧
    (run cyc 16 (init cyc)).fields 2 0 = [raw 0] ∧ (run cyc 16 (init cyc)).fields 2 1 = [raw 3] ∧
    (run cyc 16 (init cyc)).l1 0 = none ∧ (run cyc 16 (init cyc)).l1 3 = some (raw 3) ∧
    Ev.after 3 ∈ (run cyc 16 (init cyc)).log ∧ Ev.before 2 ∉ (run cyc 16 (init cyc)).log ∧
    Ev.before 2 ∈ (run cyc 17 (init cyc)).log := by decide +kernel

/-- 3 does not depend back on 2 (it reaches only 3 and 5), 0 does -/
example : ¬ Reaches cyc 3 2 ∧ Reaches cyc 0 2 := by
  constructor
  · intro h
    have key := h.closed (P := fun x => x = 3 ∨ x = 5) (.inl rfl) fun b c hb ⟨p, hp, hc⟩ => by
      rcases hb with rfl | rfl
      · simp [pts, cyc, benign, cycPoints, pt] at hp; subst hp; simp at hc; exact Or.inr hc
      · simp [pts, cyc, benign, cycPoints] at hp
    rcases key with h | h <;> cases h
  · have h1 : Reaches cyc 0 1 :=
      Reaches.tail (Reaches.refl 0) ⟨pt [1], by simp [pts, cyc, benign, cycPoints], by simp [pt]⟩
    exact Reaches.tail h1 ⟨pt [2], by simp [pts, cyc, benign, cycPoints], by simp [pt]⟩


/-- regenerated fact: in doCreateComponent populateComponent precedes InitializeComponent, and populateComponent runs
    ResolveAfterInstantiation before any dependency is fetched and Inject after all candidates of a point were fetched -/
theorem C05_create_skeleton : Ioc.Facts.factorySkel = Ioc.expectedFactorySkel := rfl

/-! ### the tie to the code: createComponent (regenerated)

`Ioc.Progs.fac_createComponent` is the syntax tree of `defaultFactory.createComponent` (factory.go:164-188): an unknown name
is an error before anything runs; ResolveBeforeInstantiation runs first; only when it returns nothing does
doCreateComponent (early exposure, populate, initialize — C03_code_doCreateComponent) run, and its result is returned. -/
theorem C05_code_createComponent (d : Sem.CCC) :
    Go.run (Sem.cccPrims d) Progs.fac_createComponent [.int d.n] [] =
      some (Sem.encMeta d.n (Sem.createModel d).1, (Sem.createModel d).2) :=
  Sem.createComponent_sem d

/-! ### the tie to the code: populateComponent (regenerated)

`Ioc.Progs.fac_populateComponent` is the syntax tree of `defaultFactory.populateComponent` (factory.go:252-283).  For every
list of properties with their candidate lists and every behaviour of ResolveAfterInstantiation / doGetComponent / Inject it
makes exactly the calls of `Sem.populateModel`, in that order: every property node's `Injects` is reset to nil (so that a
creation retried after a failure discovers its candidates anew instead of adding to the ones the failed attempt left —
`d.stale`, which the result does not depend on), the instantiation-aware processors; then property by
property, in the order of GetComponentProperties, every candidate in the order of `Injects` through doGetComponent — the
first error ends everything — and only after ALL candidates of the property were obtained, `Inject` with exactly those
components in that order (a property without candidates is not injected at all).  This is the order in which the machine's
frame walks its points (`p`, `d`, `acc`), hence "every injection point is set before initialization" (C05_populated_before_init):
doCreateComponent calls InitializeComponent only after populateComponent returned nil (C03_code_doCreateComponent). -/
theorem C05_code_populateComponent (d : Sem.PC) :
    ∃ out, Go.run (Sem.pcPrims d) Progs.fac_populateComponent [.int d.n, .ref d.n 0] [] = some (out, (Sem.populateModel d).1) ∧
      out = (if (Sem.populateModel d).2 then .nil else Sem.errP) :=
  Sem.populateComponent_sem d

/-- non-vacuity: two properties with candidates [5,6] and [7]; doGetComponent(7) fails: both candidates of the first point
    are obtained and injected, then 7 is tried and the error returned — the second point is never injected -/
example : Sem.populateModel { n := 1, resolveOk := true, props := [[5, 6], [7]], getOk := (· != 7), injectOk := fun _ => true } =
    ([.reset 0, .reset 1, .resolve, .get 5, .get 6, .inject 0 [5, 6], .get 7], false) := by decide +kernel

/-- a retried creation is populated exactly like a first one: what an earlier, failed attempt left in the property nodes
    (the processors APPEND their discoveries to `Injects`) is neither obtained nor injected — for every leftover -/
theorem C05_code_populate_ignores_leftovers (d : Sem.PC) (leftover : Nat → List Nat) :
    ∃ out, Go.run (Sem.pcPrims { d with stale := leftover }) Progs.fac_populateComponent [.int d.n, .ref d.n 0] [] =
        some (out, (Sem.populateModel d).1) ∧ out = (if (Sem.populateModel d).2 then .nil else Sem.errP) := by
  have := Sem.populateComponent_sem { d with stale := leftover }
  rwa [Sem.populateModel_stale] at this

/-! ### the tie to the code: InitializeComponent and invokeInitMethods (regenerated)

`Ioc.Progs.del_InitializeComponent`, `del_invokeInitMethods`, `del_applyBefore`, `del_applyAfter` are the syntax trees of the
delegate's initialization path (container/factory/post_processor_registration_delegate.go:95-171).  For EVERY list of
post-processors, every behaviour of their callbacks (error / nil / another component) and every component (with or without
AfterPropertiesSet / Init, succeeding or failing) the regenerated InitializeComponent makes exactly the calls of
`Sem.initializeModel`, in that order: every before-initialization callback in list order (each fed the previous result),
then AfterPropertiesSet, then Init — each at most once, on the component the before-chain handed over —, then every
after-initialization callback in list order; the first error ends everything; a nil from a before-callback hands back the
original component without initializing it.  This is the order `C05_once_in_order` states for the machine's event log. -/

theorem C05_code_invokeInitMethods (procs : List Nat) (before after : Nat → Nat → Order.Res Nat) (im : Sem.InitM) (c : Nat)
    (w : List Sem.IEv) :
    Go.run (Sem.initBase procs before after im) Progs.del_invokeInitMethods [.str "n", Sem.encC c] w =
      some (if (Sem.initMethods im c).2 then Sem.errN else .nil, w ++ (Sem.initMethods im c).1) :=
  Sem.invokeInitMethods_sem procs before after im c w

theorem C05_code_InitializeComponent (procs : List Nat) (before after : Nat → Nat → Order.Res Nat) (im : Sem.InitM) (c : Nat) :
    Go.run (Sem.initFull procs before after im) Progs.del_InitializeComponent [.str "n", Sem.encC c] [] =
      some (Sem.encAfter (Sem.initializeModel procs before after im c).1, (Sem.initializeModel procs before after im c).2) :=
  Sem.initializeComponent_sem procs before after im c

/-- … and `Order.initializeComponent` (M4, what C12's invocation-order theorems are about) is that function -/
theorem C05_code_initialize_is_model (procs : List Nat) (before after : Nat → Nat → Order.Res Nat) (im : Sem.InitM) (c : Nat) :
    Order.initializeComponent before after (fun w => (Sem.initMethods im w).2) procs c =
      (match Sem.beforeLoop before procs c with
       | (lb, .err) => (lb, [], none)
       | (lb, .nil) => (lb, [], some c)
       | (lb, .val w1) =>
         if (Sem.initMethods im w1).2 then (lb, [], none)
         else (lb, (Sem.afterLoop after procs w1).1, (Sem.afterLoop after procs w1).2)) :=
  Sem.initializeModel_eq procs before after im c

/-- non-vacuity: two processors; the first wraps 7 into 8 before initialization; component 8 has both init methods -/
example : Sem.initializeModel [1, 2] (fun p c => if p == 1 then .val (c + 1) else .val c) (fun _ c => .val c)
    { hasAps := fun _ => true, apsOk := fun _ => true, hasInit := fun _ => true, initOk := fun _ => true } 7 =
    (some 8, [.before 1, .before 2, .aps 8, .init 8, .after 1, .after 2]) := by decide +kernel

/-- the short-circuit creation path, regenerated (delegate:178-211): ResolveBeforeInstantiation asks nobody without an
    InstantiationAware processor; otherwise the InstantiationAware processors' PostProcessBeforeInstantiation in list order
    until one fails or hands out a component, and a component handed out that way goes through the after-initialization
    chain ONLY (no population, no init callbacks: it is the processor's own object) -/
theorem C05_code_applyBeforeInstantiation (procs : List Nat) (isInst : Nat → Bool) (bi : Nat → Order.Res Nat) (w : List Nat) :
    Go.run (Sem.abiPrims procs isInst bi) Progs.del_applyBeforeInstantiation [.str "meta", .str "n"] w =
      some (Sem.encRes (Sem.abiLoop isInst bi procs).2, w ++ (Sem.abiLoop isInst bi procs).1) :=
  Sem.applyBeforeInstantiation_sem procs isInst bi w

theorem C05_code_ResolveBeforeInstantiation (hasInst : Bool) (bi : Order.Res Nat) (af : Nat → Option Nat) :
    Go.run (Sem.rbiPrims hasInst bi af) Progs.del_ResolveBeforeInstantiation [.str "meta", .str "n"] [] =
      some (Sem.encRes (Sem.rbiModel hasInst bi af).1, (Sem.rbiModel hasInst bi af).2) :=
  Sem.resolveBeforeInstantiation_sem hasInst bi af

example : Sem.abiLoop (fun p => p != 2) (fun p => if p == 3 then .val 8 else .nil) [1, 2, 3, 4] = ([1, 3], .val 8) := by rfl

end Ioc.C05
