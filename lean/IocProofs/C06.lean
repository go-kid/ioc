/-
  C06 — Type-directed injection is sound and complete.  PROPERTY THEOREMS ONLY (lemmas live in IocProofs/Lemmas/Match*.lean).

  Model: Ioc.Match (candidate discovery `candidatesWire` / `candidatesFunc`, `narrow`, `resolveOne`), composed with the
  tag grammar Ioc.Tag.  `pop` is the registry in an ARBITRARY enumeration order; `s` an injection point (holder, declared
  kind, wire/func, raw tag).  A point is "by type" (`ByType s v`) when it is a func point or its wire tag has an empty value
  part.  `found s v a0 p` is the discovery test: assignable to the declared (element) type, and for the func tag exposing
  the requested method; `qualOK a0 p` the qualifier rule (`true` when the tag has no qualifier argument).
  Ids are row indices of the registry: `(pop.map (·.id)).Nodup` is the identity of components.
-/
import IocProofs.Lemmas.MatchPoint
import IocProofs.Lemmas.MatchExamples
import IocProofs.Lemmas.M2IsCode
import IocProofs.Lemmas.SemMisc
import IocProofs.Lemmas.SemDiscover
import IocProofs.Lemmas.SemOptions
import IocProofs.Lemmas.SemDefReg
import IocProofs.Lemmas.SemPrepare
namespace Ioc.C06
open Ioc Ioc.Tag Ioc.Match

/-- what the factory's Inject keeps of a resolved point: everything except the holder itself -/
def injected (holder : Nat) (pt : RPoint) : List Nat := pt.cands.filter (· != holder)

/-- the discovery test spelled out: assignability is the exact pointer type for pointer fields and "implements" for
    interface fields (and for their slices); the func tag adds the method test -/
theorem C06_found_def (s : Slot) (fn : Bytes) (a0 : Args) (p : Prov) :
    found s fn a0 p =
      ((match s.kind with
        | .ptr t => p.ty == t
        | .slicePtr t => p.ty == t
        | .iface i => p.impl.testBit i
        | .sliceIface i => p.impl.testBit i
        | .other => false) &&
       (if s.isFunc then
          (match find a0 kReturns with
           | some rs => rs.any (fun r => funcNameAndResult fn r p)
           | none => funcName fn p)
        else true)) := by
  unfold found assignable typeOption methOK
  cases s.kind <;> rfl

theorem C06_qualOK_none (a0 : Args) (p : Prov) (h : find a0 kQualifier = none) : qualOK a0 p = true := by
  simp [qualOK, h]

/-- SOUND (wire tag, by type = empty value part): every candidate is a registered component assignable to the declared
    type; nothing is marked incompatible unless a post-processor hands out an object of ANOTHER Go type for a candidate (`Prov.inj`).  (`s.isFunc = false` is not even needed: the func tag only adds a test.) -/
theorem C06_sound_wire (pop : List Prov) (s : Slot) (a0 : Args) (pt : RPoint)
    (hp : parse? s.tag = some ([], a0)) (h : resolveOne pop s = some pt) :
    (∀ c ∈ pt.cands, ∃ p ∈ pop, p.id = c ∧ assignable s.kind p = true) ∧
    ((pop.map (·.id)).Nodup → (∀ p ∈ pop, p.inj = none) → pt.incompat = []) := by
  obtain ⟨h1, h2⟩ := resolveOne_sound (.inr rfl) hp h
  exact ⟨fun c hc => let ⟨p, hm, he, hfd⟩ := h1 c hc; ⟨p, hm, he, found_assignable hfd⟩, h2⟩

/-- SOUND (func tag): every candidate is assignable AND exposes the requested method — `FuncName` without a `returns`
    argument, `FuncNameAndResult` for one of the `returns` items otherwise. -/
theorem C06_sound_func (pop : List Prov) (s : Slot) (fn : Bytes) (a0 : Args) (pt : RPoint)
    (hf : s.isFunc = true) (hp : parse? s.tag = some (fn, a0)) (h : resolveOne pop s = some pt) :
    (∀ c ∈ pt.cands, ∃ p ∈ pop, p.id = c ∧ assignable s.kind p = true ∧
      (match find a0 kReturns with
       | some rs => rs.any (fun r => funcNameAndResult fn r p)
       | none => funcName fn p) = true) ∧
    ((pop.map (·.id)).Nodup → (∀ p ∈ pop, p.inj = none) → pt.incompat = []) := by
  obtain ⟨h1, h2⟩ := resolveOne_sound (.inl hf) hp h
  exact ⟨fun c hc => let ⟨p, hm, he, hfd⟩ := h1 c hc; ⟨p, hm, he, found_assignable hfd, found_methOK hf hfd⟩, h2⟩

/-- COMPLETE (slices): a slice-typed by-type point receives exactly all compatible, qualifier-passing providers, in
    enumeration order, each once. -/
theorem C06_slice_complete (pop : List Prov) (hid : (pop.map (·.id)).Nodup) (s : Slot) (v : Bytes) (a0 : Args) (pt : RPoint)
    (hb : ByType s v) (hs : s.kind.isSlice = true) (hp : parse? s.tag = some (v, a0)) (h : resolveOne pop s = some pt) :
    pt.cands = (pop.filter (fun p => found s v a0 p && qualOK a0 p)).map (·.id) ∧ pt.cands.Nodup := by
  obtain ⟨hc, _, _, _, _⟩ := resolveOne_some hp h
  have : pt.cands = (pop.filter (fun p => found s v a0 p && qualOK a0 p)).map (·.id) := by
    rw [hc]; unfold picked; rw [hs]; exact qualified_byType pop hid s v a0 hb
  exact ⟨this, this ▸ map_id_nodup_of_filter hid _⟩

/-- … and what Inject puts into the field: every compatible, qualified provider except the holder, exactly once. -/
theorem C06_slice_injected (pop : List Prov) (hid : (pop.map (·.id)).Nodup) (s : Slot) (v : Bytes) (a0 : Args) (pt : RPoint)
    (hb : ByType s v) (hs : s.kind.isSlice = true) (hp : parse? s.tag = some (v, a0)) (h : resolveOne pop s = some pt) :
    injected s.holder pt = (pop.filter (fun p => found s v a0 p && qualOK a0 p && p.id != s.holder)).map (·.id) ∧
    (injected s.holder pt).Nodup ∧
    (∀ p ∈ pop, found s v a0 p = true → qualOK a0 p = true → p.id ≠ s.holder → p.id ∈ injected s.holder pt) := by
  obtain ⟨he, hn⟩ := C06_slice_complete pop hid s v a0 pt hb hs hp h
  have e : injected s.holder pt = (pop.filter (fun p => found s v a0 p && qualOK a0 p && p.id != s.holder)).map (·.id) := by
    rw [injected, he, List.filter_map, List.filter_filter]
    exact congrArg _ (List.filter_congr fun p _ => Bool.and_comm ..)
  refine ⟨e, List.filter_sublist.nodup hn, fun p hm h1 h2 h3 => ?_⟩
  rw [e]
  exact List.mem_map_of_mem (List.mem_filter.mpr ⟨hm, by simp [h1, h2, h3]⟩)

/-- … and it is the same collection under every enumeration order of the registry. -/
theorem C06_slice_injected_perm (pop pop' : List Prov) (hperm : pop.Perm pop') (hid : (pop.map (·.id)).Nodup)
    (s : Slot) (v : Bytes) (a0 : Args) (pt pt' : RPoint)
    (hb : ByType s v) (hs : s.kind.isSlice = true) (hp : parse? s.tag = some (v, a0))
    (h : resolveOne pop s = some pt) (h' : resolveOne pop' s = some pt') :
    (injected s.holder pt).Perm (injected s.holder pt') := by
  have hid' : (pop'.map (·.id)).Nodup := (hperm.map _).nodup_iff.mp hid
  rw [(C06_slice_injected pop hid s v a0 pt hb hs hp h).1, (C06_slice_injected pop' hid' s v a0 pt' hb hs hp h').1]
  exact (hperm.filter _).map _

/-- SINGLE-valued by-type points receive at most one component; it is one of the compatible, qualifier-passing
    providers; exactly one whenever such a provider exists; and never the holder while another one exists. -/
theorem C06_single (pop : List Prov) (hid : (pop.map (·.id)).Nodup) (s : Slot) (v : Bytes) (a0 : Args) (pt : RPoint)
    (hb : ByType s v) (hs : s.kind.isSlice = false) (hp : parse? s.tag = some (v, a0)) (h : resolveOne pop s = some pt) :
    pt.cands.length ≤ 1 ∧
    (∀ c ∈ pt.cands, ∃ p ∈ pop, p.id = c ∧ found s v a0 p = true ∧ qualOK a0 p = true) ∧
    ((∃ p ∈ pop, found s v a0 p = true ∧ qualOK a0 p = true) → pt.cands.length = 1) ∧
    ((∃ p ∈ pop, found s v a0 p = true ∧ qualOK a0 p = true ∧ p.id ≠ s.holder) → ∀ c ∈ pt.cands, c ≠ s.holder) := by
  obtain ⟨hc, _, _, _, _⟩ := resolveOne_some hp h
  have hq := mem_qualified_iff pop hid s v a0 hb
  rw [hc]
  refine ⟨picked_length_single pop s v a0 hs, fun c hcm => (hq c).1 (picked_subset_qualified pop s v a0 c hcm), ?_, ?_⟩
  · rintro ⟨p, hm, h⟩
    exact picked_single_length pop s v a0 hs (List.ne_nil_of_mem ((hq p.id).2 ⟨p, hm, rfl, h⟩))
  · rintro ⟨p, hm, h1, h2, h3⟩
    exact picked_single_ne_holder pop s v a0 hs ⟨p.id, (hq p.id).2 ⟨p, hm, rfl, h1, h2⟩, h3⟩

/-- after the repair of FuncNameAndResult a method with parameters never matches, hence is never called -/
theorem C06_no_call_with_params (fn res : Bytes) (p : Prov) (h : funcNameAndResult fn res p = true) :
    ∀ m, findMeth p fn = some m → m.numIn = 0 := by
  intro m hm
  unfold funcNameAndResult at h
  rw [hm] at h
  simp only at h
  split at h
  · cases h
  · rename_i hn; simpa using hn

/-! non-vacuity: a population of five providers with mixed attributes (see Lemmas/MatchExamples.lean) -/
section examples
open Ioc.Match.Ex

example : (pop.map (·.id)).Nodup := by decide +kernel
-- `[]I0`, holder 4: implementers 0, 1, 2 and the holder; Inject drops the holder
example : parse? sliceI0.tag = some ([], []) ∧ sliceI0.isFunc = false ∧ sliceI0.kind.isSlice = true := by decide +kernel
example : (resolveOne pop sliceI0).map (·.cands) = some [0, 1, 2, 4] := by decide +kernel
example : (resolveOne pop sliceI0).map (injected 4) = some [0, 1, 2] := by decide +kernel
example : (resolveOne pop' sliceI0).map (injected 4) = some [2, 0, 1] := by decide +kernel
example : (resolveOne pop sliceI0).map (·.incompat) = some [] := by decide +kernel
-- single `I0`: one of the implementers
example : (resolveOne pop oneI0).map (·.cands) = some [2] ∧ oneI0.kind.isSlice = false := by decide +kernel
-- func tag: `Run` (no results) only on 1; `Get` returning "y" only on 1; `Get,returns=*` on 0 and 1 but NOT on 2,
-- whose Get takes a parameter
example : funcGet.isFunc = true ∧ parse? funcGet.tag = some (ofString "Run", []) := by decide +kernel
example : (resolveOne pop funcGet).map (·.cands) = some [1] := by decide +kernel
example : (resolveOne pop funcGetY).map (·.cands) = some [1] := by decide +kernel
example : (resolveOne pop funcGetAny).map (·.cands) = some [0, 1] := by decide +kernel
example : funcNameAndResult (ofString "Get") (ofString "x") pA = true ∧
    funcNameAndResult (ofString "Get") (ofString "x") pC = false := by decide +kernel
end examples

/-! ### the tie to the code: Property.Inject IS the regenerated program

`Ioc.Progs.prop_Inject` is the syntax tree of `Property.Inject` (component_definition/property.go), re-translated from
/repo's source on every run (MiniGo, Ioc.GoSem; the `switch` on the field's kind is desugared into an if/else chain).
Run by the interpreter — IsRequired / IsSelf / AssignableTo / Kind answered by an arbitrary `Sem.InjCtx`, reflection
writes recorded in the world — it returns the error flag and performs the writes of `Sem.injectModel`: the holder itself
is dropped first; nothing left, or something unassignable ⇒ error when required and NO write at all when optional;
otherwise a slice receives every remaining meta exactly once in order (element i ← i-th meta) and a single field the
first one; every injected meta records the holder as dependent; `Injects` is set to what was injected.
The seeded changes C01B, C01C, C02B, C03B, C06D, C07D, C14C all edited this function. -/

theorem C06_code_Inject (c : Sem.InjCtx) (metas : List Nat) :
    Go.run (Sem.injPrims c) Progs.prop_Inject [.list (metas.map Sem.encM)] {} =
      some (Sem.encErr (Sem.injectModel c metas).1, (Sem.injectModel c metas).2) :=
  Sem.inject_sem c metas

/-- what is written: only metas that are not the holder and are assignable; a slice gets ALL of those, once each, in
    order; nothing is written when an error is returned -/
theorem C06_code_inject_writes (c : Sem.InjCtx) (metas : List Nat) (hc : c.isComponent = true) :
    let r := Sem.injectModel c metas
    (r.1 = true → r.2 = {}) ∧
    (∀ ms, r.2.injects = some ms →
        ms = metas.filter (fun m => !(c.isSelf m)) ∧ (∀ m ∈ ms, c.assignable m = true) ∧
        (c.slice = true → r.2.elems = (List.range ms.length).zip ms ∧ r.2.deps = ms) ∧
        (c.slice = false → r.2.single = ms.head? ∧ r.2.deps = ms.take 1)) := by
  simp only [Sem.injectModel, hc, Bool.not_true, Bool.false_eq_true, if_false]
  by_cases h0 : metas.isEmpty = true
  · simp [h0]
  · simp only [h0]
    generalize metas.filter (fun m => !(c.isSelf m)) = L
    unfold Sem.injectTail
    cases L with
    | nil => simp
    | cons a t =>
      by_cases h2 : ((a :: t).any fun m => !(c.assignable m)) = true
      · simp [h2]
      · have hall : c.assignable a = true ∧ ∀ m ∈ t, c.assignable m = true := by simpa using h2
        cases hs : c.slice <;> simp [h2, hall.1] <;> exact hall.2

/-- THE MACHINE IS THE CODE at the Inject step: in every machine state whose top frame has collected all candidates of
    its current point, `M2.step` fails, skips or writes the field exactly as the regenerated `Property.Inject` does when
    `IsSelf` is "same component name as the holder" and `AssignableTo` is the point's compatibility marking.
    (`ids`/`obj`: any naming of the collected objects.) -/
theorem C06_machine_inject_is_code (sc : M2.Scen) (st : M2.St) (f : M2.Frame) (rest : List M2.Frame)
    (hrun : st.status = .running) (hst : st.stack = f :: rest) (hp : f.p < (M2.pts sc f.name).length)
    (hd : ¬ f.d < ((M2.pts sc f.name)[f.p]).cands.length) (hne : ((M2.pts sc f.name)[f.p]).cands ≠ [])
    (ids : List Nat) (obj : Nat → M2.Obj) (hacc : ids.map obj = f.acc) (hids : ids ≠ []) :
    ∃ err w, Go.run (Sem.injPrims (M2.injCtxOf ((M2.pts sc f.name)[f.p]) f.name obj)) Progs.prop_Inject
                [.list (ids.map Sem.encM)] {} = some (Sem.encErr err, w) ∧
      M2.step sc st =
        (if err then M2.failAt st f.name
         else match w.injects with
           | none => { st with stack := M2.Lc.advance f :: rest }
           | some ms => { st with
               fields := M2.upd2 st.fields f.name f.p
                 (if ((M2.pts sc f.name)[f.p]).slice then ms.map obj else (ms.map obj).take 1),
               stack := M2.Lc.advance f :: rest }) := by
  exact ⟨_, _, Sem.inject_sem _ ids, M2.step_inject_is_code sc st f rest hrun hst hp hd hne ids obj hacc hids⟩

/-- fas.Filter, regenerated (util/fas): `List.filter`, for every slice and predicate — what the interpreter's special form
    `filter` (used for the self filter of `Inject`, `C06_code_Inject`, and in `filterDependencies`) takes it to be -/
theorem C06_code_fasFilter (g : Nat → Bool) (l : List Nat) :
    Go.run (Sem.filterPrims g) Progs.fas_Filter [Sem.encInts l, .str "f"] () = some (Sem.encInts (l.filter g), ()) :=
  Sem.fasFilter_sem g l

/-! ### the tie to the code: candidate discovery (regenerated)

`Ioc.Progs.depAware_PostProcessProperties`, `depFunc_PostProcessProperties` and `isActualKind` are the syntax trees of the two
discovery processors (dependency_aware_post_processors.go:40-66, dependency_function_aware_post_processors.go:40-68) and their
helper.  The registry and the option closures of package container are interpreted (`Sem.discFn`: an option token means the
filter container/options.go implements; `GetMetas` filters the population in enumeration order), everything else is run by
the interpreter.  For EVERY population, every list of property nodes and every state of their `Injects`, the regenerated
wire processor appends to node i exactly `Sem.discoverWire` — which is `Match.candidatesWire` — and the func processor exactly
`Sem.discoverFunc` — `Match.candidatesFunc`: by type only components of exactly the pointer type / implementers of the
interface (also behind a slice), for the func tag those that additionally pass FuncName / some FuncNameAndResult alternative
(ONE registry lookup: a provider matching several alternatives is still one candidate); nodes with other tags are untouched. -/
theorem C06_code_discovery_wire (pop : List Match.Prov) (props : List Sem.DProp) (byName : String → Option Nat) (n : Nat) (w : Sem.DW) :
    Go.run (Sem.DP pop props byName) Progs.depAware_PostProcessProperties
        [.list ((List.range' 0 n).map (fun i => Go.Val.ref i 20)), .str "c", .str "n"] w =
      some (.tuple [.nil, .nil], Sem.applyDisc (fun i => Sem.discoverWire pop byName (Sem.propAt props i)) (List.range' 0 n) w) :=
  Sem.depAware_sem pop props byName n w

theorem C06_code_discovery_func (pop : List Match.Prov) (props : List Sem.DProp) (funcRes : String → Nat → Match.Prov → Bool)
    (funcName : String → Match.Prov → Bool) (n : Nat) (w : Sem.DW) :
    Go.run (Sem.DF pop props funcRes funcName) Progs.depFunc_PostProcessProperties
        [.list ((List.range' 0 n).map (fun i => Go.Val.ref i 20)), .str "c", .str "n"] w =
      some (.tuple [.nil, .nil], Sem.applyDisc (fun i => Sem.discoverFunc pop funcRes funcName (Sem.propAt props i)) (List.range' 0 n) w) :=
  Sem.depFunc_sem pop props funcRes funcName n w

/-- what a pass does to one node: its `Injects` grows by exactly the discovered candidates (and nothing else changes) -/
theorem C06_code_discovery_per_node (disc : Nat → List (Option Nat)) (n : Nat) (w : Sem.DW) (j : Nat) (hj : j < n) (hl : j < w.length) :
    (Sem.applyDisc disc (List.range' 0 n) w).getD j [] = w.getD j [] ++ disc j ∧
    (Sem.applyDisc disc (List.range' 0 n) w).length = w.length :=
  ⟨Sem.applyDisc_in disc _ w j (List.nodup_range' (step := 1) (by omega)) (by simp [List.mem_range'_1]; omega) hl,
   Sem.applyDisc_length disc _ w⟩

/-- the discovered lists ARE the model's candidate lists (M3), given that the tag text and the closures mean what M3 says -/
theorem C06_code_discovery_is_model (pop : List Match.Prov) (byName : String → Option Nat) (p : Sem.DProp) (tv : Bytes)
    (hw : p.tag = "wire") (htv : tv.isEmpty = (p.tagVal == ""))
    (hbn : byName p.tagVal = (pop.find? (fun q => q.name == tv)).map (·.id)) :
    Sem.discoverWire pop byName p = Match.candidatesWire pop p.kind tv :=
  Sem.discoverWire_is_candidatesWire pop byName p tv hw htv hbn

theorem C06_code_discovery_func_is_model (pop : List Match.Prov) (funcRes : String → Nat → Match.Prov → Bool)
    (funcName : String → Match.Prov → Bool) (p : Sem.DProp) (tv : Bytes) (args : Tag.Args) (alts : Nat → Bytes) (hf : p.tag = "func")
    (hres : ∀ r q, funcRes p.tagVal r q = Match.funcNameAndResult tv (alts r) q)
    (hname : ∀ q, funcName p.tagVal q = Match.funcName tv q)
    (hargs : Tag.find args Match.kReturns = p.returns.map (fun rs => rs.map alts)) :
    Sem.discoverFunc pop funcRes funcName p = Match.candidatesFunc pop p.kind tv args :=
  Sem.discoverFunc_is_candidatesFunc pop funcRes funcName p tv args alts hf hres hname hargs

/-- the helper isActualKind, regenerated: the type itself when it is of the wanted kind, the element type of a slice of it -/
theorem C06_code_isActualKind (k : Match.Kind) (ptr : Bool) :
    Go.run Sem.isaPrims Progs.isActualKind [Sem.encKind k, .str (if ptr then "ptr" else "iface")] () =
      some (.tuple [(Sem.isActualModel k (if ptr then "ptr" else "iface")).1,
                    .bool (Sem.isActualModel k (if ptr then "ptr" else "iface")).2], ()) :=
  Sem.isActualKind_sem k ptr

/-! ### the REGENERATED option constructors of package container (Or, And, Type, InterfaceType, FuncName, FuncNameAndResult)

    Each constructor returns a function literal; it is translated curried (`F(a…)(m)` = the literal's body).  Under the
    interpretation Ioc.SemOptions (reflection's answers about the definition are the record `OMeta`) the literals are the
    filters the discovery theorems above take as the MEANING of the option tokens: exact type, interface implementation, method
    by name without results, method by name without parameters whose first result is the wanted text. -/
section options
open Ioc.Go Ioc.Sem
variable (m : OMeta) (fnName : String) (ans : Nat → Bool) (parseOk : String → Bool)

theorem C06_code_option_Type (t : Nat) :
    run (optPrims m fnName ans parseOk) Progs.opt_Type [.ref t 93, .ref 0 0] () = some (.bool (m.ty == t), ()) :=
  type_sem m fnName ans parseOk t

theorem C06_code_option_InterfaceType (i : Nat) :
    run (optPrims m fnName ans parseOk) Progs.opt_InterfaceType [.ref i 94, .ref 0 0] () = some (.bool (m.implements i), ()) :=
  interfaceType_sem m fnName ans parseOk i

theorem C06_code_option_FuncName :
    run (optPrims m fnName ans parseOk) Progs.opt_FuncName [.str fnName, .ref 0 0] () = some (.bool (optFuncName m fnName), ()) :=
  funcName_sem m fnName ans parseOk

/-- … the repaired FuncNameAndResult: a method that takes parameters never matches; `*` matches any result; a method without
    results matches the empty text only; otherwise the first result's text decides (whether or not ParseAny accepts the text) -/
theorem C06_code_option_FuncNameAndResult (res : String) :
    run (optPrims m fnName ans parseOk) Progs.opt_FuncNameAndResult [.str fnName, .str res, .ref 0 0] () =
      some (.bool (optFuncNameAndResult m fnName res), ()) :=
  funcNameAndResult_sem m fnName ans parseOk res

theorem C06_code_option_Or_And (opts : List Nat) :
    run (optPrims m fnName ans parseOk) Progs.opt_Or [.list (opts.map (fun i => Go.Val.ref i 95)), .ref 0 0] () =
      some (.bool (opts.any ans), ()) ∧
    run (optPrims m fnName ans parseOk) Progs.opt_And [.list (opts.map (fun i => Go.Val.ref i 95)), .ref 0 0] () =
      some (.bool (opts.all ans), ()) :=
  ⟨or_sem m fnName ans parseOk opts, and_sem m fnName ans parseOk opts⟩

/-- what reflection answers about a provider of M3 -/
def metaOf (p : Match.Prov) : OMeta :=
  { ty := p.ty, implements := fun i => p.impl.testBit i,
    meths := p.meths.map (fun x => ⟨x.name, x.numIn, x.numOut, ""⟩) }

/-- M3's type options are the regenerated `Type` / `InterfaceType` literals on that record -/
theorem C06_typeOption_is_code (p : Match.Prov) (t i : Nat) :
    (Match.typeOption (.ptr t)).map (· p) = some ((metaOf p).ty == t) ∧
    (Match.typeOption (.iface i)).map (· p) = some ((metaOf p).implements i) := ⟨rfl, rfl⟩

/-- … and M3's `funcName` is the regenerated `FuncName` literal (method names compared as byte strings in M3, as Go strings
    here: the same comparison for the names at hand) -/
theorem C06_funcName_is_code (p : Match.Prov) (fn : String)
    (hinj : ∀ x ∈ p.meths, (ofString x.name == ofString fn) = (x.name == fn)) :
    Match.funcName (ofString fn) p = optFuncName (metaOf p) fn := by
  unfold Match.funcName Match.findMeth optFuncName OMeta.find metaOf
  simp only [List.find?_map]
  generalize p.meths = l at hinj ⊢
  induction l with
  | nil => rfl
  | cons x rest ih =>
    simp only [List.find?_cons, Function.comp, hinj x (by simp)]
    cases x.name == fn
    · exact ih fun y hy => hinj y (by simp [hy])
    · rfl

end options

/-! ### the REGENERATED definition registry (RegisterMeta, GetMetas, GetMetaByName, GetMetaOrRegister)

    The registry's map is the list `entries` in the order in which `Range` enumerates it.  `GetMetas` hands a function
    literal to `Range` that APPENDS TO A CAPTURED VARIABLE (statement form `hcallS` of MiniGo: capture by reference). -/
section registry
open Ioc.Go Ioc.Sem
variable (nameOf : Nat → String) (accept : Nat → Bool)

/-- the definitions the options accept, in enumeration order (what `Sem.discFn` takes as the meaning of `GetMetas`) -/
theorem C06_code_GetMetas (opts : Go.Val) (w : DRW) :
    run (dregPrims nameOf accept) Progs.dreg_GetMetas [opts] w =
      some (encMetas ((w.entries.filter (fun e => accept e.2)).map (·.2)), w) :=
  getMetas_sem nameOf accept opts w

/-- registering replaces by name (an existing name keeps its place in the enumeration), a lookup by name is the entry's
    definition or nil, get-or-register returns the registered definition untouched or registers a fresh, named one -/
theorem C06_code_registry_by_name (i c : Nat) (n : String) (w : DRW) :
    run (dregPrims nameOf accept) Progs.dreg_RegisterMeta [.ref i 0] w =
      some (.tuple [], { w with entries := upsert (nameOf i) i w.entries }) ∧
    run (dregPrims nameOf accept) Progs.dreg_GetMetaByName [.str n] w =
      some (match lookupE n w.entries with | some i => .ref i 0 | none => .nil, w) ∧
    run (dregPrims nameOf accept) Progs.dreg_GetMetaOrRegister [.str n, .ref c 50] w =
      some (match lookupE n w.entries with
            | some i => (.ref i 0, w)
            | none => (.ref c 0, { entries := upsert n c w.entries, named := w.named ++ [(c, n)] })) :=
  ⟨registerMeta_sem nameOf accept i w, getMetaByName_sem nameOf accept n w, getMetaOrRegister_sem nameOf accept n c w⟩

/-- what was registered under a name is what a lookup by that name finds, and no other name is disturbed -/
theorem C06_registry_upsert_lookup (k k' : String) (v : Nat) (l : List (String × Nat)) :
    lookupE k (upsert k v l) = some v ∧ (k' ≠ k → lookupE k' (upsert k v l) = lookupE k' l) :=
  ⟨by rw [lookupE_upsert, if_pos rfl], fun h => by rw [lookupE_upsert, if_neg (Ne.symm h)]⟩

end registry

/-! ### defaultFactory.GetComponents, REGENERATED (interpretation Ioc.SemPrepare) -/
section getcomponents
open Ioc.Go Ioc.Sem

/-- GetComponents: the definitions the options select are fetched BY NAME through the factory, in the order GetMetas returns
    them, and listed in that order; the first failing fetch ends the call with its error and no list -/
theorem C06_code_GetComponents (p : GCP) (opts : Go.Val) (w : List String) :
    run (gcPrims p) Progs.factory_GetComponents [opts] w =
      some (match (gcRun p p.metas).2.2 with
            | none => .tuple [refsNil (gcRun p p.metas).1, .nil]
            | some e => .tuple [.nil, .str e], w ++ (gcRun p p.metas).2.1) :=
  getComponents_sem p opts w

end getcomponents

end Ioc.C06
