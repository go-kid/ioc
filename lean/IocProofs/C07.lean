/-
  C07 — Injection by name selects exactly the named component.  PROPERTY THEOREMS ONLY (lemmas: IocProofs/Lemmas/Match*.lean).

  Models: Ioc.Match (`candidatesWire` by name, `narrow`, `resolveOne`), Ioc.Container (the factory step that runs
  Inject), Ioc.Naming (GetComponentName, RegisterSingleton).  `p.name` is Meta.Name(), i.e. `componentName` of the
  registered object; names are unique in a registry (`C07_unique`), which is the hypothesis `(pop.map (·.name)).Nodup`.
-/
import IocProofs.Lemmas.MatchPoint
import IocProofs.Lemmas.MatchNaming
import IocProofs.Lemmas.MatchExamples
import IocProofs.Lemmas.SemDiscover
import IocProofs.Lemmas.SemMeta
import IocProofs.Lemmas.SemTypeId
import IocProofs.Lemmas.SemArgs
import IocProofs.Lemmas.SemUnmarshall
import IocProofs.Lemmas.OfString
namespace Ioc.C07
open Ioc Ioc.Tag Ioc.Match

/-- EXACT: a single pointer / interface field whose wire tag names `nm` (no qualifier) resolves to exactly the component
    registered under `nm` — however many others share its type — and marks it incompatible iff it cannot be assigned. -/
theorem C07_exact (pop : List Prov) (hid : (pop.map (·.id)).Nodup) (hnm : (pop.map (·.name)).Nodup)
    (s : Slot) (nm : Bytes) (a0 : Args) (p : Prov)
    (hf : s.isFunc = false) (hp : parse? s.tag = some (nm, a0)) (hv : nm ≠ [])
    (hk : (∃ t, s.kind = .ptr t) ∨ (∃ i, s.kind = .iface i))
    (hq : find a0 kQualifier = none) (hm : p ∈ pop) (hn : p.name = nm) :
    resolveOne pop s = some { cands := [p.id], slice := false, required := isRequired a0,
                              incompat := if injAssignable s.kind p then [] else [p.id] } :=
  resolveOne_named pop hid hnm s nm a0 p hf hp hv hk hq hm hn

/-- ABSENT: nobody is registered under `nm` (any field kind): a required point is a start-up ERROR (`none`, not a panic:
    `resolveOne` has no panic outcome left, C19_total), an optional point resolves to nothing at all. -/
theorem C07_absent (pop : List Prov) (s : Slot) (nm : Bytes) (a0 : Args)
    (hf : s.isFunc = false) (hp : parse? s.tag = some (nm, a0)) (hv : nm ≠ [])
    (hno : ∀ p ∈ pop, p.name ≠ nm) :
    (isRequired a0 = true → resolveOne pop s = none) ∧
    (isRequired a0 = false →
      resolveOne pop s = some { cands := [], slice := s.kind.isSlice, required := false, incompat := [] }) := by
  have he := qualified_nil_of_discovered_nil pop s nm a0 (discovered_absent pop s nm _ hf hv hno)
  rw [resolveOne_empty pop s nm a0 hp he]
  exact ⟨fun hr => if_pos hr, fun hr => if_neg (by rw [hr]; decide)⟩

/-- INCOMPATIBLE, factory side: the top frame has collected all candidates of a point (`f.d` past the end), something
    other than the holder was collected, and one collected object is marked incompatible.  Required: the creation
    fails with an error at the holder.  Optional: the field is left untouched and the frame moves to the next point. -/
theorem C07_incompatible_step (sc : M2.Scen) (st : M2.St) (f : M2.Frame) (rest : List M2.Frame)
    (hrun : st.status = .running) (hst : st.stack = f :: rest)
    (hp : f.p < (M2.pts sc f.name).length)
    (hd : ¬ f.d < ((M2.pts sc f.name)[f.p]).cands.length)
    (hc : ((M2.pts sc f.name)[f.p]).cands ≠ [])
    (hm : f.acc.filter (fun o => o.name != f.name) ≠ [])
    (hi : (f.acc.filter (fun o => o.name != f.name)).any
            (fun o => ((M2.pts sc f.name)[f.p]).incompat.contains o.name) = true) :
    (((M2.pts sc f.name)[f.p]).required = true → (M2.step sc st).status = .failed f.name st.stage) ∧
    (((M2.pts sc f.name)[f.p]).required = false →
        (M2.step sc st).fields = st.fields ∧ (M2.step sc st).status = .running ∧
        (M2.step sc st).stack = { f with p := f.p + 1, d := 0, acc := [] } :: rest) :=
  M2.step_incompat sc st f rest hrun hst hp hd hc hm hi

/-- NAME: a custom name wins when non-empty; otherwise package path "/" type name. -/
theorem C07_name (custom pkgPath typeName : Bytes) :
    (custom ≠ [] → Naming.componentName custom pkgPath typeName = custom) ∧
    (custom = [] → pkgPath ≠ [] → Naming.componentName custom pkgPath typeName = pkgPath ++ ofString "/" ++ typeName) ∧
    (custom = [] → pkgPath = [] → Naming.componentName custom pkgPath typeName = typeName) := by
  refine ⟨fun h => ?_, fun h1 h2 => ?_, fun h1 h2 => ?_⟩ <;> simp [Naming.componentName, Naming.joinPath, *]

/-- UNIQUE: after ANY history of registration attempts (panicking attempts skipped) no name is held twice, two
    entries under one name are the same object, and a name resolves to the FIRST object registered under it. -/
theorem C07_unique (ops : List (Bytes × Nat)) :
    ((Naming.registerAll [] ops).map (·.1)).Nodup ∧
    (∀ n o1 o2, (n, o1) ∈ Naming.registerAll [] ops → (n, o2) ∈ Naming.registerAll [] ops → o1 = o2) ∧
    (∀ name, Naming.lookup (Naming.registerAll [] ops) name = (ops.find? (fun op => op.1 == name)).map (·.2)) := by
  have hnd := Naming.registerAll_nodup [] ops List.nodup_nil
  refine ⟨hnd, fun n o1 o2 h1 h2 => ?_, fun name => by rw [Naming.registerAll_lookup]; rfl⟩
  exact (Prod.mk.inj (eq_of_key_nodup (fun e : Bytes × Nat => e.1) _ hnd _ h1 _ h2 rfl)).2

/-- a different object under a taken name is rejected (the Panicf), the same object again is a no-op -/
theorem C07_register_dup (reg : List (Bytes × Nat)) (name : Bytes) (o o' : Nat) (h : Naming.lookup reg name = some o) :
    Naming.register reg name o' = if o = o' then .ok reg else .error () := by
  unfold Naming.lookup at h
  simp [Naming.register, h]

/-! non-vacuity (population of Lemmas/MatchExamples.lean: providers 1 "b" and 2 "c" share type 2; 0, 1, 2, 4 implement I0) -/
section examples
open Ioc.Match.Ex

example : (pop.map (·.id)).Nodup ∧ (pop.map (·.name)).Nodup := by decide +kernel
-- `I0` by name "b": exactly 1, although 0, 2 (a Primary!) and 4 implement I0 as well
example : parse? namedB.tag = some (ofString "b", []) ∧ pB.name = ofString "b" ∧
    find ([] : Args) kQualifier = none ∧ namedB.isFunc = false := by decide +kernel
example : pB ∈ pop := by simp [pop]
example : (resolveOne pop namedB).map (fun pt => (pt.cands, pt.incompat)) = some ([1], []) := by decide +kernel
example : (resolveOne pop' namedB).map (fun pt => (pt.cands, pt.incompat)) = some ([1], []) := by decide +kernel
-- `*T1` by name "b": found, but not assignable → marked for Inject
example : assignable namedBwrong.kind pB = false ∧ injAssignable namedBwrong.kind pB = false := by decide +kernel
example : (resolveOne pop namedBwrong).map (fun pt => (pt.cands, pt.incompat)) = some ([1], [1]) := by decide +kernel
-- nobody is called "zz": required → error, optional → empty
example : (∀ p ∈ pop, p.name ≠ ofString "zz") := by decide +kernel
example : (resolveOne pop namedZ).isNone = true := by decide +kernel
example : (resolveOne pop namedZopt).map (fun pt => (pt.cands, pt.required)) = some ([], false) := by decide +kernel
-- names and the registry
-- `ofString_ofList` first: the literals become character lists by rewriting, the kernel evaluates the rest
example : Naming.componentName [] (ofString "github.com/x/app") (ofString "Svc") = ofString "github.com/x/app/Svc" := by
  repeat rw [ofString_ofList]
  decide +kernel
example : Naming.componentName (ofString "mine") (ofString "github.com/x/app") (ofString "Svc") = ofString "mine" := by decide +kernel
example : Naming.registerAll [] [(ofString "a", 1), (ofString "b", 2), (ofString "a", 3), (ofString "a", 1)]
    = [(ofString "a", 1), (ofString "b", 2)] := by decide +kernel
example : Naming.register [(ofString "a", 1)] (ofString "a") 3 = .error () := by rfl
-- the factory step: holder 9 collected object ⟨1,0⟩ for a required point that marks 1 incompatible → failed at 9
example : (M2.step (scBad true) (stBad true)).status = .failed 9 .refresh := by decide +kernel
example : (M2.step (scBad false) (stBad false)).status = .running ∧ (M2.step (scBad false) (stBad false)).fields 9 0 = [] ∧
    ((M2.step (scBad false) (stBad false)).stack.map (fun f => (f.name, f.p, f.d))) = [(9, 1, 0)] := by decide +kernel
end examples

/-- the tie to the code for BY-NAME points (regenerated wire processor, `C06_code_discovery_wire`): a `wire:"name"` point of
    pointer or interface kind gets exactly ONE candidate appended — what the registry answers for that name, a nil Meta when
    nothing is registered under it — never a by-type fallback; a named point of any other kind (slices, …) gets nothing -/
theorem C07_code_by_name (pop : List Match.Prov) (byName : String → Option Nat) (p : Sem.DProp)
    (hw : p.tag = "wire") (hn : p.tagVal ≠ "") :
    Sem.discoverWire pop byName p =
      (match p.kind with
       | .ptr _ => [byName p.tagVal]
       | .iface _ => [byName p.tagVal]
       | _ => []) := by
  have : (p.tagVal == "") = false := by simpa using hn
  simp only [Sem.discoverWire, hw, this, bne_self_eq_false, Bool.false_eq_true, if_false]
  cases p.kind <;> rfl

/-! ### the REGENERATED naming helper and definition methods (component.go, meta.go)

    Under the interpretation Ioc.SemMeta: a component is registered under its custom name when `Naming()` answers a non-empty
    text, else under the type-derived id — asked of the component ITSELF on every call (nothing remembers an earlier answer);
    a definition's `Name()` is its alias when it has one; `SetProperties` appends EVERY property it is handed to the group of its
    type, in order (no property is dropped for sharing a Go field name or a tag with an earlier one). -/
section naming
open Ioc.Go Ioc.Sem

theorem C07_code_GetComponentNameWithAlias (tyName : Nat → String) (naming namingZero : Nat → Option String) (i : Nat) :
    run (namePrims tyName naming namingZero) Progs.name_GetComponentNameWithAlias [.ref i 50] () =
      some (.tuple [.str (tyName i), .str ((naming i).getD "")], ()) ∧
    run (namePrims tyName naming namingZero) Progs.name_GetComponentNameWithAlias [.ref i 10] () =
      some (.tuple [.str (tyName i), .str ((naming i).getD "")], ()) ∧
    run (namePrims tyName naming namingZero) Progs.name_GetComponentNameWithAlias [.ref i 11] () =
      some (.tuple [.str (tyName i), .str ((namingZero i).getD "")], ()) :=
  ⟨(nameWithAlias_component_sem tyName naming namingZero i).1, (nameWithAlias_component_sem tyName naming namingZero i).2,
   nameWithAlias_type_sem tyName naming namingZero i⟩

theorem C07_code_GetComponentName (n a : String) (t : Go.Val) :
    run (name2Prims n a) Progs.name_GetComponentName [t] () = some (.str (if a != "" then a else n), ()) :=
  componentName_sem n a t

theorem C07_code_meta_names (idOf nameOf : Nat → String) (isComp : Nat → Bool) (n : String) (w : MW) :
    run (metaPrims idOf nameOf isComp) Progs.meta_Name [] w = some (.str (if w.alias != "" then w.alias else w.name), w) ∧
    run (metaPrims idOf nameOf isComp) Progs.meta_IsAlias [] w = some (.bool (w.alias != ""), w) ∧
    run (metaPrims idOf nameOf isComp) Progs.meta_SetName [.str n] w =
      some (.tuple [], if n != w.name then { w with alias := n } else w) :=
  ⟨metaName_sem idOf nameOf isComp w, metaIsAlias_sem idOf nameOf isComp w, metaSetName_sem idOf nameOf isComp n w⟩

theorem C07_code_SetProperties (idOf nameOf : Nat → String) (isComp : Nat → Bool) (ps : List Nat) (w : MW) :
    run (metaPrims idOf nameOf isComp) Progs.meta_SetProperties [.list (ps.map (fun i => Go.Val.ref i 20))] w =
      some (.tuple [], { w with comp := w.comp ++ ps.filter isComp, conf := w.conf ++ ps.filter (fun i => !isComp i) }) ∧
    run (metaPrims idOf nameOf isComp) Progs.meta_GetComponentProperties [] w = some (encProps w.comp, w) :=
  ⟨metaSetProperties_sem idOf nameOf isComp ps w, metaGetComponentProperties_sem idOf nameOf isComp w⟩

end naming


/-- reflectx.TypeId / Id, regenerated (interpretation Ioc.SemTypeId: a reflect.Type is an entry of a table of what reflection
    answers): the default name of a component is "<nil>" for nil, else the id of its dynamic type — exactly ONE pointer level
    removed, an unnamed type rendered by String(), a named type as path.Join(PkgPath, Name): two components have the same
    default name exactly when their (once dereferenced) types have the same package path and name -/
theorem C07_code_TypeId (ts : List Sem.TyD) (typeOf : Nat → Nat) (join : String → String → String) (t c : Nat) :
    Go.run (Sem.tiPrims ts typeOf join) Progs.reflectx_TypeId [.ref t 190] () = some (.str (Sem.typeIdOf ts join t), ()) ∧
    Go.run (Sem.tiPrims ts typeOf join) Progs.reflectx_Id [.nil] () = some (.str "<nil>", ()) ∧
    Go.run (Sem.tiPrims ts typeOf join) Progs.reflectx_Id [.ref c 0] () = some (.str (Sem.typeIdOf ts join (typeOf c)), ()) :=
  ⟨Sem.typeId_sem ts typeOf join t, (Sem.id_sem ts typeOf join c).1, (Sem.id_sem ts typeOf join c).2⟩

/-- TagArg.Parse (regenerated, `C19_code_Parse`) returns the value part of a tag text EXACTLY as the splitter delivers it and
    hands every argument to Set as written — nothing is trimmed, lower-cased or dropped on the way: the requested name is the name as written, blanks included, as the registered names are -/
theorem C07_code_tag_text_as_written (o : Sem.StrOps) (tag : String) (w : Sem.SetLog) :
    Go.run (Sem.parsePrims o) Progs.arg_Parse [.str tag] w =
      some (.str (o.splitC tag).1, w ++ (o.splitC tag).2.map (Sem.parseArg o)) :=
  Sem.argParse_sem o tag w

/-- a by-name point is required unless its `required` argument holds the value "false" (IsRequired, regenerated,
    `C09_code_IsRequired`): the bare flag `,required` and any other spelling leave it required, so an absent name fails -/
theorem C07_code_IsRequired (has : Sem.AM → String → List String → Bool) (fmtKey : String → String) (w : Sem.PW) :
    Go.run (Sem.pmPrims has fmtKey) Progs.prop_IsRequired [] w = some (.bool (!(has w.args "required" ["false"])), w) :=
  Sem.isRequired_sem has fmtKey w

end Ioc.C07
