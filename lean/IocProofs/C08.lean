/-
  C08 — Qualifier and Primary narrowing applies to every field independently.  PROPERTY THEOREMS ONLY
  (lemmas: IocProofs/Lemmas/Match*.lean).

  Model: Ioc.Match (`narrow` = one iteration of the per-property loop with filterDependencies, `resolveOne`, the loop
  `resolveAll`).  `survivorsOf pop s v a0` is the list the Primary / unnamed loop chooses from: the discovered candidates
  after the qualifier filter and after dropping the holder itself (when somebody else remains).
  `isPrim (byId pop) c` / `isUnn (byId pop) c`: candidate `c` is a Primary / has no custom name.
-/
import IocProofs.Lemmas.MatchPoint
import IocProofs.Lemmas.MatchExamples
import IocProofs.Lemmas.SemMatch
import IocProofs.Lemmas.SemMatchLoop
import IocProofs.Lemmas.OfString
namespace Ioc.C08
open Ioc Ioc.Tag Ioc.Match

/-- the list the choice is made from, spelled out -/
theorem C08_survivors_def (pop : List Prov) (s : Slot) (v : Bytes) (a0 : Args) :
    survivorsOf pop s v a0 =
      (let r1 := discovered pop s v (effArgs a0)
       let r2 := match find (effArgs a0) kQualifier with
         | some _ => r1.filter (qualPred (byId pop) (effArgs a0))
         | none => r1
       let others := r2.filter (· != s.holder)
       if others.isEmpty then r2 else others) := rfl

theorem C08_isPrim_def (pop : List Prov) (c : Nat) :
    isPrim (byId pop) c = match pop.find? (fun p => p.id == c) with
      | some p => p.primary
      | none => false := rfl

theorem C08_isUnn_def (pop : List Prov) (c : Nat) :
    isUnn (byId pop) c = match pop.find? (fun p => p.id == c) with
      | some p => !p.custom
      | none => false := rfl

/-- QUALIFIER: with a qualifier argument, everything injected — the single value and every slice element, wire or func,
    by type or by name — is a registered component declaring one of the requested qualifiers. -/
theorem C08_qualifier (pop : List Prov) (s : Slot) (v : Bytes) (a0 : Args) (qs : List Bytes) (pt : RPoint)
    (hp : parse? s.tag = some (v, a0)) (hq : find a0 kQualifier = some qs) (h : resolveOne pop s = some pt) :
    ∀ c ∈ pt.cands, ∃ p ∈ pop, p.id = c ∧ ∃ q, p.qual = some q ∧ q ∈ qs := by
  obtain ⟨hc, _, _, _, _⟩ := resolveOne_some hp h
  intro c hcm
  rw [hc] at hcm
  exact mem_qualified_qual pop s v a0 qs hq c (picked_subset_qualified pop s v a0 c hcm)

/-- PRIMARY: a unique Primary among the survivors of a single-valued point is what the point receives. -/
theorem C08_primary (pop : List Prov) (s : Slot) (v : Bytes) (a0 : Args) (c : Nat)
    (hp : parse? s.tag = some (v, a0)) (hs : s.kind.isSlice = false)
    (hc : c ∈ survivorsOf pop s v a0) (hcp : isPrim (byId pop) c = true)
    (huniq : ∀ m ∈ survivorsOf pop s v a0, isPrim (byId pop) m = true → m = c) :
    ∃ pt, resolveOne pop s = some pt ∧ pt.cands = [c] :=
  resolveOne_of_choose pop s v a0 c hp hs (choose_unique_primary (byId pop) _ c hc hcp huniq)

/-- UNNAMED: with no Primary among the survivors, a unique component without a custom name is what the point receives. -/
theorem C08_unnamed (pop : List Prov) (s : Slot) (v : Bytes) (a0 : Args) (u : Nat)
    (hp : parse? s.tag = some (v, a0)) (hs : s.kind.isSlice = false)
    (hu : u ∈ survivorsOf pop s v a0) (huc : isUnn (byId pop) u = true)
    (hnp : ∀ m ∈ survivorsOf pop s v a0, isPrim (byId pop) m = false)
    (huniq : ∀ m ∈ survivorsOf pop s v a0, isUnn (byId pop) m = true → m = u) :
    ∃ pt, resolveOne pop s = some pt ∧ pt.cands = [u] :=
  resolveOne_of_choose pop s v a0 u hp hs (choose_unique_unnamed (byId pop) _ u hu huc hnp huniq)

/-- in general the received component is a survivor; a Primary if the survivors contain one; else unnamed if they contain one -/
theorem C08_choice_rank (pop : List Prov) (s : Slot) (v : Bytes) (a0 : Args) (pt : RPoint)
    (hp : parse? s.tag = some (v, a0)) (hs : s.kind.isSlice = false) (h : resolveOne pop s = some pt) :
    ∀ c ∈ pt.cands, c ∈ survivorsOf pop s v a0 ∧
      ((∃ m ∈ survivorsOf pop s v a0, isPrim (byId pop) m = true) → isPrim (byId pop) c = true) ∧
      ((∀ m ∈ survivorsOf pop s v a0, isPrim (byId pop) m = false) →
        (∃ m ∈ survivorsOf pop s v a0, isUnn (byId pop) m = true) → isUnn (byId pop) c = true) := by
  obtain ⟨hc, _, _, _, _⟩ := resolveOne_some hp h
  intro c hcm
  rw [hc] at hcm
  rcases picked_single pop s v a0 hs with ⟨_, h2⟩ | ⟨d, hd, h2⟩ <;> rw [h2] at hcm
  · cases hcm
  · exact List.mem_singleton.1 hcm ▸ choose_spec _ _ _ hd

/-- INDEPENDENT: the per-property loop is a map — no field influences another. -/
theorem C08_independent (pop : List Prov) (slots : List Slot) :
    resolveAll pop slots = slots.mapM (resolveOne pop) :=
  resolveAll_eq_mapM pop slots

/-- … explicitly: the loop succeeds iff every field resolves, and then the i-th point is `resolveOne` of the i-th field. -/
theorem C08_independent_pointwise (pop : List Prov) (slots : List Slot) (pts : List RPoint) :
    resolveAll pop slots = some pts ↔ slots.map (resolveOne pop) = pts.map some :=
  resolveAll_some_iff pop slots pts

/-- OPTIONAL and EMPTY: an optional point for which no candidate survives (none found, or the qualifier removes all)
    resolves, to nothing at all; the loop goes on. -/
theorem C08_optional_empty (pop : List Prov) (s : Slot) (v : Bytes) (a0 : Args)
    (hp : parse? s.tag = some (v, a0)) (hopt : isRequired a0 = false) (he : survivorsOf pop s v a0 = []) :
    resolveOne pop s = some { cands := [], slice := s.kind.isSlice, required := false, incompat := [] } := by
  rw [resolveOne_empty pop s v a0 hp ((selfRemoved_eq_nil _ _).mp he), if_neg (by rw [hopt]; decide +kernel)]

/-- by-type instance of the hypothesis: no provider passes both the discovery test and the qualifier rule -/
theorem C08_optional_empty_byType (pop : List Prov) (hid : (pop.map (·.id)).Nodup) (s : Slot) (v : Bytes) (a0 : Args)
    (hb : ByType s v) (hp : parse? s.tag = some (v, a0)) (hopt : isRequired a0 = false)
    (hno : ∀ p ∈ pop, ¬ (found s v a0 p = true ∧ qualOK a0 p = true)) :
    resolveOne pop s = some { cands := [], slice := s.kind.isSlice, required := false, incompat := [] } := by
  apply C08_optional_empty pop s v a0 hp hopt
  unfold survivorsOf
  rw [selfRemoved_eq_nil, qualified_byType pop hid s v a0 hb, List.map_eq_nil_iff, List.filter_eq_nil_iff]
  intro p hm
  simpa using hno p hm

/-! non-vacuity (population of Lemmas/MatchExamples.lean) -/
section examples
open Ioc.Match.Ex

-- qualifier on a slice and on a single value
-- `ofString_ofList` first: the literals become character lists by rewriting, the kernel evaluates the rest
example : parse? sliceI0q.tag = some ([], [(ofString "Qualifier", [ofString "q1", ofString "q2"])]) := by
  repeat rw [ofString_ofList]
  decide +kernel
example : find [(ofString "Qualifier", [ofString "q1", ofString "q2"])] kQualifier = some [ofString "q1", ofString "q2"] := by decide +kernel
example : (resolveOne pop sliceI0q).map (·.cands) = some [1, 2] := by decide +kernel
example : (resolveOne pop oneT2q).map (·.cands) = some [1] := by decide +kernel       -- q1 beats the Primary 2 (q2)
-- Primary: survivors of `I0` (holder 4 dropped) are 0, 1, 2; 2 is the unique Primary
example : survivorsOf pop oneI0 [] [] = [0, 1, 2] ∧ isPrim (byId pop) 2 = true ∧
    (∀ m ∈ survivorsOf pop oneI0 [] [], isPrim (byId pop) m = true → m = 2) := by decide +kernel
example : (resolveOne pop oneI0).map (·.cands) = some [2] := by decide +kernel
-- unnamed: survivors of `I1` are 1 (custom name) and 3 (unnamed), no Primary
example : survivorsOf pop oneI1 [] [] = [1, 3] ∧ isUnn (byId pop) 3 = true ∧
    (∀ m ∈ survivorsOf pop oneI1 [] [], isPrim (byId pop) m = false) ∧
    (∀ m ∈ survivorsOf pop oneI1 [] [], isUnn (byId pop) m = true → m = 3) := by decide +kernel
example : (resolveOne pop oneI1).map (·.cands) = some [3] := by decide +kernel
-- an optional empty field in front does not disturb the fields behind it
example : parse? oneI0qNone.tag = some ([], [(ofString "Qualifier", [ofString "nope"]), (ofString "Required", [ofString "false"])]) := by
  repeat rw [ofString_ofList]
  decide +kernel
example : survivorsOf pop oneI0qNone [] [(ofString "Qualifier", [ofString "nope"]), (ofString "Required", [ofString "false"])] = [] := by decide +kernel
example : (resolveAll pop [oneI0qNone, sliceI0q, oneI0]).map (fun l => l.map (·.cands)) = some [[], [1, 2], [2]] := by decide +kernel
example : (resolveAll pop [sliceI0q, namedZ, oneI0]).isNone = true := by decide +kernel
end examples

/-! ### the tie to the code: the narrowing model IS the regenerated program

`Ioc.Progs.filterDependencies` is the syntax tree of `filterDependencies`
(container/processors/dependency_further_matching_processors.go), re-translated from /repo's source on every run
(harness/cmd/facts/prog.go) into the MiniGo deep embedding (Ioc.GoSem).  Run by the MiniGo interpreter, with the
reflection and tag-argument calls answered from the model's population (Ioc.SemMatch.fdFn), it returns exactly what the
model says — for EVERY population, holder, field kind, tag arguments and candidate list (nil entries included).
A change of the Go function changes the generated term and this proof is re-checked against it. -/

/-- the regenerated `filterDependencies` computes `Sem.filterDeps` -/
theorem C08_code_filterDependencies (c : Sem.FDCtx) (cs : List (Option Nat)) :
    Go.run (Sem.fdPrims c) Progs.filterDependencies [.ref 0 1, .list (cs.map Sem.encOptId)] ()
      = some (Sem.encFD (Sem.filterDeps c cs), ()) :=
  Sem.filterDependencies_sem c cs

/-- … and `narrow` (what every C08/C10 theorem above is about) is that result followed by the required/optional decision
    of the per-property loop: candidates → `.ok`, error → `.fail` for a required point, `.skip` for an optional one -/
theorem C08_narrow_is_code (byId : Nat → Option Prov) (holder : Nat) (k : Kind) (args : Args) (cs : List (Option Nat)) :
    ∃ res, Go.run (Sem.fdPrims ⟨byId, holder, k, args⟩) Progs.filterDependencies
              [.ref 0 1, .list (cs.map Sem.encOptId)] () = some (Sem.encFD res, ()) ∧
      narrow byId holder k args cs =
        (match res with
         | some l => .ok l
         | none => if isRequired args then .fail else .skip) :=
  ⟨_, Sem.filterDependencies_sem _ cs, Sem.narrow_eq_filterDeps byId holder k args cs⟩

/-- non-vacuity: on the example population the regenerated program picks the Primary (2) among the survivors 0, 1, 2 -/
example : Go.run (Sem.fdPrims ⟨byId Ex.pop, 4, .iface 0, []⟩) Progs.filterDependencies
    [.ref 0 1, .list ([some 0, some 1, some 2, some 4].map Sem.encOptId)] () =
    some (.tuple [.list [.ref 2 0], .nil], ()) :=
  (Sem.filterDependencies_sem ⟨byId Ex.pop, 4, .iface 0, []⟩ [some 0, some 1, some 2, some 4]).trans (by rfl)

/-- the per-property LOOP of dependencyFurtherMatchingPostProcessors.PostProcessProperties, regenerated: properties are
    visited in order; a non-component property is skipped; `filterDependencies` decides each component property ON ITS OWN
    (its result is stored into that property's `Injects`, an optional miss stores nil and CONTINUES with the next property,
    a required miss returns the error) — `Sem.fmLoop`.  This is the statement behind `C08_independent` (`resolveAll` =
    `mapM resolveOne`) and the repair of D3/D4 (the early `return nil, nil`), now about the code's own syntax tree. -/
theorem C08_code_propertyLoop (ps : List Sem.PropInfo) :
    Go.run (Sem.fmPrims ps) Progs.furtherMatching_PostProcessProperties [(Sem.fmEnv ps.length).head!.2, .nil, .nil] [] =
      some (if (Sem.fmLoop ps 0 []).2 then .tuple [.nil, Sem.errV] else .tuple [.nil, .nil], (Sem.fmLoop ps 0 []).1) :=
  Sem.furtherMatching_sem ps

end Ioc.C08
