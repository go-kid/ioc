/-
  C09 — Unsatisfied required points fail start-up cleanly; optional ones never do.
  PROPERTY THEOREMS ONLY (lemmas: IocProofs/Lemmas/AppLemmas.lean, M2Step.lean, M2StepInv.lean, M2StepFault.lean,
  M2StepFresh.lean, M2Succeeds*.lean).

  Model: Ioc.App.appRun (app/app.go:80-154) over the factory machine Ioc.Container (factory.go, InitializeComponent
  post_processor_registration_delegate.go:96-136).  Every theorem is for ALL scenarios (every dependency graph,
  candidate order, post-processor behaviour, fault placement) and every number of machine steps.
  "Run returns an error — it does not panic": `Outcome` has exactly the five values below, the machine has no panic
  transition left (D2, D3, D16, D17 are guarded in the repaired code); "does not hang" is C02_terminates, used here
  only as the hypothesis `(final a.sc).status ≠ .running` where it matters.

  Vocabulary (IocProofs/Lemmas/M2Step.lean): `Lc.Src sc st st0 c` — in state `st` the next thing the factory does is
  doGetComponent(c): c is the head of the boot list / of the refresh list (empty stack; `st0` = `st` with that head
  removed and the stage set), or c is the current candidate of the top frame (`st0 = st`).
  `Lc.CbFault sc n` — a before-processor (if wired), AfterPropertiesSet, Init or an after-processor (if wired) of n fails.
  `Lc.metasOf f` — what Inject keeps of the objects the frame collected: everything but the holder itself.
-/
import IocProofs.Lemmas.AppLemmas
import IocProofs.Lemmas.M2StepFault
import IocProofs.Lemmas.M2StepFresh
import IocProofs.Lemmas.M2Examples
import IocProofs.Lemmas.M2SucceedsConv
import IocProofs.Lemmas.Match
import IocProofs.Lemmas.SemApp
import IocProofs.Lemmas.SemMisc
import IocProofs.Lemmas.SemUnmarshall
namespace Ioc.C09
open Ioc Ioc.M2 Ioc.App

/-! ### the stages of Run -/

/-- Run succeeds exactly when every stage succeeds. -/
theorem C09_stages (a : AppScen) :
    (appRun a).outcome = .ok ↔
      a.loaderFail = false ∧ a.scanFail = false ∧ (final a.sc).status = .done ∧
      (callRunners (sortOrdered (runnersOf a (final a.sc)))).2 = true := by
  by_cases hr : Ready a
  · rw [(appRun_ready a hr).1]
    cases (callRunners (sortOrdered (runnersOf a (final a.sc)))).2 <;> simpa [Ready] using hr
  · exact ⟨fun h => absurd h (appRun_not_ready a hr).2.1, fun ⟨h1, h2, h3, _⟩ => absurd ⟨h1, h2, h3⟩ hr⟩

/-- A failure before the runner stage: no application runner is invoked. -/
theorem C09_no_runner_after_failure (a : AppScen)
    (h : (appRun a).outcome = .errConfig ∨ (appRun a).outcome = .errFactory ∨ (appRun a).outcome = .errRefresh) :
    (appRun a).invoked = [] := by
  by_cases hr : Ready a
  · rw [(appRun_ready a hr).1] at h
    revert h
    cases (callRunners (sortOrdered (runnersOf a (final a.sc)))).2 <;> simp
  · exact (appRun_not_ready a hr).1

/-- The outcome is one of five values, and the three error outcomes before the runners name the stage that failed:
    a loader; a scanner or a component created in the boot phase; a component created by Refresh
    (`hterm` is C02_terminates: the machine is not still running after `fuelBound` steps). -/
theorem C09_outcome_total (a : AppScen) :
    ((appRun a).outcome = .ok ∨ (appRun a).outcome = .errConfig ∨ (appRun a).outcome = .errFactory ∨
      (appRun a).outcome = .errRefresh ∨ (appRun a).outcome = .errRunners) ∧
    ((appRun a).outcome = .errConfig ↔ a.loaderFail = true) ∧
    ((appRun a).outcome = .errFactory ↔
      a.loaderFail = false ∧ (a.scanFail = true ∨ ∃ x, (final a.sc).status = .failed x .factory)) ∧
    ((final a.sc).status ≠ .running →
      ((appRun a).outcome = .errRefresh ↔
        a.loaderFail = false ∧ a.scanFail = false ∧ ∃ x, (final a.sc).status = .failed x .refresh)) := by
  obtain ⟨h1, h2, h3⟩ := appRun_outcome a
  refine ⟨?_, h1, h2, fun hterm => ?_⟩
  · cases (appRun a).outcome <;> simp
  · rw [h3]; simp [hterm]

/-- A failed factory machine (whatever the cause, see C09_failure_cause) makes Run return an error of a stage
    before the runners, and no runner is invoked. -/
theorem C09_failed_start_errors (a : AppScen) (x : Nat) (s : Stage) (h : (final a.sc).status = .failed x s) :
    ((appRun a).outcome = .errConfig ∨ (appRun a).outcome = .errFactory ∨ (appRun a).outcome = .errRefresh) ∧
    (appRun a).invoked = [] := by
  have hr : ¬ Ready a := by intro ⟨_, _, h3⟩; rw [h] at h3; cases h3
  obtain ⟨hinv, hok, hrun⟩ := appRun_not_ready a hr
  refine ⟨?_, hinv⟩
  cases ho : (appRun a).outcome <;> simp_all

/-! ### every place where something is missing or a callback fails is propagated -/

/-- The factory is about to get `c` (boot list, refresh list or current candidate) and the early-reference factory of
    `c` — a component in creation, not yet referenced early — fails: the start fails at `c`. -/
theorem C09_fault_early (sc : Scen) (st st0 : St) (c : Nat) (hr : st.status = .running) (src : Lc.Src sc st st0 c)
    (h1 : st0.l1 c = none) (h2 : st0.l2 c = none) (h3 : st0.l3 c = true) (hf : sc.fEarly c = true) :
    lookup sc st0 c = .err (addLog sc st0 c (.early c)) ∧
    (step sc st).status = .failed c st0.stage := by
  obtain ⟨he, hs⟩ := Lc.lookup_fault sc st0 c h1 h2 h3 hf
  exact ⟨he, by rw [Lc.step_visit_err sc st st0 c src hr _ he]; simpa using hs⟩

/-- The factory is about to get `c`, `c` has to be created, and its configuration values / properties callbacks fail
    (`cfgOk c = false`: a required `value`/`prefix` is missing, a PostProcessAfterInstantiation/Properties callback
    errs) or a required injection point has no candidate (`points c = none`): the start fails at `c`.
    Likewise when `c` is not a registered definition at all. -/
theorem C09_fault_config (sc : Scen) (st st0 : St) (c : Nat) (hr : st.status = .running) (src : Lc.Src sc st st0 c)
    (h1 : st0.l1 c = none) (h2 : st0.l2 c = none) (h3 : st0.l3 c = false)
    (hbad : c ∉ sc.names ∨ (sc.wired c = true ∧ (sc.cfgOk c = false ∨ sc.points c = none))) :
    (step sc st).status = .failed c st0.stage := by
  rw [Lc.step_visit_miss sc st st0 c src hr (Lc.lookup_miss sc st0 c h1 h2 h3)]
  by_cases hn : c ∈ sc.names
  · rcases hbad with h | ⟨hw, h⟩
    · exact absurd hn h
    · exact Lc.enter_fault sc st0 c hn hw h
  · exact Lc.enter_unknown sc st0 c hn

/-- The top frame has processed all its points and one of its initialization callbacks fails
    (before-processor, AfterPropertiesSet, Init, after-processor): the start fails at that component. -/
theorem C09_fault_callback (sc : Scen) (st : St) (f : Frame) (rest : List Frame) (hr : st.status = .running)
    (hs : st.stack = f :: rest) (hp : ¬ f.p < (pts sc f.name).length) (hf : Lc.CbFault sc f.name) :
    (step sc st).status = .failed f.name st.stage := by
  rw [Lc.step_cbFail sc st f rest hr hs hp ((Lc.initCallbacks_snd sc st f.name).mpr hf)]
  simp [failAt]

/-- The top frame has asked for every candidate of a REQUIRED point and what it collected is unusable — only the
    holder itself, or something not assignable to the field: the start fails at the holder. -/
theorem C09_fault_required (sc : Scen) (st : St) (f : Frame) (rest : List Frame) (hr : st.status = .running)
    (hs : st.stack = f :: rest) (hp : f.p < (pts sc f.name).length)
    (hd : ¬ f.d < ((pts sc f.name)[f.p]).cands.length) (hreq : ((pts sc f.name)[f.p]).required = true)
    (hne : ((pts sc f.name)[f.p]).cands ≠ [])
    (h : Lc.metasOf f = [] ∨
         (Lc.metasOf f).any (fun o => ((pts sc f.name)[f.p]).incompat.contains o.name) = true) :
    (step sc st).status = .failed f.name st.stage := by
  rw [Lc.required_step sc st f rest hr hs hp hd hreq hne h]; rfl

/-! ### clean failure -/

/-- Once failed, always failed — the very same state at every later step count; no creation is left in progress and
    no early reference (l2) or early-reference factory (l3) is left in the cache. -/
theorem C09_failed_final (sc : Scen) (k : Nat) (x : Nat) (s : Stage)
    (h : (run sc k (init sc)).status = .failed x s) :
    (∀ m, run sc (k + m) (init sc) = run sc k (init sc)) ∧ (run sc k (init sc)).stack = [] ∧
    ∀ n, (run sc k (init sc)).l2 n = none ∧ (run sc k (init sc)).l3 n = false :=
  Lc.failed_final sc k x s h

/-! ### optional points -/

/-- Injection time: the top frame has asked for every candidate of a point marked required=false.  Whatever it
    collected, the machine keeps running; and if nothing usable was collected (only the holder itself, or something
    not assignable) no field is written at all — the field keeps its zero value. -/
theorem C09_optional_never_fails (sc : Scen) (st : St) (f : Frame) (rest : List Frame) (hr : st.status = .running)
    (hs : st.stack = f :: rest) (hp : f.p < (pts sc f.name).length)
    (hd : ¬ f.d < ((pts sc f.name)[f.p]).cands.length) (hopt : ((pts sc f.name)[f.p]).required = false) :
    (step sc st).status = .running ∧
    ((Lc.metasOf f = [] ∨ (Lc.metasOf f).any (fun o => ((pts sc f.name)[f.p]).incompat.contains o.name) = true) →
      (step sc st).fields = st.fields) :=
  Lc.optional_step sc st f rest hr hs hp hd hopt

/-- The zero value, at every step count of every start: when the top frame has asked for every candidate of an optional
    point and collected nothing usable, the field of that point is empty before the step (it was never written) and
    empty after it, and the machine keeps running. -/
theorem C09_optional_zero (sc : Scen) (k : Nat) (f : Frame) (rest : List Frame)
    (hr : (run sc k (init sc)).status = .running) (hs : (run sc k (init sc)).stack = f :: rest)
    (hp : f.p < (pts sc f.name).length)
    (hd : ¬ f.d < ((pts sc f.name)[f.p]).cands.length) (hopt : ((pts sc f.name)[f.p]).required = false)
    (hun : Lc.metasOf f = [] ∨ (Lc.metasOf f).any (fun o => ((pts sc f.name)[f.p]).incompat.contains o.name) = true) :
    (run sc (k + 1) (init sc)).status = .running ∧ (run sc (k + 1) (init sc)).fields f.name f.p = [] := by
  rw [Lc.run_succ]
  obtain ⟨h1, h2⟩ := Lc.optional_step sc _ f rest hr hs hp hd hopt
  exact ⟨h1, by rw [h2 hun]; exact Lc.current_field_zero sc k f rest hr hs⟩

/-- Configuration time: narrowing the candidates of a point whose tag says required=false never reports the
    start-up error, whatever the candidates, qualifiers and population are. -/
theorem C09_optional_narrow (byId : Nat → Option Match.Prov) (holder : Nat) (k : Match.Kind) (args : Tag.Args)
    (cs : List (Option Nat)) (h : Tag.isRequired args = false) : Match.narrow byId holder k args cs ≠ .fail := by
  rw [Match.narrow_eq, h]
  simp only [Bool.false_eq_true, if_false]
  repeat' split
  all_goals nofun

/-! ### nothing else ever fails a start -/

/-- EXHAUSTIVE list of causes.  If a running machine fails at `x` in one step then, in the state before the step:
    `x` is not a registered definition; or `x` is wired and its configuration / required-point resolution fails; or
    the early-reference factory of `x` fails; or the top frame is `x`, it finished a required point and collected
    only `x` itself, or something incompatible; or the top frame is `x`, all points done, and a callback of `x` fails
    or the stale-version check fires (a post-processor substituted `x` after another, already finished component
    received the early reference). -/
theorem C09_failure_cause (sc : Scen) (st : St) (x : Nat) (s : Stage) (hr : st.status = .running)
    (hf : (step sc st).status = .failed x s) :
    x ∉ sc.names ∨
    (sc.wired x = true ∧ (sc.cfgOk x = false ∨ sc.points x = none)) ∨
    (sc.fEarly x = true ∧ st.l3 x = true) ∨
    (∃ f rest, st.stack = f :: rest ∧ f.name = x ∧ ∃ hp : f.p < (pts sc f.name).length,
      ((pts sc f.name)[f.p]).required = true ∧ ((pts sc f.name)[f.p]).cands ≠ [] ∧
      ¬ f.d < ((pts sc f.name)[f.p]).cands.length ∧
      ((∀ o ∈ f.acc, o.name = x) ∨ (∃ o ∈ f.acc, o.name ≠ x ∧ o.name ∈ ((pts sc f.name)[f.p]).incompat))) ∨
    (∃ f rest, st.stack = f :: rest ∧ f.name = x ∧ ¬ f.p < (pts sc x).length ∧
      (Lc.CbFault sc x ∨
       (initResult sc x ≠ raw x ∧ ∃ e, st.l2 x = some e ∧ finishedHolderHas sc st e = true))) :=
  Lc.failure_cause sc st x s hr hf

/-! ### a fault on a reachable name always fails the start (converse of C02_succeeds)

  `Sx.Reach sc n`: n is in boot ++ eager or a candidate of a point of a reached name.  `Sx.StaticFault sc n`: n is not a
  definition, or (wired) its configuration fails / a required point has no candidate, or one of its callbacks fails, or
  it has a required point whose candidates are all n itself, or one with an unassignable candidate other than n.
  `Lc.WF sc`: post-processors return an object of the component they were given (`(earlyO n).name = n`,
  `(afterO n).name = n`) — otherwise arbitrary substitution, any candidate order, any other faults. -/

/-- A static fault on a name the start can reach makes the start fail: the machine never ends in `done`; it ends
    `failed` (termination). -/
theorem C09_fault_fails (sc : Scen) (wf : Lc.WF sc) (n : Nat) (hn : Sx.Reach sc n) (hf : Sx.StaticFault sc n) :
    (final sc).status ≠ .done ∧ ∃ x s, (final sc).status = .failed x s := by
  have hnd : (final sc).status ≠ .done := fun hd => Sx.done_no_fault sc wf _ hd n hn hf
  refine ⟨hnd, ?_⟩
  cases h : (final sc).status with
  | running => exact absurd h (terminates_any sc)
  | done => exact absurd h hnd
  | failed x s => exact ⟨x, s, rfl⟩

/-- The same read forwards: after a successful start (ANY name-preserving post-processors, any order) every reachable
    name has been created and none of them has a static fault. -/
theorem C09_done_sound (sc : Scen) (wf : Lc.WF sc) (hd : (final sc).status = .done) (n : Nat) (hn : Sx.Reach sc n) :
    (final sc).l1 n ≠ none ∧ ¬ Sx.StaticFault sc n :=
  ⟨Sx.done_reach_published sc wf _ hd n hn, Sx.done_no_fault sc wf _ hd n hn⟩

/-! ### non-vacuity -/

open Ioc.M2.Ex

/-- a failing Init deep in the diamond tail of a cycle: Run returns the refresh error, no runner runs, and the failed
    state is clean -/
example : (final cycInitFault).status = .failed 5 .refresh ∧ (final cycInitFault).stack = [] ∧
    (∀ n ∈ cycInitFault.names, (final cycInitFault).l2 n = none ∧ (final cycInitFault).l3 n = false) ∧
    (appRun { appScen 0 with sc := cycInitFault }).outcome = .errRefresh := by decide +kernel

/-- a required point without candidate -/
example : (final cycMissing).status = .failed 3 .refresh ∧
    (appRun { appScen 0 with sc := cycMissing }).outcome = .errRefresh := by decide +kernel

/-- an optional point whose only candidate is incompatible: the start succeeds and the field keeps its zero value -/
example : (final cycOptional).status = .done ∧ (final cycOptional).fields 4 1 = [] ∧
    (final cycOptional).fields 4 0 = [raw 5] := by decide +kernel

/-- the hypotheses of C09_optional_zero hold in a reachable state: after 16 steps of `cycOptional` the top frame is
    component 4 at its optional point 1, having collected the incompatible 7 -/
example : (run cycOptional 16 (init cycOptional)).status = .running ∧
    (run cycOptional 16 (init cycOptional)).stack.map (fun f => (f.name, f.p, f.d, f.acc)) =
      [(4, 1, 1, [raw 7]), (2, 2, 0, []), (1, 0, 0, []), (0, 0, 0, [])] ∧
    ((pts cycOptional 4)[1]?).map (fun p => (p.required, p.cands, p.incompat)) = some (false, [7], [7]) := by decide +kernel

/-- the hypotheses of C09_fault_callback hold in a reachable state: after 7 steps of `cycInitFault` the machine is
    running, the top frame is component 5 (below it 3, 2, 1, 0), it has no points left, and its Init fails -/
example : (run cycInitFault 7 (init cycInitFault)).status = .running ∧
    (run cycInitFault 7 (init cycInitFault)).stack.map (fun f => (f.name, f.p)) = [(5, 0), (3, 0), (2, 1), (1, 0), (0, 0)] ∧
    (pts cycInitFault 5).length = 0 ∧ cycInitFault.fInit 5 = true ∧
    (step cycInitFault (run cycInitFault 7 (init cycInitFault))).status = .failed 5 .refresh := by decide +kernel

/-- every stage: a failing loader, a failing scanner, a failing runner, success -/
example : (appRun { appScen 0 with loaderFail := true }).outcome = .errConfig ∧
    (appRun { appScen 0 with scanFail := true }).outcome = .errFactory ∧
    (appRun (appScen 3)).outcome = .errRunners ∧ (appRun (appScen 0)).outcome = .ok := by decide +kernel

/-- the hypotheses of C09_fault_fails: component 5 of `cycInitFault` is reached along 0 → 1 → 2 → 3 → 5 and its Init fails;
    component 3 of `cycMissing` has a required point without candidate -/
example : Sx.Reach cycInitFault 5 ∧ Sx.StaticFault cycInitFault 5 :=
  ⟨((((Sx.Reach.root (n := 0) (by decide +kernel)).edge 1 (by decide +kernel)).edge 2 (by decide +kernel)).edge 3 (by decide +kernel)).edge 5 (by decide +kernel),
   by decide +kernel⟩
example : Lc.WF cycInitFault ∧ Lc.WF cycMissing := ⟨⟨fun _ => rfl, fun _ => rfl⟩, ⟨fun _ => rfl, fun _ => rfl⟩⟩
example : Sx.Reach cycMissing 3 ∧ Sx.StaticFault cycMissing 3 :=
  ⟨(((Sx.Reach.root (n := 0) (by decide +kernel)).edge 1 (by decide +kernel)).edge 2 (by decide +kernel)).edge 3 (by decide +kernel), by decide +kernel⟩
/-- the lazy component 6 is not needed by anybody: a fault there does not matter (C05_lazy_only_if_needed) -/
example : (final { cyc with fInit := fun n => n == 6 }).status = .done := by decide +kernel

/-! ### the tie to the code: the stage pipeline IS the regenerated program of App.run

`Ioc.Progs.app_run` is the syntax tree of `App.run` (app/app.go), re-translated from /repo's source on every run.  Run by
the MiniGo interpreter with each stage method failing as an arbitrary predicate says, it calls initConfiguration,
initFactory, refresh, callRunners in this order, each only when every earlier one returned nil, and returns nil exactly
when all four did — the pipeline `App.appRun` (C09_stages) is written after. -/

theorem C09_code_run (fails : String → Bool) :
    Go.run (Sem.runPrims fails) Progs.app_run [] [] =
      some (if (Sem.stagesUntilFail fails Sem.theStages).2 then .nil else Sem.errA,
            (Sem.stagesUntilFail fails Sem.theStages).1) :=
  Sem.app_run_sem fails

/-- a failing stage is the last one called, and the start returns an error -/
theorem C09_code_run_stops (fails : String → Bool) (s : String) (hs : s ∈ (Sem.stagesUntilFail fails Sem.theStages).1)
    (hf : fails s = true) :
    (Sem.stagesUntilFail fails Sem.theStages).2 = false ∧ (Sem.stagesUntilFail fails Sem.theStages).1.getLast? = some s :=
  Sem.stagesUntilFail_stops fails _ s hs hf

example : Go.run (Sem.runPrims (fun s => s == "refresh")) Progs.app_run [] [] =
    some (Sem.errA, ["initConfiguration", "initFactory", "refresh"]) :=
  (Sem.app_run_sem _).trans (by rfl)

/-- the three one-line stage wrappers of App, regenerated (app.go:111-133): each calls exactly its stage — Configure.Initialize,
    Factory.PrepareComponents, Factory.Refresh — and returns an error if and only if the stage did (`C09_code_run` is about
    the sequence of the wrappers) -/
theorem C09_code_stage_wrappers (fails : Bool) :
    Go.run (Sem.stagePrims "self.Configure.Initialize" fails) Progs.app_initConfiguration [] [] =
      some (if fails then Sem.errN else .nil, ["self.Configure.Initialize"]) ∧
    Go.run (Sem.stagePrims "self.Factory.PrepareComponents" fails) Progs.app_initFactory [] [] =
      some (if fails then Sem.errN else .nil, ["self.Factory.PrepareComponents"]) ∧
    Go.run (Sem.stagePrims "self.Factory.Refresh" fails) Progs.app_refresh [] [] =
      some (if fails then Sem.errN else .nil, ["self.Factory.Refresh"]) :=
  Sem.stageWrappers_sem fails

/-- Property.IsRequired, regenerated: a point is required unless its `required` argument holds the value "false" — nothing
    else (no other argument, no tag, no field type) makes a point optional -/
theorem C09_code_IsRequired (has : Sem.AM → String → List String → Bool) (fmtKey : String → String) (w : Sem.PW) :
    Go.run (Sem.pmPrims has fmtKey) Progs.prop_IsRequired [] w = some (.bool (!(has w.args "required" ["false"])), w) :=
  Sem.isRequired_sem has fmtKey w

end Ioc.C09
