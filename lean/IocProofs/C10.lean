/-
  C10 — The outcome is independent of registration and enumeration order.  PROPERTY THEOREMS ONLY
  (lemmas: IocProofs/Lemmas/Match*.lean).  This file: the part about ONE injection point (`C10_choice_perm`);
  the run-level theorems are added in the section at the end.

  Model: Ioc.Match.  The registry enumeration order (sync.Map Range, registration order) is the order of the list `pop`;
  "every permutation of the order" is `pop.Perm pop'`.  Ids are row identities and names are unique (C07_unique).
-/
import IocProofs.Lemmas.MatchPoint
import IocProofs.Lemmas.TagTotal
import IocProofs.Lemmas.MatchExamples
import IocProofs.Lemmas.M2SucceedsPerm
import Ioc.Generated.Facts
import IocProofs.Lemmas.SemRefresh
import IocProofs.Lemmas.Order
import IocProofs.Lemmas.SemOrder
import IocProofs.Lemmas.SemSmall
import IocProofs.Lemmas.SemApp
namespace Ioc.C10
open Ioc Ioc.Tag Ioc.Match

/-- the candidates of a point after qualifier filtering and self removal (what the Primary / unnamed loop ranks) -/
def survivors (pop : List Prov) (s : Slot) : List Nat :=
  match parse? s.tag with
  | some (v, a0) => survivorsOf pop s v a0
  | none => []

def primaries (pop : List Prov) (s : Slot) : List Nat := (survivors pop s).filter (isPrim (byId pop))
def unnamed (pop : List Prov) (s : Slot) : List Nat := (survivors pop s).filter (isUnn (byId pop))

/-- genuinely tied: more than one Primary; or no Primary and more than one unnamed; or no Primary, no unnamed and more
    than one candidate -/
def Tied (pop : List Prov) (s : Slot) : Prop :=
  (primaries pop s).length > 1 ∨
  ((primaries pop s) = [] ∧ (unnamed pop s).length > 1) ∨
  ((primaries pop s) = [] ∧ (unnamed pop s) = [] ∧ (survivors pop s).length > 1)

/-- the equally ranked candidates: the Primaries if there are any, else the unnamed if there are any, else all -/
def tiedSet (pop : List Prov) (s : Slot) : List Nat :=
  if (primaries pop s).isEmpty then (if (unnamed pop s).isEmpty then survivors pop s else unnamed pop s)
  else primaries pop s

theorem C10_Tied_iff (pop : List Prov) (s : Slot) : Tied pop s ↔ TiedL (byId pop) (survivors pop s) = true := by
  unfold Tied TiedL primaries unnamed
  simp only [Bool.or_eq_true, Bool.and_eq_true, decide_eq_true_eq, List.isEmpty_iff, and_or_left]

instance (pop : List Prov) (s : Slot) : Decidable (Tied pop s) := by unfold Tied; exact inferInstance

theorem C10_tiedSet_eq (pop : List Prov) (s : Slot) : tiedSet pop s = tiedSetL (byId pop) (survivors pop s) := rfl

/-- ORDER INDEPENDENCE of one injection point.  Under every permutation of the enumeration order the point fails in both
    or resolves in both, with the same `required` / `slice` flags and the same incompatibility marking; a slice receives
    the same components; a single-valued point that is not tied receives the SAME component; a tied one may vary, but
    only inside the tied set. -/
theorem C10_choice_perm (pop pop' : List Prov) (hperm : pop.Perm pop')
    (hid : (pop.map (·.id)).Nodup) (hnm : (pop.map (·.name)).Nodup) (s : Slot) :
    match resolveOne pop s, resolveOne pop' s with
    | none, none => True
    | some a, some b =>
        a.required = b.required ∧ a.slice = b.slice ∧
        (∃ bad : Nat → Bool, a.incompat = a.cands.filter bad ∧ b.incompat = b.cands.filter bad) ∧
        (s.kind.isSlice = true → a.cands.Perm b.cands) ∧
        (s.kind.isSlice = false → ¬ Tied pop s → a.cands = b.cands) ∧
        (s.kind.isSlice = false → (∀ c ∈ a.cands, c ∈ tiedSet pop s) ∧ (∀ c ∈ b.cands, c ∈ tiedSet pop s))
    | _, _ => False := by
  obtain ⟨v, a0, hp⟩ := parse?_total s.tag
  have hsv : survivors pop s = survivorsOf pop s v a0 := by simp [survivors, hp]
  rcases resolveOne_perm hperm hid hnm s v a0 hp with ⟨h1, h2⟩ | ⟨a, b, h1, h2, hr, hsl, hbad, hS, hU, hT⟩
  · rw [h1, h2]; trivial
  · rw [h1, h2]
    refine ⟨hr, hsl, hbad, hS, ?_, ?_⟩
    · exact fun hs hnt => hU hs (hsv ▸ Bool.eq_false_iff.2 fun ht => hnt ((C10_Tied_iff pop s).mpr ht))
    · exact fun hs => C10_tiedSet_eq pop s ▸ hsv ▸ hT hs

/-- being tied, and the tied set, do not depend on the enumeration order either -/
theorem C10_tied_perm (pop pop' : List Prov) (hperm : pop.Perm pop')
    (hid : (pop.map (·.id)).Nodup) (hnm : (pop.map (·.name)).Nodup) (s : Slot) :
    (Tied pop s ↔ Tied pop' s) ∧ (tiedSet pop s).Perm (tiedSet pop' s) := by
  obtain ⟨v, a0, hp⟩ := parse?_total s.tag
  have hsv : survivors pop s = survivorsOf pop s v a0 := by simp [survivors, hp]
  have hsv' : survivors pop' s = survivorsOf pop' s v a0 := by simp [survivors, hp]
  have hsur := survivorsOf_perm hperm hid hnm s v a0
  have hby := byId_perm hperm hid
  constructor
  · rw [C10_Tied_iff, C10_Tied_iff, hsv, hsv', ← hby, TiedL_perm (byId pop) hsur]
  · rw [C10_tiedSet_eq, C10_tiedSet_eq, hsv, hsv', ← hby]
    exact tiedSetL_perm (byId pop) hsur

/-- without a tie the tied set is the one component the point receives -/
theorem C10_untied_forced (pop : List Prov) (s : Slot) (pt : RPoint) (hs : s.kind.isSlice = false)
    (h : resolveOne pop s = some pt) (hnt : ¬ Tied pop s) (hne : pt.cands ≠ []) : tiedSet pop s = pt.cands := by
  obtain ⟨v, a0, hp⟩ := parse?_total s.tag
  have hsv : survivors pop s = survivorsOf pop s v a0 := by simp [survivors, hp]
  obtain ⟨hc, _, _, _, _⟩ := resolveOne_some hp h
  have ht : TiedL (byId pop) (survivorsOf pop s v a0) = false :=
    hsv ▸ Bool.eq_false_iff.2 fun ht => hnt ((C10_Tied_iff pop s).mpr ht)
  rcases picked_single pop s v a0 hs with ⟨_, h2⟩ | ⟨d, hd, h2⟩
  · rw [hc, h2] at hne; exact absurd rfl hne
  · rw [hc, h2, C10_tiedSet_eq, hsv]
    exact choose_untied _ _ _ hd ht

/-! non-vacuity (populations of Lemmas/MatchExamples.lean: `pop'` is `pop` in another order, `popTie'` is `popTie`) -/
section examples
open Ioc.Match.Ex

example : pop.Perm pop' := by decide +kernel
example : (pop.map (·.id)).Nodup ∧ (pop.map (·.name)).Nodup := by decide +kernel
-- slice: same components, different order
example : (resolveOne pop sliceI0).map (·.cands) = some [0, 1, 2, 4] ∧
    (resolveOne pop' sliceI0).map (·.cands) = some [4, 2, 0, 1] := by decide +kernel
-- single, not tied (unique Primary): the same component under both orders
example : ¬ Tied pop oneI0 := by decide +kernel
example : tiedSet pop oneI0 = [2] := by decide +kernel
example : (resolveOne pop oneI0).map (·.cands) = some [2] ∧ (resolveOne pop' oneI0).map (·.cands) = some [2] := by decide +kernel
-- single, not tied (no Primary, unique unnamed)
example : ¬ Tied pop oneI1 ∧ (resolveOne pop oneI1).map (·.cands) = some [3] ∧
    (resolveOne pop' oneI1).map (·.cands) = some [3] := by decide +kernel
-- a genuine tie: without the Primary, `I0` seen from holder 1 has the unnamed 0 and 4; the order decides, inside {0, 4}
example : popTie.Perm popTie' := by decide +kernel
example : Tied popTie tieI0 ∧ tiedSet popTie tieI0 = [0, 4] := by decide +kernel
example : (resolveOne popTie tieI0).map (·.cands) = some [4] ∧ (resolveOne popTie' tieI0).map (·.cands) = some [0] := by decide +kernel
-- failure is order independent as well
example : (resolveOne pop namedZ).isNone = true ∧ (resolveOne pop' namedZ).isNone = true := by decide +kernel
end examples

/-! ## run level (added later) -/

/-! Model: Ioc.Container (M2).  The enumeration order of the registry reaches the factory machine only as the order of the
  candidate lists of its points (M3 hands them over in that order: `C10_choice_perm`; slices keep it, single points are
  narrowed to one candidate).  `Sx.SameUpToOrder sc sc'` (Lemmas/M2SucceedsPerm.lean): same `names boot eager`, same
  `wired logged cfgOk fBefore fAps fInit fAfter fEarly earlyO afterO` at every name, and for every name `points` is
  `none` for both or `some` lists related point by point (`Sx.All2`) by `Sx.PointPerm`: `cands` permuted, same `slice`,
  `required`, same `incompat` as a set.
  `Sx.NoSubstitution sc`: `earlyO n = raw n ∧ afterO n = raw n` for all n.
  `Sx.Reach sc n`: n ∈ boot ++ eager or a candidate of a point of a reached name. -/
section run
open Ioc.M2 Ioc.M2.Sx

/- The full statement
     theorem C10_run_perm (sc sc') (h : SameUpToOrder sc sc') : (final sc).status = .done ↔ (final sc').status = .done
   is FALSE of the model and of the code in two ways: a post-processor that substitutes a component on a cycle after
   initialization (`C10_counterexample`, finding D6 / KF-C10-1), and — even without any substitution — a failing
   early-reference factory of a component on a cycle (`C10_counterexample_early`): which member of a cycle is asked for
   its early reference depends on which member is created first.  Proved: the statement without substitution and
   without a failing early-reference factory on a reachable name. -/
theorem C10_run_perm_partial (sc sc' : Scen) (h : SameUpToOrder sc sc') (ns : NoSubstitution sc)
    (ns' : NoSubstitution sc') (he : ∀ n, Reach sc n → sc.fEarly n = false) :
    (final sc).status = .done ↔ (final sc').status = .done :=
  run_perm sc sc' h ns ns' he

/-- … because success is characterised by order-independent data: the reachable names and their static faults -/
theorem C10_reach_fault_perm (sc sc' : Scen) (h : SameUpToOrder sc sc') (n : Nat) :
    (Reach sc n ↔ Reach sc' n) ∧ (StaticFault sc n ↔ StaticFault sc' n) :=
  ⟨⟨fun hr => hr.perm h, fun hr => hr.perm h.symm⟩, ⟨fun hf => hf.perm h, fun hf => hf.perm h.symm⟩⟩

/-- holder 0 with one slice point over `order`; 1 ↔ 2 a cycle; everything else benign -/
def ring (order : List Nat) : Scen :=
  { names := [0, 1, 2], boot := [], eager := [0, 1, 2],
    points := fun n => match n with
      | 0 => some [⟨order, true, true, []⟩]
      | 1 => some [⟨[2], false, true, []⟩]
      | 2 => some [⟨[1], false, true, []⟩]
      | _ => some [],
    wired := fun _ => true, logged := fun _ => true, cfgOk := fun _ => true,
    fBefore := fun _ => false, fAps := fun _ => false, fInit := fun _ => false, fAfter := fun _ => false,
    fEarly := fun _ => false, earlyO := raw, afterO := raw }

/-- D6: InitializeComponent substitutes component 1 -/
def d6 (order : List Nat) : Scen := { ring order with afterO := fun n => if n = 1 then ⟨1, 2⟩ else raw n }

/-- the early-reference factory of component 1 fails; no substitution anywhere -/
def ringEarly (order : List Nat) : Scen := { ring order with fEarly := fun n => n == 1 }

theorem ring_points_rel (n : Nat) : PointsRel ((ring [1, 2]).points n) ((ring [2, 1]).points n) := by
  match n with
  | 0 => exact .cons ⟨by decide +kernel, rfl, rfl, fun _ => Iff.rfl⟩ .nil
  | 1 => exact .cons ⟨by decide +kernel, rfl, rfl, fun _ => Iff.rfl⟩ .nil
  | 2 => exact .cons ⟨by decide +kernel, rfl, rfl, fun _ => Iff.rfl⟩ .nil
  | _ + 3 => exact .nil

/-- KF-C10-1 (D6) in the model: the two scenarios differ only in the order of the slice candidates of the holder, yet one
    start fails at the version check of component 1 and the other succeeds -/
theorem C10_counterexample :
    SameUpToOrder (d6 [1, 2]) (d6 [2, 1]) ∧
    (final (d6 [1, 2])).status = .failed 1 .refresh ∧ (final (d6 [2, 1])).status = .done :=
  ⟨.of_points _ _ ring_points_rel, by decide +kernel⟩

/-- without any substitution: a failing early-reference factory on a cycle is met under one order and not the other -/
theorem C10_counterexample_early :
    SameUpToOrder (ringEarly [1, 2]) (ringEarly [2, 1]) ∧
    NoSubstitution (ringEarly [1, 2]) ∧ NoSubstitution (ringEarly [2, 1]) ∧
    (final (ringEarly [1, 2])).status = .failed 1 .refresh ∧ (final (ringEarly [2, 1])).status = .done :=
  ⟨.of_points _ _ ring_points_rel, fun _ => ⟨rfl, rfl⟩, fun _ => ⟨rfl, rfl⟩,
   by decide +kernel⟩

/-- regenerated from factory.go / definition registry: Refresh still sorts the names before creating them (the order of
    `eager` is not an input), GetMetas still enumerates in map order (which is why the candidate order IS an input) -/
theorem C10_refresh_sorted : Ioc.Facts.refreshSortsNames = true ∧ Ioc.Facts.getMetasSorts = false := by decide +kernel

/-- … and what it sorts by: the component NAMES with the plain `<` on strings — a total order that does not depend on the
    order in which the definitions were enumerated (a comparator mixing names with `Order()` values is not transitive
    and makes the creation order, hence the outcome on cycles with substitutes, depend on the enumeration) -/
theorem C10_refresh_by_name : Ioc.Facts.refreshSortCall = "names | i j | i < j" := rfl

/-! non-vacuity of C10_run_perm_partial: the benign ring under both orders (both starts succeed), and the ring with a
    failing Init of 2 (both fail) -/
example : SameUpToOrder (ring [1, 2]) (ring [2, 1]) ∧ NoSubstitution (ring [1, 2]) ∧ NoSubstitution (ring [2, 1]) ∧
    (∀ n, Reach (ring [1, 2]) n → (ring [1, 2]).fEarly n = false) :=
  ⟨.of_points _ _ ring_points_rel, fun _ => ⟨rfl, rfl⟩, fun _ => ⟨rfl, rfl⟩, fun _ _ => rfl⟩
example : (final (ring [1, 2])).status = .done ∧ (final (ring [2, 1])).status = .done ∧
    (final (ring [1, 2])).fields 0 0 = [raw 1, raw 2] ∧ (final (ring [2, 1])).fields 0 0 = [raw 2, raw 1] := by decide +kernel
example : (final { ring [1, 2] with fInit := fun n => n == 2 }).status = .failed 2 .refresh ∧
    (final { ring [2, 1] with fInit := fun n => n == 2 }).status = .failed 2 .refresh := by decide +kernel

end run

/-! ### the tie to the code: Refresh (regenerated, a type switch and two loops)

`Ioc.Progs.fac_Refresh` is the syntax tree of defaultFactory.Refresh (factory.go:92-118).  For EVERY enumeration of the
definitions (`metas`, any order, any length), every set of lazy components and every creation that may fail, the regenerated
Refresh asks the factory for exactly the non-lazy names in SORTED order (`Sem.refreshNames`: `sort` applied to the comparator
literal of the program, which the interpreter runs: `i < j`) and stops at the first failing creation. -/
theorem C10_code_Refresh (sort : (Nat → Nat → Bool) → List Nat → List Nat) (metas : List Nat) (lazy getFails : Nat → Bool) :
    Go.run (Sem.refreshPrims sort metas lazy getFails) Progs.fac_Refresh [] [] =
      some (if (Order.runLoop getFails (Sem.refreshNames sort metas lazy) []).2 then Sem.errN else .nil,
            (Order.runLoop getFails (Sem.refreshNames sort metas lazy) []).1) :=
  Sem.refresh_sem sort metas lazy getFails

/-- … hence the creation order of a start is the same for every order in which the registry enumerates the definitions
    (sync.Map order, registration order): all that is used of `sort.Slice` is that it returns a sorted permutation -/
theorem C10_code_Refresh_order_independent (sort : (Nat → Nat → Bool) → List Nat → List Nat) (lazy : Nat → Bool)
    (m1 m2 : List Nat) (hs : ∀ l, (sort Sem.ltb l).Perm l ∧ (sort Sem.ltb l).Pairwise (fun a b => a ≤ b))
    (h : m1.Perm m2) : Sem.refreshNames sort m1 lazy = Sem.refreshNames sort m2 lazy :=
  Sem.refreshNames_perm sort lazy m1 m2 hs h

/-- non-vacuity: with an insertion sort; definitions 5, 2 (lazy), 9, 1 in two enumeration orders -/
example : Sem.refreshNames (fun lt l => l.foldr (fun x acc => acc.filter (fun y => lt y x) ++ [x] ++ acc.filter (fun y => !lt y x)) []) [5, 2, 9, 1] (fun n => n == 2) = [1, 5, 9] ∧
    Sem.refreshNames (fun lt l => l.foldr (fun x acc => acc.filter (fun y => lt y x) ++ [x] ++ acc.filter (fun y => !lt y x)) []) [1, 9, 2, 5] (fun n => n == 2) = [1, 5, 9] := by decide +kernel

/-! ### the participants' order is a function of their declared class and Order(), not of the registration order

Post-processors, configuration loaders and runners reach their call sites through `SortOrderedComponents`.  The regenerated
sorter is `Order.sortOrdered` for EVERY `sort.Slice` that meets its contract, and the regenerated comparator is the strict
`<` on `Order()` values (`Order.less?`, stuck exactly where Go panics) — so two enumeration orders of the same participants
give sequences that agree on everything the contract compares (`C12_observation_unique` for one list; here: the code). A
comparator that is not a strict order on the keys (a subtraction that overflows, a mixed key) makes the result depend on the
input order and breaks these statements. -/
theorem C10_code_participants_sorted (sort : (Nat → Nat → Bool) → List Nat → List Nat) (part : Nat → Order.Part)
    (hs : Order.SortSpec part sort) (l : List Nat) :
    Go.run (Sem.sortPrims sort part) Progs.sortOrderedComponents [.list (l.map Sem.encR)] () =
      some (.list ((Order.sortOrdered sort part l).map Sem.encR), ()) :=
  Sem.sortOrderedComponents_sem sort part (Sem.sort_nil_of_spec sort part hs) l

theorem C10_code_comparator_strict (part : Nat → Order.Part) (i j : Nat) :
    Go.run (Sem.cmpPrims part) Progs.orderedComponentComparator [.ref i 0, .ref j 0] () =
      (Order.less? part i j).map (fun b => (.bool b, ())) :=
  Sem.comparator_sem part i j

/-! ### where the enumeration orders come from: the registry readers and GetAllProperties, REGENERATED (interpretation
    Ioc.SemSmall: a map is the list of its entries in the order in which this run enumerates them) -/
section readers
open Ioc.Go Ioc.Sem

/-- GetSingletonNames returns the names in the order in which the map enumerates its entries — NOTHING else orders them (this
    is the order PrepareComponents walks, `C12_code_PrepareComponents`); GetSingleton / ContainsSingleton / GetSingletonCount
    read the same map and change nothing -/
theorem C10_code_registry_readers (w : CMap) :
    run srPrims Progs.sreg_GetSingletonNames [] w = some (strsNil (w.map (·.1)), w) ∧
    run srPrims Progs.sreg_GetSingletonCount [] w = some (.int w.length, w) ∧
    (∀ n, run srPrims Progs.sreg_GetSingleton [.str n] w =
      some (match cmLoad w n with
            | some j => .tuple [.ref j 0, .nil]
            | none => .tuple [.nil, .str ("singleton not exist: " ++ n)], w)) ∧
    (∀ n, run srPrims Progs.sreg_ContainsSingleton [.str n] w = some (.bool (cmLoad w n).isSome, w)) :=
  ⟨sregNames_sem w, sregCount_sem w, fun n => sregGetSingleton_sem n w, fun n => sregContains_sem n w⟩

/-- GetAllProperties concatenates the property groups in the order in which the map range enumerates them: across types the
    order of its result is that of the map iteration (within a type: the order of the group) -/
theorem C10_code_GetAllProperties (gs : List (String × List Nat)) :
    run (gaPrims gs) Progs.meta_GetAllProperties [] () =
      some (propsAcc (gs.foldl (fun a g => gaAcc a g.2) none), ()) :=
  getAllProperties_sem gs

end readers

/-- the runners are invoked in the order `SortOrderedComponents` returns — callRunners (regenerated, `C13_code_callRunners`)
    walks the SORTED arrangement, not the order in which the registry enumerated the runners into the App's slice -/
theorem C10_code_callRunners_uses_sorted (rs : List App.Runner) (sorted : List Nat) :
    Go.run (Sem.crPrims rs sorted) Progs.app_callRunners [] {} =
      if rs.length = 0 then some (.nil, {})
      else some (if (Sem.callIdx rs sorted).2 then .nil else Sem.errA,
                 { invoked := (Sem.callIdx rs sorted).1, cleared := (Sem.callIdx rs sorted).2 }) :=
  Sem.app_callRunners_sem rs sorted

end Ioc.C10
