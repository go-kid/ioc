/-
  C11 — Tag scanning sees through embedded structs and touches nothing else.
  PROPERTY THEOREMS ONLY (lemmas live in IocProofs/Lemmas/Scan.lean).

  Model: Ioc.Scan (Meta.scanFields over the mutual FieldT/Shape types, the tag-scan loop of
  DefaultTagScanDefinitionRegistryPostProcessor, the five built-in scanners, NewProperty = Ioc.Tag.parse?).
  A panic (in NewProperty or in an ExtractHandler) is the outcome `none` of `properties?`.
  All statements are for every shape: any depth, any arrangement, any tags.
-/
import IocProofs.Lemmas.Scan
import IocProofs.Lemmas.ScanHand
import IocProofs.Lemmas.ScanValue
import IocProofs.Lemmas.ScanHolder
import IocProofs.Lemmas.ScanHolderCode
import Ioc.Generated.Facts
import IocProofs.Lemmas.SemScanFields
import IocProofs.Lemmas.ScanCode
import IocProofs.Lemmas.TagScanLink
import IocProofs.Lemmas.SemSmall
import IocProofs.Lemmas.SemProcessors
import IocProofs.Lemmas.SemArgs
import IocProofs.Lemmas.OfString
namespace Ioc.C11
open Ioc Ioc.Scan

/-- Same fields, same declarations, same order, whether declared directly or inside embedded structs of any depth. -/
theorem C11_flatten (sh : Shape) :
    (scan sh).map (·.info) = (scan (flatten sh)).map (·.info) :=
  (scan_flattenShape [] sh).symm

/-- …and `flatten` really is the directly-declared form: nothing is embedded any more, and flattening again changes nothing. -/
theorem C11_flatten_direct (sh : Shape) :
    (∀ f ∈ scan (flatten sh), f.path = []) ∧ flatten (flatten sh) = flatten sh :=
  ⟨flattenShape_top [] sh, flattenShape_flat sh⟩

/-- What the scanner keeps, exactly: the exported fields reached through anonymous, untagged, by-value structs only. -/
theorem C11_scan_exact (sh : Shape) (f : ScannedField) :
    f ∈ scan sh ↔ Reach sh f.path f.info ∧ f.info.exported = true :=
  mem_scan_iff sh f

/-- The scan loop never panics when no ExtractHandler does (NewProperty is total, C19), and then it is the
    plain per-processor filter `properties`. -/
theorem C11_props_total (procs : List TagProc) (fields : List ScannedField) (h : NoPanic procs fields) :
    properties? procs fields = some (properties procs fields) :=
  properties?_eq procs fields h

/-- The built-in scanners and any custom tag scanner never panic. -/
theorem C11_props_total_builtin (nodeType tag : Bytes) (fields : List ScannedField) :
    properties? (builtinProcs ++ [customProc nodeType tag]) fields =
      some (properties (builtinProcs ++ [customProc nodeType tag]) fields) :=
  properties?_eq _ fields (noPanic_builtin nodeType tag fields)

/-- A field is processed identically (same processor, tag, value part, arguments — everything but the holder chain)
    whether declared directly or embedded; for every set of processors whose ExtractHandlers look at the field only. -/
theorem C11_flatten_props (procs : List TagProc) (hp : ∀ d ∈ procs, PathIndep d) (sh : Shape) :
    (properties procs (scan sh)).map Property.erase = (properties procs (scan (flatten sh))).map Property.erase :=
  properties_erase procs hp _ _ (C11_flatten sh)

/-- The built-in scanners (prop shorthand, ConfigurationProperties marker) and custom tag scanners satisfy that hypothesis. -/
theorem C11_flatten_props_builtin (nodeType tag : Bytes) (sh : Shape) :
    (properties (builtinProcs ++ [customProc nodeType tag]) (scan sh)).map Property.erase =
    (properties (builtinProcs ++ [customProc nodeType tag]) (scan (flatten sh))).map Property.erase :=
  C11_flatten_props _ (pathIndep_builtin nodeType tag) sh

/-- A user-supplied tag processor (Tag set, no ExtractHandler) receives exactly the scanned fields carrying its tag,
    in scan order, each with the value part and arguments that NewProperty parses from the tag text. -/
theorem C11_custom_exact (p : TagProc) (hx : p.extract = none) (ht : p.tag ≠ []) (sh : Shape) :
    ∃ ps, properties? [p] (scan sh) = some ps ∧
      ps.map (fun q => (q.field, q.tag, some (q.tagVal, q.args))) =
      (scan sh).filterMap (fun f => (lookupTag p.tag f.info.tags).map fun v =>
        (f, p.tag, (Tag.parse? v).map fun r => (r.1, requiredDefault p.required r.2))) := by
  refine ⟨properties [p] (scan sh), ?_, ?_⟩
  · exact properties?_eq _ _ (by
      intro d hd f _; simp at hd; subst hd; exact noPanic_of_extract_none _ hx f)
  · have := propsOf_custom p hx ht (scan sh)
    simpa [properties] using this

/-- THE VALUE IS HANDED OVER AS WRITTEN.  The value part NewProperty (= `Tag.parse?`, see C11_custom_exact) stores for a
    tag text is the text before the first comma, byte for byte — leading and trailing blanks and tabs included, a value
    made of blanks only included — whenever that text holds no bracket; whatever follows the comma (`rest`) has no
    influence on it.  (`sep:" | ,style=wide"` hands `" | "` to the processor of `sep`, `value:"  "` is the literal of
    two blanks.) -/
theorem C11_value_verbatim (v rest : Bytes) (hv : Tag.PlainVal v) :
    Tag.parse? v = some (v, []) ∧ ∃ a, Tag.parse? (v ++ Tag.cComma :: rest) = some (v, a) :=
  ⟨Tag.parse?_plain v hv, Tag.parse?_plain_comma v rest hv⟩

/-- Frame: a field can be written only if it is exported, reached through anonymous untagged by-value structs only,
    and recognised by some processor (its tag, or its ExtractHandler). -/
theorem C11_frame (procs : List TagProc) (sh : Shape) (w : List Bytes) (hw : w ∈ writes procs sh) :
    ∃ f, f ∈ scan sh ∧ f.fullPath = w ∧ f.info.exported = true ∧ Reach sh f.path f.info ∧
      ∃ d ∈ procs, (d.tag ≠ [] ∧ (lookupTag d.tag f.info.tags).isSome) ∨
                   (∃ e t tv, d.extract = some e ∧ e f = .yes t tv) :=
  frame_general procs sh w hw

/-- Frame for the container as shipped plus one custom tag: only fields carrying wire / func / value / prop / prefix /
    logger / the custom tag, or ConfigurationProperties markers. Untagged, foreign-tagged and unexported fields are never written. -/
theorem C11_frame_builtin (nodeType tag : Bytes) (sh : Shape) (w : List Bytes)
    (hw : w ∈ writes (builtinProcs ++ [customProc nodeType tag]) sh) :
    ∃ f, f ∈ scan sh ∧ f.fullPath = w ∧ f.info.exported = true ∧ Reach sh f.path f.info ∧
      ((∃ k ∈ [tWire, tFunc, tValue, tProp, tPrefix, tLogger, tag], (lookupTag k f.info.tags).isSome) ∨
       f.info.marker.isSome) :=
  frame_builtin nodeType tag sh w hw

/-- …and nothing recognised is lost: a scanned field that some processor recognises owns a property. -/
theorem C11_writes_complete (procs : List TagProc) (sh : Shape) (f : ScannedField) (hf : f ∈ scan sh)
    (d : TagProc) (hd : d ∈ procs) (t tv : Bytes) (hr : recognise d f = .yes t tv) :
    f.fullPath ∈ writes procs sh :=
  writes_complete procs sh f hf d hd t tv hr

/-- The order in which the factory enumerates the scanners (a Go map order) only permutes the properties. -/
theorem C11_proc_order (procs procs' : List TagProc) (h : procs.Perm procs') (fields : List ScannedField) :
    (properties procs fields).Perm (properties procs' fields) :=
  properties_perm procs procs' h fields

/-! ### what a processor is handed does not depend on the other processors of the chain -/

/-- ResolveAfterInstantiation hands EVERY processor all properties of the component, whatever any processor of the chain
    returns from PostProcessProperties (nil, the same list, a partial, an empty or a reordered one). -/
theorem C11_handed_all (all : List Property) (rets : List PropsRet) :
    handedLoop all rets = rets.map (fun _ => all) :=
  handedLoop_eq all rets

/-- …so two chains of the same length hand out the same lists: replacing, adding behaviour to, or re-ordering the OTHER
    processors changes nothing for a processor. -/
theorem C11_handed_independent (all : List Property) (rets rets' : List PropsRet) (h : rets.length = rets'.length) :
    handedLoop all rets = handedLoop all rets' := by
  rw [handedLoop_eq, handedLoop_eq, List.map_const', List.map_const', h]

/-- The container as shipped plus one user tag processor, at ANY position of a chain of processors with ARBITRARY
    PostProcessProperties results: of the list it is handed, the properties carrying its tag are exactly the scanned fields
    carrying its tag, in scan order, with the value part and arguments NewProperty parses from the tag text — the
    statement of `C11_custom_exact`, at the processor's PostProcessProperties call, at any embedding depth. -/
theorem C11_custom_handed_exact (nodeType tag : Bytes) (hb : tag ∉ [tLogger, tPrefix, tValue, tWire, tFunc]) (ht : tag ≠ [])
    (sh : Shape) (rets : List PropsRet) (handed : List Property)
    (hh : handed ∈ handedLoop (properties (builtinProcs ++ [customProc nodeType tag]) (scan sh)) rets) :
    (ofTag tag handed).map (fun q => (q.field, q.tag, some (q.tagVal, q.args))) =
      (scan sh).filterMap (fun f => (lookupTag tag f.info.tags).map fun v =>
        (f, tag, (Tag.parse? v).map fun r => (r.1, requiredDefault false r.2))) := by
  rw [handedLoop_eq] at hh
  obtain ⟨_, _, rfl⟩ := List.mem_map.1 hh
  rw [ofTag_builtin_custom nodeType tag hb]
  exact propsOf_custom (customProc nodeType tag) rfl ht (scan sh)

/-- The tie to the code.  `Progs.del_ResolveAfterInstantiation` is the syntax tree of ResolveAfterInstantiation, re-translated
    from /repo's source on every run.  Run by the MiniGo interpreter with `meta.GetAllProperties()` evaluating to `all` and
    processor p's PostProcessProperties returning `ret p handed` — an ARBITRARY value — every processor of the chain is handed
    `all`: the program is `handedLoop`.  (A rewrite that feeds a processor's result to the later ones changes the term this
    theorem is about.) -/
theorem C11_code_handed (procs : List Nat) (all : Go.Val) (ret : Nat → Go.Val → Go.Val) :
    Go.run (Sem.handPrims procs all ret) Progs.del_ResolveAfterInstantiation [.str "meta", .str "n"] [] =
      some (.nil, procs.map (fun p => (p, all))) := by
  simpa using Sem.resolveAfterInstantiation_hands_all procs all ret []

/-! ### a component that is ITSELF a post-processor is populated by the processors sorted ahead of it

    `Scan.populateLoop` is the registration loop of InvokeBeanFactoryPostProcessors: a non-lazy raw processor is created — and
    populated, as a component — by `GetComponentByName` inside the loop, under `f.componentPostProcessors` as it is then. -/

/-- The chain every ordinary component is populated by (created after the loop): what was registered before, then every raw
    processor in sorted order. -/
theorem C11_register_final {α : Type} (sorted : List (RawPP α)) (cpp : List α) :
    finalChain sorted cpp = cpp ++ sorted.map (·.id) :=
  populateLoop_final sorted cpp

/-- A non-lazy processor is populated by exactly the processors sorted AHEAD of it (behind whatever was registered before);
    a lazy one is never populated by the loop. -/
theorem C11_holder_chain {α : Type} [DecidableEq α] (pre post : List (RawPP α)) (p : RawPP α) (cpp : List α)
    (hpre : ∀ q ∈ pre, q.id ≠ p.id) :
    (p.lazy = false → populatedBy (pre ++ p :: post) cpp p.id = some (cpp ++ pre.map (·.id))) ∧
    (p.lazy = true → (∀ q ∈ post, q.id ≠ p.id) → populatedBy (pre ++ p :: post) cpp p.id = none) := by
  refine ⟨fun hlz => populatedBy_split pre post p cpp hlz hpre, fun hlz hpost => populatedBy_none _ cpp p.id ?_⟩
  intro q hq hid
  simp only [List.mem_append, List.mem_cons] at hq
  rcases hq with hq | rfl | hq
  · exact absurd hid (hpre q hq)
  · exact hlz
  · exact absurd hid (hpost q hq)

/-- …each of which is handed ALL properties of the holder, like those of any component (C11_handed_all), whatever the others
    return; the holder itself and the processors sorted BEHIND it are the rest of the final chain: they serve every ordinary
    component and not the holder. -/
theorem C11_holder_served_by_prefix {α : Type} (pre post : List (RawPP α)) (p : RawPP α) (cpp : List α)
    (all : List Property) (ret : α → PropsRet) :
    finalChain (pre ++ p :: post) cpp = (cpp ++ pre.map (·.id)) ++ p.id :: post.map (·.id) ∧
    handedLoop all ((finalChain (pre ++ p :: post) cpp).map ret) =
      handedLoop all ((cpp ++ pre.map (·.id)).map ret) ++ handedLoop all ((p.id :: post.map (·.id)).map ret) := by
  have hf : finalChain (pre ++ p :: post) cpp = (cpp ++ pre.map (·.id)) ++ p.id :: post.map (·.id) := by
    simp [finalChain, populateLoop_final, List.append_assoc]
  refine ⟨hf, ?_⟩
  rw [hf, handedLoop_eq, handedLoop_eq, handedLoop_eq, List.map_append, List.map_append]

/-- PROCESSED LIKE ANY COMPONENT.  Raw processors `l` (distinct), sorted by SortOrderedComponents under ANY `sort.Slice` meeting
    the contract (C12's SortSpec).  A non-lazy holder `h` that the ordering contract lets ahead of no other processor — it is the
    only one that is not Ordered; or it is Ordered, no Priority, with an Order() above every other one and nobody is un-Ordered —
    is populated by EVERY other processor: its chain followed by itself is the final chain, the one every ordinary component
    is populated by.  So each of its recognised tagged fields, direct or embedded, meets the same processors as on a plain holder. -/
theorem C11_holder_like_plain {α : Type} [DecidableEq α] {part : α → Order.Part}
    {sort : (α → α → Bool) → List α → List α} (hs : Order.SortSpec part sort)
    (l : List α) (hn : l.Nodup) (lazy : α → Bool) (h : α) (hh : h ∈ l) (hlz : lazy h = false)
    (hlast : ∀ y ∈ l, y ≠ h → ¬ Order.Precedes part h y) :
    ∃ chain, populatedBy ((Order.sortOrdered sort part l).map fun x => ⟨x, lazy x⟩) [] h = some chain ∧
      finalChain ((Order.sortOrdered sort part l).map fun x => ⟨x, lazy x⟩) [] = chain ++ [h] ∧
      ∀ y ∈ l, y ≠ h → y ∈ chain := by
  obtain ⟨pre, hsorted, hall⟩ := sortOrdered_last hs l hn h hh hlast
  have hnd : (pre ++ [h]).Nodup := hsorted ▸ (Order.sortOrdered_perm hs l).nodup_iff.2 hn
  have hnot : h ∉ pre := fun hm => (List.nodup_append.1 hnd).2.2 h hm h (by simp) rfl
  refine ⟨pre, ?_, by rw [hsorted]; simp [finalChain, populateLoop_final, List.map_map, Function.comp_def], hall⟩
  rw [hsorted, List.map_append]
  have := populatedBy_split (pre.map fun x => (⟨x, lazy x⟩ : RawPP α)) [] ⟨h, lazy h⟩ [] hlz fun q hq e => by
    obtain ⟨x, hx, rfl⟩ := List.mem_map.1 hq
    exact hnot ((show x = h from e) ▸ hx)
  simpa [List.map_map, Function.comp_def] using this

/-- The tie of `populateLoop` to the code.  `Progs.del_InvokeBeanFactoryPostProcessors` is the syntax tree of
    InvokeBeanFactoryPostProcessors, re-translated from /repo's source on every run.  Run by the MiniGo interpreter under
    Ioc.SemDelegate's interpretation with ONE record added — `factory.GetComponentByName` notes `self.componentPostProcessors` as
    it is at the call, the chain the processor is created and populated by — for every list of factory processors, every raw
    list, every result `sorted` of the sort, every LazyInit answer (GetComponentByName returning the processor asked for):
    the program records, for every non-lazy processor, exactly `populateLoop`'s chain, and leaves `finalChain` registered.
    (A rewrite that collects into a local slice and publishes the field after the loop records the chain of BEFORE the loop for
    every processor — it changes the term this theorem is about.) -/
theorem C11_code_populated_under (fprocs raw sorted cpp0 : List Nat) (lazy isCPP : Nat → Bool) :
    Go.run (Sem.popPrims (fun _ => false) false sorted lazy (fun p => some p) isCPP) Progs.del_InvokeBeanFactoryPostProcessors
        [.str "factory", .list (fprocs.map Sem.encP)] { raw := .list (raw.map Sem.encP), cpp := cpp0.map Sem.encP } =
      some (.nil,
        { fcalls := fprocs, defReg := true, raw := .nil,
          cpp := (finalChain (sorted.map fun p => ⟨p, lazy p⟩) cpp0).map Sem.encP,
          pops := (populateLoop (sorted.map fun p => ⟨p, lazy p⟩) cpp0).1.map Sem.encPop }) := by
  rw [Sem.invoke_populates_sem]
  have hrun : Order.runLoop (fun _ : Nat => false) fprocs [] = (fprocs, false) := by
    rw [Order.runLoop_eq, Order.takeUntil_all _ _ (fun _ _ => rfl)]; simp
  simp [Sem.popInvokeModel, hrun, Sem.popModel_is_populateLoop, finalChain]

section holderExamples
open Ioc.Order

/-- the harness' runs of this kind: the ten built-in processors (Priority, LazyInit, Order() regenerated from /repo), the
    ordered lazy recorder (index 10, Order() = 50), the holder (index 11) -/
private def exPart (holder : Part) (i : Nat) : Part :=
  ((Facts.builtinProcessors.map fun f => Part.ofIfaces (some f.order) f.priority) ++ [.ord 50, holder]).getD i .plain
private def exLazy (i : Nat) : Bool :=
  ((Facts.builtinProcessors.map (·.lazy)) ++ [true, false]).getD i false
private def exChain (holder : Part) : Option (List Nat) :=
  populatedBy ((sortOrdered (fun lt l => isort lt l) (exPart holder) (List.range 12)).map fun x => ⟨x, exLazy x⟩) [] 11

instance {α : Type} (part : α → Part) (x y : α) : Decidable (Precedes part x y) := by
  unfold Precedes; exact inferInstance

-- the hypotheses of C11_holder_like_plain hold for a holder that is not Ordered, and for an Ordered one behind the recorder …
example : (List.range 12).Nodup ∧ 11 ∈ List.range 12 ∧ exLazy 11 = false ∧
    (∀ y ∈ List.range 12, y ≠ 11 → ¬ Precedes (exPart .plain) 11 y) ∧
    (∀ y ∈ List.range 12, y ≠ 11 → ¬ Precedes (exPart (.ord 100)) 11 y) := by decide +kernel
-- … and the driver's sort shows the conclusion: all eleven others, the recorder included, populate the holder
example : ((exChain .plain).map fun c => (c.length, c.contains 10, (List.range 11).all c.contains)) = some (11, true, true) ∧
    ((exChain (.ord 51)).map fun c => (c.length, c.contains 10)) = some (11, true) := by decide +kernel
-- the limit (NOT a hypothesis-free statement): a holder Ordered ahead of a built-in processor, or priority-ordered, is populated
-- without the processors sorted behind it — the priority-ordered one below by the four priority-ordered built-ins of a smaller
-- Order() only, a holder with the smallest priority Order() by nobody
example : ((exChain (.prio 100)).map fun c => (c.length, c.contains 10)) = some (5, false) ∧
    exChain (.prio 1) = some [] ∧ ((exChain (.ord 3)).map (·.length)) = some 8 := by decide +kernel
-- C11_holder_chain on a lazy processor: never populated by the loop
example : populatedBy [⟨0, true⟩, ⟨1, false⟩, ⟨2, true⟩] [] 2 = none ∧
    populatedBy [⟨0, true⟩, ⟨1, false⟩, ⟨2, true⟩] [] 1 = some [0] := by decide +kernel
-- C11_code_populated_under on four raw processors (1 and 3 non-lazy), one processor registered before: the regenerated program
-- creates 1 under [9, 0] and 3 under [9, 0, 1, 2]
example : Go.run (Sem.popPrims (fun _ => false) false [0, 1, 2, 3] (fun p => p % 2 == 0) (fun p => some p) (fun _ => true))
      Progs.del_InvokeBeanFactoryPostProcessors [.str "factory", .list []]
      { raw := .list ([3, 2, 1, 0].map Sem.encP), cpp := [9].map Sem.encP } =
    some (.nil, { fcalls := [], defReg := true, raw := .nil, cpp := [9, 0, 1, 2, 3].map Sem.encP,
                  pops := [(1, [9, 0].map Sem.encP), (3, [9, 0, 1, 2].map Sem.encP)] }) := by
  have := C11_code_populated_under [] [3, 2, 1, 0] [0, 1, 2, 3] [9] (fun p => p % 2 == 0) (fun _ => true)
  simpa [finalChain, populateLoop, Sem.encPop] using this
end holderExamples

/-! ### non-vacuity: a depth-3 shape with every kind of leaf -/

section examples

private def L (name : String) (tags : List (String × String)) (ty : String := "s") : FieldT :=
  .leaf ⟨ofString name, (name.toList.head?.map Char.isUpper).getD false,
         tags.map (fun kv => (ofString kv.1, ofString kv.2)), ofString ty, none⟩
private def E (name : String) (kids : List FieldT) : FieldT :=
  .struct ⟨ofString name, true, [], ofString "st", none⟩ true true (kids.foldr .cons .nil)
private def S (name : String) (tags : List (String × String)) (anon byv : Bool) (kids : List FieldT)
    (marker : Option Bytes := none) : FieldT :=
  .struct ⟨ofString name, (name.toList.head?.map Char.isUpper).getD false,
           tags.map (fun kv => (ofString kv.1, ofString kv.2)), ofString "st", marker⟩ anon byv (kids.foldr .cons .nil)

/-- E1{ W wire; E2{ Fn func; V value; E3{ Pr prop; Px prefix; Lg logger; My mytag; u wire(unexported) }; Plain }; Fo json };
    T (anonymous but tagged); P (anonymous pointer); N (named struct); M (named marker); m (unexported marker) -/
private def ex : Shape :=
  [ E "E1" [ L "W" [("wire", "")] "pa",
             E "E2" [ L "Fn" [("func", "Ping")] "if", L "V" [("value", "${s.k1}")],
                      E "E3" [ L "Pr" [("prop", "i.k,required=false")] "i", L "Px" [("prefix", "s.k2")],
                               L "Lg" [("logger", "")] "lg", L "My" [("json", "x"), ("mytag", "v,a=b c")],
                               L "u" [("wire", "")] "pa" ],
                      L "Plain" [] "i" ],
             L "Fo" [("json", "x")] ],
    S "T" [("json", "t")] true true [L "In" [("wire", "")] "pa"],
    S "P" [] true false [L "In" [("wire", "")] "pa"],
    S "N" [] false true [L "In" [("wire", "")] "pa"],
    S "M" [] false true [L "V" []] (some (ofString "mark")),
    S "m" [] false true [L "V" []] (some (ofString "mark")) ].foldr .cons .nil

private def exProcs : List TagProc := builtinProcs ++ [customProc ntConfiguration (ofString "mytag")]

-- the scanner sees through three levels, drops the unexported leaf and `m`, keeps T / P / N / M as fields of their own
example : (scan ex).map (fun f => (f.path.length, f.info.name)) =
    [(1, ofString "W"), (2, ofString "Fn"), (2, ofString "V"), (3, ofString "Pr"), (3, ofString "Px"), (3, ofString "Lg"),
     (3, ofString "My"), (2, ofString "Plain"), (1, ofString "Fo"), (0, ofString "T"), (0, ofString "P"),
     (0, ofString "N"), (0, ofString "M")] := by decide +kernel
-- flattening changes the shape (non-trivial instance of C11_flatten) …
example : (scan ex).map (·.path) ≠ (scan (flatten ex)).map (·.path) := by decide +kernel
-- … every processor kind fires: 8 properties; the prop shorthand is rewritten, the marker is bound without a tag
example : (properties exProcs (scan ex)).map (fun q => (q.field.info.name, q.tag)) =
    [(ofString "Lg", tLogger), (ofString "Px", tPrefix), (ofString "M", tPrefix), (ofString "V", tValue),
     (ofString "Pr", tValue), (ofString "W", tWire), (ofString "Fn", tFunc), (ofString "My", ofString "mytag")] := by decide +kernel
example : ((properties exProcs (scan ex)).filter (fun q => q.field.info.name = ofString "Pr")).map
    (fun q => (q.tagVal, q.args)) = [(ofString "${i.k}", [(ofString "Required", [ofString "false"])])] := by decide +kernel
-- the hypotheses of C11_custom_exact are met by the recording processor, and it receives one field
example : (customProc ntConfiguration (ofString "mytag")).extract = none ∧ (customProc ntConfiguration (ofString "mytag")).tag ≠ [] :=
  ⟨rfl, by decide +kernel⟩
example : (properties? [customProc ntConfiguration (ofString "mytag")] (scan ex)).isSome = true ∧
    ((properties? [customProc ntConfiguration (ofString "mytag")] (scan ex)).getD []).map
      (fun q => (q.field.fullPath.length, q.tagVal, q.args)) =
    [(4, ofString "v", [(ofString "A", [ofString "b", ofString "c"])])] := by decide +kernel
-- C11_custom_handed_exact: the recorder sits behind a processor that returns an EMPTY list and one that returns nil; it is
-- handed all 8 properties and finds its own one (the hypotheses hold for `mytag`)
example : ofString "mytag" ∉ [tLogger, tPrefix, tValue, tWire, tFunc] ∧ ofString "mytag" ≠ ([] : Bytes) := by decide +kernel
example : ((handedLoop (properties exProcs (scan ex)) [fun _ => some [], fun _ => none, fun l => some l.reverse]).map
    (fun h => (h.length, (ofTag (ofString "mytag") h).map (fun q => q.field.info.name)))) =
    [(8, [ofString "My"]), (8, [ofString "My"]), (8, [ofString "My"])] := by decide +kernel
-- C11_code_handed on a chain of three processors returning an empty list, nil and the list they got
example : Go.run (Sem.handPrims [4, 7, 9] (.list [.str "p1", .str "p2"]) (fun p h => if p == 4 then .list [] else if p == 7 then .nil else h))
    Progs.del_ResolveAfterInstantiation [.str "meta", .str "n"] [] =
    some (.nil, [(4, .list [.str "p1", .str "p2"]), (7, .list [.str "p1", .str "p2"]), (9, .list [.str "p1", .str "p2"])]) :=
  C11_code_handed _ _ _
-- `writes` is non-empty and misses Plain, Fo, u, T, P, N (hypothesis of C11_frame is satisfiable, conclusion is not trivial)
example : (writes exProcs ex).length = 8 ∧ (scan ex).length = 13 := by decide +kernel
-- C11_proc_order: a genuinely different enumeration order
example : exProcs.Perm exProcs.reverse ∧ exProcs ≠ exProcs.reverse :=
  ⟨(List.reverse_perm exProcs).symm, by simp [exProcs, builtinProcs, procLogger, customProc, ntLogger, ntConfiguration]⟩

-- C11_value_verbatim: the hypothesis holds for values that are blanks, begin or end with a blank or a tab, and the parse keeps them
-- `ofString_ofList` first: the literals become character lists by rewriting, the kernel evaluates the rest
example : Tag.PlainVal (ofString " | ") ∧ Tag.PlainVal (ofString "  ") ∧ Tag.PlainVal [9, 118, 32] ∧
    Tag.parse? (ofString " | ,style=wide") = some (ofString " | ", [(ofString "Style", [ofString "wide"])]) ∧
    Tag.parse? (ofString "  ") = some (ofString "  ", []) ∧
    (Tag.parse? (ofString " - ,a=(x, y) z")).map (·.1) = some (ofString " - ") := by
  repeat rw [ofString_ofList]
  decide +kernel
end examples

/-! ### the REGENERATED scanner (Meta.scanFields with its function literal, reflectx.ForEachFieldV2)

    Under the interpretation Ioc.SemScanFields (what reflection answers about each declared field is the parameter `fs`; the
    recursive call `m.scanFields(NewEmbedHolder(…))` is the parameter `sub`) the syntax tree of Meta.scanFields in /repo
    contributes, per level, exactly what the model's `scanShape` contributes; `ForEachFieldV2` is the in-order walk it is
    interpreted as — so `scanShape`, the function all theorems above are about, is the recursion of the code. -/
section code
open Ioc.Go Ioc.Sem

theorem C11_code_scanFields {α : Type} (fs : List LField) (own : Nat → α) (sub : Nat → List α) (w : List α) :
    run (scanPrims fs own sub) Progs.meta_scanFields [.str "holder"] w =
      some (.tuple [], w ++ levelScan fs own sub 0 (List.range' 0 fs.length)) :=
  scanFields_sem fs own sub w

/-- one field: an anonymous, untagged, by-value struct is descended into WHETHER OR NOT it is settable (the embedded struct of
    an unexported type); any other field is kept exactly when it is settable -/
theorem C11_code_field_rule {α : Type} (f : LField) (own : α) (sub : List α) :
    fieldScan f own sub = (if f.anon && f.tagEmpty && f.isStruct then sub else if f.canSet then [own] else []) := rfl

theorem C11_code_forEachField {σ : Type} (n : Nat) (pub : Nat → Bool) (cb : Nat → σ → Option String × σ) (fuel : Nat) (ex : Bool)
    (w : σ) (hf : n + 1 ≤ fuel) :
    run (fePrims n pub cb fuel) Progs.reflectx_ForEachFieldV2 [.str "T", .str "V", .bool ex, .ref 0 40] w =
      some (encOptErr (feLoop cb (fun j => ex && !pub j) (List.range' 0 n) w).1,
            (feLoop cb (fun j => ex && !pub j) (List.range' 0 n) w).2) ∧
    run (fePrims n pub cb fuel) Progs.reflectx_ForEachFieldV2 [.str "PT", .str "PV", .bool ex, .ref 0 40] w =
      run (fePrims n pub cb fuel) Progs.reflectx_ForEachFieldV2 [.str "T", .str "V", .bool ex, .ref 0 40] w ∧
    run (fePrims n pub cb fuel) Progs.reflectx_ForEachFieldV2 [.str "OT", .str "V", .bool ex, .ref 0 40] w = some (.nil, w) :=
  ⟨forEachField_sem n pub cb fuel ex w hf, forEachField_ptr_sem n pub cb fuel ex w hf, forEachField_other_sem n pub cb fuel ex _ w⟩

/-- the walk the primitive does for scanFields (every index, nothing skipped, first error ends it) is that loop -/
theorem C11_code_walk_is_forEachField {σ : Type} (k : Handler σ) (cb : Nat → σ → Option String × σ)
    (hk : ∀ i w, k [.ref i 60, .ref i 61] w = some (encOptErr (cb i w).1, (cb i w).2)) (is : List Nat) (w : σ) :
    feLoopK k is w = some (encOptErr (feLoop cb (fun _ => false) is w).1, (feLoop cb (fun _ => false) is w).2) :=
  feLoopK_total k cb hk is w

/-- the model's `scanShape` IS `levelScan` (the per-level function of the regenerated scanFields) with the model's own
    recursion as the recursive call -/
theorem C11_scanShape_is_code_level (path : List Bytes) (sh : Shape) :
    scanShape path sh =
      levelScan ((Shape.toList sh).map lfOf)
        (fun i => ⟨path, infoOf ((Shape.toList sh).getD i (.leaf ⟨[], false, [], [], none⟩))⟩)
        (fun i => subOf path ((Shape.toList sh).getD i (.leaf ⟨[], false, [], [], none⟩)))
        0 (List.range' 0 ((Shape.toList sh).map lfOf).length) := by
  rw [scanShape_is_flatMap, levelScan_eq_flatMap, List.length_map]
  have hmap := map_getD_range' (FieldT.leaf ⟨[], false, [], [], none⟩) (Shape.toList sh) []
  simp only [List.length_nil, List.nil_append] at hmap
  conv => lhs; rw [← hmap, List.flatMap_map]
  apply flatMap_congr_mem
  intro i hi
  have hi' : i < (Shape.toList sh).length := by have := List.mem_range'_1.mp hi; omega
  simp [lfieldAt, List.getD_eq_getElem?_getD, hi']

/-- DefaultTagScanDefinitionRegistryPostProcessor.PostProcessDefinitionRegistry, regenerated (interpretation Ioc.SemTagScan:
    what `Tag.Lookup` and the ExtractHandler answer about each field are parameters; a Property is an object of the world
    because `SetArg` writes through the pointer).  For EVERY list of fields and every answers: the call returns nil and hands
    the meta exactly one property for every field the processor recognises — the `d.Tag` lookup first, else the
    ExtractHandler, whose empty tag means `d.Tag` — in field order, nothing for any other field, each marked required when
    the processor requires and the tag text does not say otherwise; what the meta held before is kept in front. -/
theorem C11_code_tagScan (d : TSD) (fs : List Nat) (nm : String) (w : TW) :
    ∃ w', run (tsPrims d fs) Progs.scan_PostProcessDefinitionRegistry [.ref 0 2, .ref 0 3, .str nm] w = some (.nil, w') ∧
      w'.metaProps = w.metaProps ++
        fs.filterMap (fun i => (recogS d i).map fun r => TSProp.applyReq d ⟨i, d.nodeType, r.1, r.2, false⟩) :=
  tagScan_sem d fs nm w

/-- the recognition rule of one field, as the regenerated lines 21-35 decide it -/
theorem C11_code_recognition_rule (d : TSD) (i : Nat) :
    recogS d i =
      (match (if d.tag ≠ "" then d.lookup i else none) with
       | some tv => some (d.tag, tv)
       | none =>
         if d.hasExt then
           match d.ext i with
           | some (t, tv) => some (if t = "" then d.tag else t, tv)
           | none => none
         else none) := rfl

/-- NewProperty, regenerated: TagStr and TagVal are both what `Parse` returns for the tag text, the args are the very map that
    `Parse` call filled, Configurations is a fresh empty map; field, type and tag are the arguments unchanged -/
theorem C11_code_NewProperty (pv : String → String) (f pt : Go.Val) (t tv : String) (w : List NObj) :
    run (npPrims pv) Progs.prop_NewProperty [f, pt, .str t, .str tv] w =
      some (.ref (w.length + 2) 42,
        w ++ [.args (some tv), .conf, .prop f pt t (pv tv) (pv tv) (w.length + 1) w.length]) :=
  newProperty_sem pv f pt t tv w

/-- the model's `propsOf` — the function the theorems above are about — IS what the regenerated function hands over, read
    through any faithful writing `e` of byte strings as Go strings (`dec ∘ e = id`, only the empty string is written empty),
    for every processor whose ExtractHandler does not panic and every list of scanned fields -/
theorem C11_propsOf_is_code (e : Bytes → String) (dec : String → Bytes) (hdec : ∀ b, dec (e b) = b)
    (he0 : ∀ b, e b = "" ↔ b = []) (d : TagProc) (hnp : ∀ h, d.extract = some h → ∀ f, h f ≠ .panic)
    (fields : List ScannedField) :
    (tagScanSpec (tsdOf e dec d fields) (List.range fields.length)).filterMap (propOf dec fields) = propsOf d fields :=
  propsOf_is_tagScanSpec e dec hdec he0 d hnp fields

/-- such a writing exists (bytes as the characters below 256), and the built-in scanners other than the value scanner — whose
    `prop` shorthand can panic (Ioc.Scan.valueExtract) — meet the no-panic premise outright -/
theorem C11_propsOf_is_code_builtin (d : TagProc) (hd : d ∈ [procLogger, procProperties, procWire, procFunc])
    (fields : List ScannedField) :
    (tagScanSpec (tsdOf encB ofString d fields) (List.range fields.length)).filterMap (propOf ofString fields) =
      propsOf d fields := by
  refine propsOf_is_tagScanSpec encB ofString dec_encB encB_empty d ?_ fields
  intro h hx f
  simp only [List.mem_cons, List.mem_nil_iff, or_false] at hd
  rcases hd with rfl | rfl | rfl | rfl
  · cases hx
  · simp only [procProperties, Option.some.injEq] at hx; subst hx; unfold markerExtract; split <;> simp
  · cases hx
  · cases hx

/-- non-vacuity: a processor with tag "wire" and a handler over four fields (0: tagged; 1: handler answers with an empty tag;
    2: nothing; 3: handler answers with its own tag, text asks for required itself) -/
def exTSD : TSD :=
  { nodeType := "Component", tag := "wire", hasExt := true, required := true,
    lookup := fun i => if i = 0 then some "a" else none,
    ext := fun i => if i = 1 then some ("", "b") else if i = 3 then some ("x", "c,required") else if i = 0 then some ("y", "z") else none,
    hasReq := fun tv => tv = "c,required" }
example : tagScanSpec exTSD [0, 1, 2, 3] =
    [⟨0, "Component", "wire", "a", true⟩, ⟨1, "Component", "wire", "b", true⟩, ⟨3, "Component", "x", "c,required", false⟩] := by
  decide +kernel

/-- the value scanner's ExtractHandler — the function literal in NewValueAwarePostProcessors, regenerated (interpretation
    `vxFn`: the field's `prop` tag, `strings2.IndexSkipBlocks` and Go's slice expressions are parameters, an out-of-range slice
    is `none`): no `prop` tag — not recognised; else `${key}` followed, unchanged, by the text from the first top-level comma
    on; the tag is left empty (so: `d.Tag`) -/
theorem C11_code_valueExtract (o : VXOps) :
    run (vxPrims o) Progs.scan_valueExtract [.ref 0 1, .ref 0 60] () = (valueExtractS o).map (fun r => (encExtract r, ())) :=
  valueExtract_sem o

/-- the properties scanner's ExtractHandler, regenerated: recognised exactly when the field's value implements
    ConfigurationProperties, with what its `Prefix()` returns as the tag text -/
theorem C11_code_markerExtract (marker : Option String) :
    run (mxPrims marker) Progs.scan_markerExtract [.ref 0 1, .ref 0 60] () =
      some (encExtract (match marker with | some p => ("", p, true) | none => ("", "", false)), ()) :=
  markerExtract_sem marker

/-- … and the model's `valueExtract` / `markerExtract` (with `Tag.propShorthand?`, whose `none` is the slice panic) ARE those
    functions, for every scanned field -/
theorem C11_extract_is_code (f : ScannedField) :
    valueExtractS (vxOf f) = encExtractB (valueExtract f) ∧
    (match f.info.marker.map encB with
     | some p => some ("", p, true)
     | none => some ("", "", false)) = encExtractB (markerExtract f) :=
  ⟨valueExtract_is_code f, markerExtract_is_code f⟩

end code

/-- NewHolder / NewEmbedHolder, regenerated: the holder of a definition has the definition's own Base, is not embedded and has
    no outer holder; the holder of an embedded struct has that struct's Base, the OUTER holder's definition (so every field
    found below belongs to the component's one definition), is embedded, and points to the outer holder -/
theorem C11_code_holders (m : Nat) (b hb hm he hh : Go.Val) :
    Go.run Sem.hoPrims Progs.holder_NewHolder [.ref m 1] () =
      some (.tuple [.str "Holder", .ref m 130, .ref m 1, .bool false, .nil], ()) ∧
    Go.run Sem.hoPrims Progs.holder_NewEmbedHolder [b, .tuple [.str "Holder", hb, hm, he, hh]] () =
      some (.tuple [.str "Holder", b, hm, .bool true, .tuple [.str "Holder", hb, hm, he, hh]], ()) :=
  ⟨Sem.newHolder_sem m, Sem.newEmbedHolder_sem b hb hm he hh⟩

/-- loggerAwarePostProcessors.PostProcessProperties, regenerated: exactly the properties that carry the logger tag AND whose
    type implements syslog.Logger are written (a logger whose prefix is the tag text, else the holder's / the definition's
    rendering), in order; every other property is left alone; the list is returned unchanged, never an error -/
theorem C11_code_loggerProperties (ps : List Sem.LProp) (n : Nat) (w : List (Nat × String)) :
    Go.run (Sem.lgPrims ps) Progs.pp_logger_Properties [.list ((List.range' 0 n).map (fun i => Go.Val.ref i 20)), .str "c", .str "n"] w =
      some (.tuple [.list ((List.range' 0 n).map (fun i => Go.Val.ref i 20)), .nil],
        w ++ ((List.range' 0 n).filter (fun i => (Sem.lpropAt ps i).isLoggerTag && (Sem.lpropAt ps i).implements)).map
               (fun i => (i, Sem.loggerPref (Sem.lpropAt ps i)))) :=
  Sem.loggerProperties_sem ps n w

/-- "with the tag's value and arguments": the arguments a processor asks for are compared EXACTLY (Has / isIntersect,
    regenerated, `C19_code_Find_Has`, `C19_code_isIntersect`): an argument value matches only itself, not another spelling or
    letter case of it -/
theorem C11_code_args_exact (o : Sem.StrOps) (k : String) (wants : List String) (w : Sem.AM) (a b : List String) :
    Go.run (Sem.argPrims o) Progs.arg_Has [.str k, Sem.strsVal wants] w =
      some (.bool (match Sem.amGet (o.fmtKey k) w with
                   | none => false
                   | some l => wants.isEmpty || l.any (fun x => wants.contains x)), w) ∧
    Go.run Sem.noPrims Progs.arg_isIntersect [Sem.strsVal a, Sem.strsVal b] () = some (.bool (a.any (fun x => b.contains x)), ()) :=
  ⟨Sem.argHas_sem o k wants w, Sem.argIsIntersect_sem a b⟩

end Ioc.C11
