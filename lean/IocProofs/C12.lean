/-
  C12 — Ordering contract for post-processors, runners and loaders.  PROPERTY THEOREMS ONLY.

  Model: Ioc.Order (SortOrderedComponents with its partition loop; callRunners, loadConfigure,
  InvokeBeanFactoryPostProcessors, the before/after/afterInstantiation processor loops, each with its early
  exits).  The sort is ABSTRACT: every theorem assumes only `SortSpec part sort` — the result of
  `sort.Slice` with the comparator `Order() < Order()` is a permutation of its input and ordered by the
  key — so Go's unstable pdqsort, and any other tie order, is covered.  Keys are `Int` (all of int64:
  ties, negatives, extremes; the comparator only compares).
-/
import IocProofs.Lemmas.Order
import IocProofs.Lemmas.OrderDecor
import Ioc.Generated.Facts
import IocProofs.Lemmas.SemOrder
import IocProofs.Lemmas.SemConfigure
import IocProofs.Lemmas.SemInit
import IocProofs.Lemmas.SemDelegate
import IocProofs.Lemmas.OrderSupply
import IocProofs.Lemmas.SemSupply
import IocProofs.Lemmas.SemPrepare
import IocProofs.Lemmas.SemProcessors
import IocProofs.Lemmas.SemAppRun
import IocProofs.Lemmas.SemSmall
import IocProofs.Lemmas.OrderRoutes
namespace Ioc.C12
open Ioc Ioc.Order

variable {α : Type} {part : α → Part} {sort : (α → α → Bool) → List α → List α}

/-- Every participant appears exactly once. -/
theorem C12_perm (hs : SortSpec part sort) (l : List α) : (sortOrdered sort part l).Perm l :=
  sortOrdered_perm hs l

/-- The output is a priority-ordered block, then an ordered block, then an unordered block. -/
theorem C12_classes (hs : SortSpec part sort) (l : List α) :
    ∃ a b c, sortOrdered sort part l = a ++ b ++ c ∧
      (∀ x ∈ a, classOf part x = .prio) ∧ (∀ x ∈ b, classOf part x = .ord) ∧
      (∀ x ∈ c, classOf part x = .plain) :=
  ⟨_, _, _, sortOrdered_eq part sort l, sortOrdered_classes hs l⟩

/-- In EVERY such decomposition the Order values never decrease inside the first two blocks. -/
theorem C12_monotone (hs : SortSpec part sort) (l a b c : List α)
    (h : sortOrdered sort part l = a ++ b ++ c)
    (ha : ∀ x ∈ a, classOf part x = .prio) (hb : ∀ x ∈ b, classOf part x = .ord)
    (hc : ∀ x ∈ c, classOf part x = .plain) :
    a.Pairwise (fun x y => keyOf part x ≤ keyOf part y) ∧
    b.Pairwise (fun x y => keyOf part x ≤ keyOf part y) := by
  obtain ⟨rfl, rfl, -⟩ := sortOrdered_blocks hs l a b c h ha hb hc
  exact ⟨(hs _).2, (hs _).2⟩

/-- …and the unordered block is exactly the unordered participants in registration order. -/
theorem C12_plain_stable (hs : SortSpec part sort) (l a b c : List α)
    (h : sortOrdered sort part l = a ++ b ++ c)
    (ha : ∀ x ∈ a, classOf part x = .prio) (hb : ∀ x ∈ b, classOf part x = .ord)
    (hc : ∀ x ∈ c, classOf part x = .plain) :
    c = l.filter (isPlain part) :=
  (sortOrdered_blocks hs l a b c h ha hb hc).2.2

/-- The contract as one statement: whenever x comes before y in the output, x's class block is earlier, or
    they share a block and (the block is the unordered one, or Order(x) ≤ Order(y)). -/
theorem C12_contract (hs : SortSpec part sort) (l : List α) :
    (sortOrdered sort part l).Pairwise (Precedes part) :=
  sortOrdered_pairwise hs l

/-- A participant with `Priority()` but without `Order()` is unordered (as the code has it). -/
theorem C12_priority_without_order_is_plain : Part.ofIfaces none true = .plain := rfl

/-- The comparator's unchecked type assertions never panic on what is handed to the sort: both sorted
    blocks contain only participants that implement `Ordered`. -/
theorem C12_comparator_total (l : List α) (x y : α)
    (hx : x ∈ l.filter (isPrio part) ∨ x ∈ l.filter (isOrd part))
    (hy : y ∈ l.filter (isPrio part) ∨ y ∈ l.filter (isOrd part)) :
    less? part x y = some (less part x y) := by
  have key : ∀ z, (z ∈ l.filter (isPrio part) ∨ z ∈ l.filter (isOrd part)) →
      (part z).order? = some (keyOf part z) := by
    intro z hz
    have hc : classOf part z = .prio ∨ classOf part z = .ord := by
      rcases hz with hz | hz
      · exact Or.inl (by simpa [isPrio] using (List.mem_filter.mp hz).2)
      · exact Or.inr (by simpa [isOrd] using (List.mem_filter.mp hz).2)
    cases hp : part z <;> simp [classOf, Part.cls, hp] at hc <;> simp [keyOf, Part.key, Part.order?, hp]
  simp [less?, key x hx, key y hy, less]

/-- What the correspondence compares is independent of the sorting algorithm and of its tie order: any two
    sorters meeting the specification produce the same (class, key) sequence and the same unordered block. -/
theorem C12_observation_unique {sort₁ sort₂ : (α → α → Bool) → List α → List α}
    (h1 : SortSpec part sort₁) (h2 : SortSpec part sort₂) (l : List α) :
    (sortOrdered sort₁ part l).map (ck part) = (sortOrdered sort₂ part l).map (ck part) ∧
    (sortOrdered sort₁ part l).filter (isPlain part) = (sortOrdered sort₂ part l).filter (isPlain part) :=
  ⟨sortOrdered_ck_unique h1 h2 l, (sortOrdered_filter_plain h1 l).trans (sortOrdered_filter_plain h2 l).symm⟩

/-! ### the three call sites still go through the sorter (regenerated from /repo's source on every run) -/

theorem C12_callsites :
    Facts.sortCallSites =
      [("app.callRunners", "runners"), ("configure.loadConfigure", "c.loaders"),
       ("container/factory.InvokeBeanFactoryPostProcessors", "f.rawComponentPostProcessors")] := rfl

/-- …and at each of them the loop that follows ranges over the variable the sorted slice was assigned to. -/
theorem C12_callsites_flow :
    Facts.sortFlow.map (·.1) = Facts.sortCallSites.map (·.1) ∧
    Facts.sortFlow.all (fun t => t.2.1 == t.2.2) = true := ⟨rfl, by decide +kernel⟩

/-- The sorter has the shape the model mirrors: the outer `Ordered` assertion, the nested `Priority`
    assertion, three `append`s in the loop, two `sort2.Slice` calls with the comparator, three block appends
    in the order priority-ordered, ordered, none. -/
theorem C12_sorter_shape :
    Facts.sortOrderedAsserts = ["definition.Ordered", "definition.Priority"] ∧
    Facts.orderComparator = ("0.Order", "<", "1.Order") ∧
    Facts.sort2Slice = ("sort.Slice x", "less x[0] x[1]") := ⟨rfl, rfl, rfl⟩

theorem C12_sorter_skeleton :
    Facts.sortOrderedSkel =
      [.loop [.branch [.branch [.call "append priorityOrderedComponents component"],
                       .branch [.call "append orderedComponents component"]],
              .branch [.call "append noneOrderedComponents component"]],
       .call "Slice priorityOrderedComponents orderedComponentComparator",
       .call "Slice orderedComponents orderedComponentComparator",
       .call "append ordered priorityOrderedComponents",
       .call "append ordered orderedComponents",
       .call "append ordered noneOrderedComponents",
       .call "return"] := rfl

/-- The loops have the shape the model mirrors (call, return on error, conditional second call). -/
theorem C12_loop_skeletons :
    Facts.callRunnersSkel =
      [.branch [.call "return"], .call "SortOrderedComponents",
       .loop [.call "Run", .branch [.call "return"]], .call "return"] ∧
    Facts.loadConfigureSkel =
      [.call "SortOrderedComponents",
       .loop [.call "LoadConfig", .branch [.call "return"], .branch [.call "SetConfig", .branch [.call "return"]]],
       .call "return"] ∧
    Facts.invokeRegisterSkel =
      [.loop [.branch [.call "return"]], .branch [.call "return"], .call "SortOrderedComponents",
       .loop [.branch [.call "GetComponentByName", .branch [.call "return"], .branch []],
              .call "append f.componentPostProcessors processor"],
       .call "return"] ∧
    Facts.processorLoops =
      [("applyPostProcessBeforeInitialization", "f.componentPostProcessors",
          [.loop [.call "PostProcessBeforeInitialization", .branch [.call "return"], .branch [.call "return"]],
           .call "return"]),
       ("applyPostProcessAfterInitialization", "f.componentPostProcessors",
          [.loop [.call "PostProcessAfterInitialization", .branch [.call "return"], .branch [.call "return"]],
           .call "return"]),
       ("ResolveAfterInstantiation", "f.componentPostProcessors",
          [.loop [.branch [.call "PostProcessAfterInstantiation", .branch [.call "return"],
                           .branch [.call "PostProcessProperties", .branch [.call "return"]]]],
           .call "return"])] :=
  ⟨rfl, rfl, rfl, rfl⟩

/-! ### the callbacks are invoked in that sequence -/

/-- Runners: `Run` is called on the sorted sequence front to back, up to and including the first runner that
    fails; an error is reported iff some runner fails. -/
theorem C12_runners_in_order (hs : SortSpec part sort) (fails : α → Bool) (rs : List α) :
    callRunners sort part fails rs =
      (takeUntil fails (sortOrdered sort part rs), rs.any fails) :=
  callRunners_eq hs fails rs

/-- Loaders: `LoadConfig` is called on the sorted sequence front to back up to the first loader at which
    loadConfigure returns; `SetConfig` follows each LoadConfig that produced data, in the same order. -/
theorem C12_loaders_in_order (hs : SortSpec part sort) (res : α → Step) (ls : List α) :
    firsts (loadConfigure sort part res ls).1 =
        takeUntil (fun x => (res x).stops) (sortOrdered sort part ls) ∧
    seconds (loadConfigure sort part res ls).1 =
        (firsts (loadConfigure sort part res ls).1).filter
          (fun x => match res x with | .next _ => true | _ => false) ∧
    (loadConfigure sort part res ls).2 = ls.any (fun x => (res x).stops) := by
  obtain ⟨h1, h2, h3⟩ := twoStepLoop_calls res (sortOrdered sort part ls)
  exact ⟨h1, h2, h3.trans (any_perm (sortOrdered_perm hs ls) _)⟩

/-- Post-processors: they are appended to `componentPostProcessors` in sorted order (behind what was there). -/
theorem C12_processors_registered_in_order (r : α → α) (raw cpp : List α) :
    invokeRegister sort part (fun x => some (r x)) raw cpp =
      (cpp ++ (sortOrdered sort part raw).map r, false) := by
  unfold invokeRegister; exact registerLoop_total r _ cpp

/-- …a failing lookup aborts; on success all of them were appended, in sorted order. -/
theorem C12_processors_registered_ok (resolve : α → Option α) (raw cpp : List α)
    (h : (invokeRegister sort part resolve raw cpp).2 = false) :
    (invokeRegister sort part resolve raw cpp).1 = cpp ++ (sortOrdered sort part raw).filterMap resolve ∧
    ∀ x ∈ sortOrdered sort part raw, (resolve x).isSome = true :=
  registerLoop_ok resolve _ cpp h

/-- …and every component passes through them front to back: the before- and after-initialization logs are
    prefixes of the processor sequence, and the whole sequence when every callback returns a component. -/
theorem C12_processors_invoked_in_order {β : Type} (before after : α → β → Res β) (initFails : β → Bool)
    (procs : List α) (m : β) :
    (initializeComponent before after initFails procs m).1 <+: procs ∧
    (initializeComponent before after initFails procs m).2.1 <+: procs ∧
    ((∀ p b, ∃ c, before p b = .val c) → (∀ p b, ∃ c, after p b = .val c) → (∀ b, initFails b = false) →
      (initializeComponent before after initFails procs m).1 = procs ∧
      (initializeComponent before after initFails procs m).2.1 = procs ∧
      (initializeComponent before after initFails procs m).2.2.isSome = true) :=
  initializeComponent_in_order before after initFails procs m

/-- The InstantiationAware processors receive `PostProcessAfterInstantiation` in processor order. -/
theorem C12_inst_processors_in_order (isInst : α → Bool) (res : α → Step) (procs : List α) :
    firsts (resolveAfterInstantiation isInst res procs).1 =
      takeUntil (fun x => (res x).stops) (procs.filter isInst) :=
  (twoStepLoop_calls res (procs.filter isInst)).1

/-- A whole start with one probe component: every invocation log is a prefix of the corresponding sorted
    sequence, and when nothing fails or answers nil each log IS the sorted sequence. -/
theorem C12_invoked_in_order (hs : SortSpec part sort)
    (loadRes : α → Step) (isInst : α → Bool) (instRes : α → Step)
    (before after : α → Unit → Res Unit) (runFails : α → Bool) (loaders procs runners : List α) :
    let g := start sort part loadRes (fun x => some x) isInst instRes before after runFails loaders procs runners
    firsts g.loads <+: sortOrdered sort part loaders ∧
    firsts g.inst <+: (sortOrdered sort part procs).filter isInst ∧
    g.before <+: sortOrdered sort part procs ∧
    g.after <+: sortOrdered sort part procs ∧
    g.runs <+: sortOrdered sort part runners ∧
    ((∀ x, (loadRes x).stops = false) → (∀ x, (instRes x).stops = false) →
     (∀ p b, ∃ c, before p b = .val c) → (∀ p b, ∃ c, after p b = .val c) → (∀ x, runFails x = false) →
       g.err = false ∧
       firsts g.loads = sortOrdered sort part loaders ∧
       firsts g.inst = (sortOrdered sort part procs).filter isInst ∧
       g.before = sortOrdered sort part procs ∧
       g.after = sortOrdered sort part procs ∧
       g.runs = sortOrdered sort part runners) := by
  have h := start_resolved_in_order hs loadRes id isInst instRes before after runFails loaders procs runners
  simp only [List.map_id, id] at h
  exact h

/-! ### processors that come back from the factory as another instance (decorated by an earlier processor) -/

/-- The factory may answer the registered processor `x` with ANOTHER instance `r x` (delegate:52-58 `processor = icp`:
    a decorator put around it by an earlier processor's PostProcessAfterInitialization).  Whatever that instance looks like
    to the sorter — NOTHING is assumed about `part (r x)`; a decorator usually has neither `Order()` nor `Priority()` — the
    chain is the sorted REGISTERED sequence with every processor replaced in place, every log is a prefix of it, and when
    nothing stops every log is all of it. -/
theorem C12_resolved_processors_invoked_in_order (hs : SortSpec part sort)
    (loadRes : α → Step) (r : α → α) (isInst : α → Bool) (instRes : α → Step)
    (before after : α → Unit → Res Unit) (runFails : α → Bool) (loaders procs runners : List α) :
    let g := start sort part loadRes (fun x => some (r x)) isInst instRes before after runFails loaders procs runners
    let chain := (sortOrdered sort part procs).map r
    firsts g.loads <+: sortOrdered sort part loaders ∧
    firsts g.inst <+: chain.filter isInst ∧
    g.before <+: chain ∧
    g.after <+: chain ∧
    g.runs <+: sortOrdered sort part runners ∧
    ((∀ x, (loadRes x).stops = false) → (∀ x, (instRes x).stops = false) →
     (∀ p b, ∃ c, before p b = .val c) → (∀ p b, ∃ c, after p b = .val c) → (∀ x, runFails x = false) →
       g.err = false ∧
       firsts g.loads = sortOrdered sort part loaders ∧
       firsts g.inst = chain.filter isInst ∧
       g.before = chain ∧
       g.after = chain ∧
       g.runs = sortOrdered sort part runners) :=
  start_resolved_in_order hs loadRes r isInst instRes before after runFails loaders procs runners

/-- …read back to the registered processors (`orig` = the processor a chain instance stands for; a decorator forwards its
    callbacks to it): the processors whose callbacks run are a prefix of the contract-ordered REGISTERED sequence — judged by
    the registered processor's declared class and Order (`C12_contract`) — and all of it when nothing stops. -/
theorem C12_decorated_processors_keep_position (hs : SortSpec part sort)
    (loadRes : α → Step) (r orig : α → α) (horig : ∀ x, orig (r x) = x) (isInst : α → Bool) (instRes : α → Step)
    (before after : α → Unit → Res Unit) (runFails : α → Bool) (loaders procs runners : List α) :
    let g := start sort part loadRes (fun x => some (r x)) isInst instRes before after runFails loaders procs runners
    g.before.map orig <+: sortOrdered sort part procs ∧
    g.after.map orig <+: sortOrdered sort part procs ∧
    (sortOrdered sort part procs).Pairwise (Precedes part) ∧
    ((∀ x, (loadRes x).stops = false) → (∀ x, (instRes x).stops = false) →
     (∀ p b, ∃ c, before p b = .val c) → (∀ p b, ∃ c, after p b = .val c) → (∀ x, runFails x = false) →
       g.before.map orig = sortOrdered sort part procs ∧ g.after.map orig = sortOrdered sort part procs) := by
  intro g
  obtain ⟨_, _, hB, hA, _, hAll⟩ :=
    start_resolved_in_order hs loadRes r isInst instRes before after runFails loaders procs runners
  have hm := map_resolved_orig r orig horig (sortOrdered sort part procs)
  refine ⟨hm ▸ hB.map orig, hm ▸ hA.map orig, sortOrdered_pairwise hs procs, fun n1 n2 n3 n4 n5 => ?_⟩
  obtain ⟨_, _, _, e1, e2, _⟩ := hAll n1 n2 n3 n4 n5
  exact ⟨(congrArg (List.map orig) e1).trans hm, (congrArg (List.map orig) e2).trans hm⟩

/-! ### early references: GetEarlyBeanReference walks the same sorted sequence -/

/-- The loop of GetEarlyBeanReference still ranges over the sorted `componentPostProcessors` (the slice the
    registration loop appends to, `C12_loop_skeletons`), with the smart-processor assertion inside the loop
    (regenerated from /repo's source on every run). -/
theorem C12_early_ref_skeleton :
    Facts.earlyRefLoopFact =
      ("f.componentPostProcessors",
       [.branch [.loop [.branch [.call "GetEarlyBeanReference", .branch [.call "return"]]]], .call "return"]) ∧
    Facts.processorLoops.all (fun t => t.2.1 == Facts.earlyRefLoopFact.1) = true := ⟨rfl, by decide +kernel⟩

/-- One early-reference request: the smart processors receive `GetEarlyBeanReference` in processor order, each at
    most once — a prefix ending at the first failing callback, and ALL of them exactly once when no callback fails
    (the registration flag is set as soon as one processor is InstantiationAware, which every smart one is). -/
theorem C12_early_refs_in_order {β : Type} (hasInst : Bool) (isSmart : α → Bool) (get : α → β → Option β)
    (procs : List α) (m : β) :
    (getEarlyBeanReference hasInst isSmart get procs m).1 <+: procs.filter isSmart ∧
    ((hasInst = true ∨ procs.filter isSmart = []) → (∀ p b, (get p b).isSome = true) →
      (getEarlyBeanReference hasInst isSmart get procs m).1 = procs.filter isSmart ∧
      (getEarlyBeanReference hasInst isSmart get procs m).2.isSome = true) :=
  getEarlyBeanReference_in_order hasInst isSmart get procs m

/-- A whole start whose probe is in a circular reference: the early-reference callbacks are a prefix of the SORTED
    smart processors (priority-ordered, ordered, unordered; Orders non-decreasing: `C12_contract`), whatever the
    registration order; when nothing stops they are all of them and the rest of the start is as in
    `C12_invoked_in_order`. -/
theorem C12_early_invoked_in_order (hs : SortSpec part sort)
    (loadRes : α → Step) (isInst : α → Bool) (instRes : α → Step)
    (before after : α → Unit → Res Unit) (runFails : α → Bool)
    (builtinInst : Bool) (isSmart : α → Bool) (get : α → Unit → Option Unit) (loaders procs runners : List α) :
    let g := startC sort part loadRes (fun x => some x) isInst instRes before after runFails builtinInst isSmart get
      loaders procs runners
    let s := start sort part loadRes (fun x => some x) isInst instRes before after runFails loaders procs runners
    g.early <+: (sortOrdered sort part procs).filter isSmart ∧
    ((∀ x, isSmart x = true → isInst x = true) →
     (∀ x, (loadRes x).stops = false) → (∀ x, (instRes x).stops = false) → (∀ p b, (get p b).isSome = true) →
       g = { s with early := (sortOrdered sort part procs).filter isSmart }) :=
  startC_in_order hs loadRes isInst instRes before after runFails builtinInst isSmart get loaders procs runners

/-- …and a sublist of a contract-ordered sequence is contract-ordered: the callbacks of the smart processors obey
    the contract among themselves. -/
theorem C12_early_contract (hs : SortSpec part sort) (isSmart : α → Bool) (procs : List α) :
    ((sortOrdered sort part procs).filter isSmart).Pairwise (Precedes part) ∧
    ((sortOrdered sort part procs).filter isSmart).Perm (procs.filter isSmart) :=
  ⟨(sortOrdered_pairwise hs procs).filter _, (sortOrdered_perm hs procs).filter _⟩

/-! ### components supplied before instantiation: the short-circuit of createComponent -/

/-- PostProcessBeforeInstantiation: the InstantiationAware processors are asked in processor order, each at most once,
    up to and including the first one that answers (an error or a component); the chain's answer is that processor's
    answer, and nil when nobody answers. -/
theorem C12_before_instantiation_in_order {β : Type} (isInst : α → Bool) (bi : α → Res β) (procs : List α) :
    (applyBeforeInstantiation isInst bi procs []).1 =
      takeUntil (fun p => (bi p).answers) (procs.filter isInst) ∧
    (applyBeforeInstantiation isInst bi procs []).2 =
      (match (procs.filter isInst).find? (fun p => (bi p).answers) with
       | none => .nil
       | some p => bi p) :=
  ⟨by rw [applyBeforeInstantiation_log]; simp, applyBeforeInstantiation_res isInst bi procs []⟩

/-- A component some processor supplies from PostProcessBeforeInstantiation gets the after-initialization chain over the
    supplied instance and NOTHING else: no after-instantiation callback, no before-initialization round — so every
    processor's after-initialization callback fires at most once for it, in processor order (a prefix ending at the first
    failing or nil-answering processor), and exactly once when every callback returns a component. -/
theorem C12_supplied_component_after_chain_only {β : Type} (isInst : α → Bool) (bi : α → Res β) (instRes : α → Step)
    (before after : α → β → Res β) (initFails : β → Bool) (procs : List α) (raw c : β)
    (h : (applyBeforeInstantiation isInst bi procs []).2 = .val c) :
    let r := createComponent true isInst bi instRes before after initFails procs raw
    r.1.inst = [] ∧ r.1.before = [] ∧
    r.1.after = (applyAfter after procs c []).1 ∧ r.1.after <+: procs ∧ r.2 = (applyAfter after procs c []).2 ∧
    ((∀ p b, ∃ c', after p b = .val c') → r.1.after = procs ∧ r.2.isSome = true) := by
  intro r
  have hr : r = _ := createComponent_supplied isInst bi instRes before after initFails procs raw c h
  obtain ⟨p1, p2⟩ := applyAfter_log_prefix after procs c
  rw [hr]
  exact ⟨rfl, rfl, rfl, p1, rfl, p2⟩

/-- A component nobody supplies (every InstantiationAware processor answers nil) is created the ordinary way: after all
    InstantiationAware processors were asked, the rounds of `C12_inst_processors_in_order` and
    `C12_processors_invoked_in_order`. -/
theorem C12_unsupplied_component_regular_creation {β : Type} (isInst : α → Bool) (bi : α → Res β) (instRes : α → Step)
    (before after : α → β → Res β) (initFails : β → Bool) (procs : List α) (raw : β)
    (h : ∀ p, (bi p).answers = false) (hi : (resolveAfterInstantiation isInst instRes procs).2 = false) :
    createComponent true isInst bi instRes before after initFails procs raw =
      ({ binst := procs.filter isInst, inst := (resolveAfterInstantiation isInst instRes procs).1,
         before := (initializeComponent before after initFails procs raw).1,
         after := (initializeComponent before after initFails procs raw).2.1 },
       (initializeComponent before after initFails procs raw).2.2) := by
  have ha := applyBeforeInstantiation_all isInst bi procs h
  rw [createComponent_regular true isInst bi instRes before after initFails procs raw (Or.inr (by rw [ha]))]
  simp [ha, hi]

/-- A whole start with several watched components and processors that may supply instances: each component is created at
    most once, and for EVERY created component each of the four callback logs is a prefix of the sorted processor sequence
    (of its InstantiationAware part for the two instantiation callbacks) — every participant at most once per component,
    in contract order (`C12_contract`), whichever component is supplied by whom. -/
theorem C12_components_invoked_in_order {β γ : Type} (hs : SortSpec part sort)
    (loadRes : α → Step) (hasInst : Bool) (isInst : α → Bool) (bi : γ → α → Res β) (instRes : α → Step)
    (before after : α → β → Res β) (runFails : α → Bool) (raw : γ → β) (cs : List γ)
    (loaders procs runners : List α) :
    let g := startB sort part loadRes (fun x => some x) hasInst isInst bi instRes before after runFails raw cs loaders procs runners
    firsts g.loads <+: sortOrdered sort part loaders ∧
    g.comps.length ≤ cs.length ∧
    (∀ r ∈ g.comps,
      r.1.binst <+: (sortOrdered sort part procs).filter isInst ∧
      firsts r.1.inst <+: (sortOrdered sort part procs).filter isInst ∧
      r.1.before <+: sortOrdered sort part procs ∧
      r.1.after <+: sortOrdered sort part procs) ∧
    g.runs <+: sortOrdered sort part runners :=
  startB_in_order hs loadRes hasInst isInst bi instRes before after runFails raw cs loaders procs runners

/-! ### every Initialize of a Configure, whatever was called on it before -/

/-- The entry points of `configure` have the shape the model mirrors: Initialize guards and calls loadConfigure,
    AddLoaders appends, SetLoaders replaces, and the only other write to the loader slice is the sorted slice in
    loadConfigure (regenerated from /repo's source on every run). -/
theorem C12_configure_entry_points :
    Facts.confInitializeSkel = [.branch [.call "return"], .call "loadConfigure", .branch [.call "return"], .call "return"] ∧
    Facts.confAddLoadersSkel = [.call "append c.loaders loaders"] ∧
    Facts.confLoaderWrites =
      [("AddLoaders", "append c.loaders loaders"), ("SetLoaders", "loaders"),
       ("loadConfigure", "framework_helper.SortOrderedComponents c.loaders")] := ⟨rfl, rfl, rfl⟩

/-- For EVERY sequence of SetLoaders / AddLoaders / Initialize calls on a fresh Configure, every Initialize calls
    `LoadConfig` along a sequence `s` that contains each loader registered at that moment exactly once, obeys the
    contract, keeps the unordered loaders in registration order, and is walked front to back up to the first loader at
    which loadConfigure returns; `SetConfig` follows each LoadConfig that produced data; an error is reported iff a
    registered loader stops.  (No dependence on earlier Initialize calls or on the number of loaders.) -/
theorem C12_loaders_every_initialize (hs : SortSpec part sort) (res : α → Step) (ops : List (ConfOp α)) :
    Forall2 (InitSpec part res) (confRun sort part res ops []) (confRegistered ops []) :=
  confRun_spec hs res ops [] [] (List.Perm.refl _) rfl

/-! ### non-vacuity -/

/-- smart processors registered against the contract order (unordered, ordered, priority-ordered) are called
    priority-ordered first; the hypotheses of `C12_early_invoked_in_order` hold -/
example :
    let g := startC (fun lt l => isort lt l) Participant.part (fun _ => .skip) (fun x => some x)
      (fun p => p.id != 3) (fun _ => .skip) (fun _ _ => .val ()) (fun _ _ => .val ()) (fun _ => false)
      true (fun p => p.id < 3) (fun _ _ => some ())
      [] [⟨.plain, 0⟩, ⟨.ord 5, 1⟩, ⟨.prio 70, 2⟩, ⟨.ord (-1), 3⟩] []
    g.err = false ∧ g.early.map (·.id) = [2, 1, 0] ∧ g.before.map (·.id) = [2, 3, 1, 0] := by decide +kernel

/-- a decorating processor (id 0, priority-ordered, Order -100) ahead of two eager processors (ids 1, 2) and a LazyInit one
    (id 3, ordered 50): the factory answers 1 and 2 with decorators (ids 11, 12) that are UNORDERED to the sorter; the chain
    keeps them where their registration put them (0, 11, 12, 3, 4) — while sorting the resolved chain once more (what a
    "keep the whole chain ordered" rewrite does) would move the priority-ordered processor 1 behind the merely ordered 3 -/
example :
    let part : Participant → Part := fun p => if p.id ≥ 10 then .plain else p.part
    let r : Participant → Participant := fun p => if p.id == 1 || p.id == 2 then ⟨p.part, p.id + 10⟩ else p
    let procs : List Participant := [⟨.plain, 4⟩, ⟨.ord 50, 3⟩, ⟨.ord 1, 2⟩, ⟨.prio 5, 1⟩, ⟨.prio (-100), 0⟩]
    let g := start (fun lt l => isort lt l) part (fun _ => .skip) (fun x => some (r x))
      (fun _ => false) (fun _ => .skip) (fun _ _ => .val ()) (fun _ _ => .val ()) (fun _ => false) [] procs []
    g.err = false ∧ g.before.map (·.id) = [0, 11, 12, 3, 4] ∧
      (sortOrdered (fun lt l => isort lt l) part g.before).map (·.id) = [0, 3, 11, 12, 4] := by decide +kernel

/-- Initialize / SetLoaders with as many loaders, registered out of order / Initialize / AddLoaders / Initialize -/
example :
    (confRun (fun lt l => isort lt l) Participant.part (fun _ => Step.skip)
        [.set [⟨.plain, 0⟩, ⟨.ord 5, 1⟩, ⟨.prio 9, 2⟩], .init,
         .set [⟨.plain, 3⟩, ⟨.ord 7, 4⟩, ⟨.prio 3, 5⟩], .init, .add [⟨.prio 1, 6⟩, ⟨.plain, 7⟩], .init] []).map
        (fun r => ((firsts r.1).map (·.id), r.2))
      = [([2, 1, 0], false), ([5, 4, 3], false), ([6, 5, 4, 3, 7], false)] := by decide +kernel


/-- the specification is met by the driver's insertion sort, by core's merge sort, and by a sorter with the
    opposite tie order — so the hypotheses of the theorems above are satisfiable, by different algorithms -/
example (part : α → Part) : SortSpec part (fun lt l => isort lt l) := isort_spec part
example (part : α → Part) : SortSpec part (fun lt l => l.mergeSort (fun a b => !lt b a)) := mergeSort_spec part
example (part : α → Part) : SortSpec part (fun lt l => isort lt l.reverse) := isortRev_spec part

/-- two specification-meeting sorters that really differ on identities (tie order) yet agree on what is compared -/
example :
    let l : List Participant := [⟨.ord 1, 0⟩, ⟨.ord 1, 1⟩, ⟨.prio 5, 2⟩]
    (sortOrdered (fun lt l => isort lt l) Participant.part l).map (·.id) = [2, 1, 0] ∧
    (sortOrdered (fun lt l => isort lt l.reverse) Participant.part l).map (·.id) = [2, 0, 1] := by decide +kernel

/-- the repo's own test vector (order_component_test.go): [NC 0, POC 1, OC 99, POC 98, OC 0] ↦ [POC 1, POC 98, OC 0, OC 99, NC 0] -/
example :
    sortParticipants [⟨.plain, 0⟩, ⟨.prio 1, 1⟩, ⟨.ord 99, 2⟩, ⟨.prio 98, 3⟩, ⟨.ord 0, 4⟩]
      = [⟨.prio 1, 1⟩, ⟨.prio 98, 3⟩, ⟨.ord 0, 4⟩, ⟨.ord 99, 2⟩, ⟨.plain, 0⟩] := by decide +kernel

/-- ties, negatives, the extremes of int64, and Priority-without-Order -/
example :
    (sortParticipants [⟨.ofIfaces none true, 0⟩, ⟨.ord 9223372036854775807, 1⟩, ⟨.prio 0, 2⟩, ⟨.plain, 3⟩,
                       ⟨.ord (-9223372036854775808), 4⟩, ⟨.prio (-3), 5⟩, ⟨.prio 0, 6⟩]).map
        (fun p => (p.part, p.id))
      = [(.prio (-3), 5), (.prio 0, 6), (.prio 0, 2), (.ord (-9223372036854775808), 4),
         (.ord 9223372036854775807, 1), (.plain, 0), (.plain, 3)] := by decide +kernel

/-- a runner that fails stops the sequence right after itself -/
example :
    callRunners (fun lt l => isort lt l) Participant.part (fun p => p.id == 1)
        [⟨.plain, 0⟩, ⟨.ord 2, 1⟩, ⟨.prio 7, 2⟩, ⟨.ord 3, 3⟩]
      = ([⟨.prio 7, 2⟩, ⟨.ord 2, 1⟩], true) := by decide +kernel

/-- a loader whose data the binder rejects stops the sequence after its SetConfig -/
example :
    loadConfigure (fun lt l => isort lt l) Participant.part
        (fun p => if p.id == 0 then .next true else if p.id == 1 then .next false else .skip)
        [⟨.plain, 0⟩, ⟨.ord 2, 1⟩, ⟨.prio 7, 2⟩, ⟨.plain, 3⟩]
      = ([.first ⟨.prio 7, 2⟩, .first ⟨.ord 2, 1⟩, .second ⟨.ord 2, 1⟩, .first ⟨.plain, 0⟩, .second ⟨.plain, 0⟩], true) := by
  decide +kernel

/-- the hypotheses of the "nothing stops" half of C12_invoked_in_order hold for a non-trivial start -/
example :
    let g := start (fun lt l => isort lt l) Participant.part (fun _ => .next false) (fun x => some x)
      (fun p => p.id % 2 == 0) (fun _ => .skip) (fun _ _ => .val ()) (fun _ _ => .val ()) (fun _ => false)
      [⟨.plain, 0⟩, ⟨.prio 1, 1⟩] [⟨.ord 3, 0⟩, ⟨.prio 2, 1⟩, ⟨.plain, 2⟩] [⟨.ord 1, 0⟩, ⟨.ord (-1), 1⟩]
    g.err = false ∧ g.before.map (·.id) = [1, 0, 2] ∧ (firsts g.inst).map (·.id) = [0, 2] ∧
      g.runs.map (·.id) = [1, 0] ∧ (seconds g.loads).map (·.id) = [1, 0] := by decide +kernel

/-- two watched components, processor 1 (ordered, InstantiationAware) supplies the first one: its log is the
    after-initialization chain only, the second component passes all four rounds; sorted chain = [2, 1, 0] -/
example :
    let g := startB (fun lt l => isort lt l) Participant.part (fun _ => .skip) (fun x => some x) true
      (fun p => p.id != 0) (fun (c : Nat) p => if c == 0 && p.id == 1 then .val 100 else .nil) (fun _ => .skip)
      (fun _ b => .val b) (fun p b => if p.id == 0 then .val (b + 1) else .val b) (fun _ => false) (fun c => c) [0, 1]
      [] [⟨.plain, 0⟩, ⟨.ord 3, 1⟩, ⟨.prio 2, 2⟩] [⟨.ord 1, 0⟩]
    g.err = false ∧
    g.comps.map (fun r => (r.1.binst.map (·.id), (firsts r.1.inst).map (·.id), r.1.before.map (·.id), r.1.after.map (·.id), r.2)) =
      [([2, 1], [], [], [2, 1, 0], some 101), ([2, 1], [2, 1], [2, 1, 0], [2, 1, 0], some 2)] := by decide +kernel

/-- the hypothesis of C12_supplied_component_after_chain_only holds for a non-trivial chain -/
example : (applyBeforeInstantiation (fun p => p != 2) (fun p => if p == 3 then Res.val 8 else .nil) [1, 2, 3, 4] []).2 = .val 8 := by
  rfl

/-! ### the tie to the code: SortOrderedComponents and its comparator ARE the regenerated programs

`Ioc.Progs.sortOrderedComponents` / `Ioc.Progs.orderedComponentComparator` are the syntax trees of the two functions of
util/framework_helper/order_component.go, re-translated from /repo's source on every run (MiniGo, Ioc.GoSem).  Run by the
interpreter — the two type assertions answered by `part`, `sort2.Slice` an ARBITRARY function `sort` — the first computes
exactly `Order.sortOrdered sort part` (partition in the given order, sort the priority and the ordered bucket with the
comparator, concatenate priority ++ ordered ++ rest); the second is `Order() < Order()` and panics (stuck) exactly when a
participant has no `Order()`.  Every theorem above about `sortOrdered` is thereby a theorem about this code; a rewrite of
either function (which the seeded changes C10C, C12A, C13A, C13C, C15D all were) changes the term these proofs are about. -/

theorem C12_code_sortOrderedComponents (sort : (Nat → Nat → Bool) → List Nat → List Nat) (part : Nat → Part)
    (hs : SortSpec part sort) (l : List Nat) :
    Go.run (Sem.sortPrims sort part) Progs.sortOrderedComponents [.list (l.map Sem.encR)] () =
      some (.list ((sortOrdered sort part l).map Sem.encR), ()) :=
  Sem.sortOrderedComponents_sem sort part (Sem.sort_nil_of_spec sort part hs) l

theorem C12_code_comparator (part : Nat → Part) (i j : Nat) :
    Go.run (Sem.cmpPrims part) Progs.orderedComponentComparator [.ref i 0, .ref j 0] () =
      (less? part i j).map (fun b => (.bool b, ())) :=
  Sem.comparator_sem part i j

/-- non-vacuity: five participants (2 priority, 2 ordered, 1 plain) with insertion sort -/
example : Go.run (Sem.sortPrims (fun lt l => isort lt l) (fun i => [Part.plain, .ord 5, .prio 9, .ord (-3), .prio 1].getD i .plain))
    Progs.sortOrderedComponents [.list ([0, 1, 2, 3, 4].map Sem.encR)] () =
    some (.list ([4, 2, 3, 1, 0].map Sem.encR), ()) :=
  (Sem.sortOrderedComponents_sem _ _ (by rfl) _).trans (by rfl)

/-- configure.loadConfigure, regenerated (configure/configure.go:54-72): the loader list is replaced by what
    SortOrderedComponents returns for it, and the loaders are walked in THAT order — LoadConfig, then SetConfig when the
    document is not empty, the first error ends the walk: M4's `twoStepLoop` (the function `C12_loaders_in_order` and C15's
    `C15_load_is_merge` are about).  For every loader behaviour `res` and every arrangement `sorted`. -/
theorem C12_code_loadConfigure (res : Nat → Step) (sorted : List Nat) (w : Sem.CfgW) :
    Go.run (Sem.cfgPrims res sorted) Progs.cfg_loadConfigure [] w =
      some (if (twoStepLoop res sorted w.log).2 then Sem.errG else .nil,
            { loaders := sorted, log := (twoStepLoop res sorted w.log).1 }) :=
  Sem.loadConfigure_sem res sorted w

/-- Configure.Initialize, regenerated: nothing happens for an empty loader list; otherwise loadConfigure runs — on EVERY
    call, there is no "already initialised" state (what the seeded changes C12B and, in round 3, "incremental Initialize"
    broke) -/
theorem C12_code_Initialize (res : Nat → Step) (sorted : List Nat) (w : Sem.CfgW) :
    Go.run (Sem.initPrims res sorted) Progs.cfg_Initialize [] w =
      if w.loaders.isEmpty then some (.nil, w)
      else some (if (twoStepLoop res sorted w.log).2 then Sem.errG else .nil,
                 { loaders := sorted, log := (twoStepLoop res sorted w.log).1 }) :=
  Sem.initialize_sem res sorted w

/-- the two callback chains of the delegate, regenerated: the processors are called in the order of
    `componentPostProcessors` (the sorted registration order, C12_processors_registered_in_order), each fed the previous
    result — `Order.applyBefore` / `Order.applyAfter` (`Sem.applyBefore_eq`, `Sem.applyAfter_eq`) -/
theorem C12_code_applyBefore (procs : List Nat) (before after : Nat → Nat → Res Nat) (im : Sem.InitM) (c : Nat) (w : List Sem.IEv) :
    Go.run (Sem.initBase procs before after im) Progs.del_applyBefore [Sem.encC c, .str "n"] w =
      some (Sem.encRes (Sem.beforeLoop before procs c).2, w ++ Sem.bevs (Sem.beforeLoop before procs c).1) ∧
    applyBefore before procs c [] = ((Sem.beforeLoop before procs c).1, (Sem.beforeLoop before procs c).2) :=
  ⟨Sem.applyBefore_sem procs before after im c w, by rw [Sem.applyBefore_eq]; simp⟩

theorem C12_code_applyAfter (procs : List Nat) (before after : Nat → Nat → Res Nat) (im : Sem.InitM) (c : Nat) (w : List Sem.IEv) :
    Go.run (Sem.initBase procs before after im) Progs.del_applyAfter [Sem.encC c, .str "n"] w =
      some (Sem.encAfter (Sem.afterLoop after procs c).2, w ++ Sem.aevs (Sem.afterLoop after procs c).1) ∧
    applyAfter after procs c [] = ((Sem.afterLoop after procs c).1, (Sem.afterLoop after procs c).2) :=
  ⟨Sem.applyAfter_sem procs before after im c w, by rw [Sem.applyAfter_eq]; simp⟩

/-- the short-circuit creation path, regenerated (delegate:178-211): applyPostProcessBeforeInstantiation asks the
    InstantiationAware processors in the order of `componentPostProcessors` until one fails or hands out a component —
    `Order.applyBeforeInstantiation` (`Sem.abiLoop_eq`) -/
theorem C12_code_applyBeforeInstantiation (procs : List Nat) (isInst : Nat → Bool) (bi : Nat → Res Nat) (w : List Nat) :
    Go.run (Sem.abiPrims procs isInst bi) Progs.del_applyBeforeInstantiation [.str "meta", .str "n"] w =
      some (Sem.encRes (applyBeforeInstantiation isInst bi procs []).2, w ++ (applyBeforeInstantiation isInst bi procs []).1) := by
  rw [Sem.applyBeforeInstantiation_sem, Sem.abiLoop_eq]; simp

/-- …and ResolveBeforeInstantiation hands a component supplied that way to applyPostProcessAfterInitialization
    (`C12_code_applyAfter`) and returns ITS answer (the instance the factory then uses, factory.go:170-181), nothing
    without an InstantiationAware processor — `Order.resolveBeforeInstantiation` -/
theorem C12_code_ResolveBeforeInstantiation (hasInst : Bool) (isInst : Nat → Bool) (bi : Nat → Res Nat)
    (after : Nat → Nat → Res Nat) (procs : List Nat) :
    Go.run (Sem.rbiPrims hasInst (applyBeforeInstantiation isInst bi procs []).2 (fun c => (applyAfter after procs c []).2))
        Progs.del_ResolveBeforeInstantiation [.str "meta", .str "n"] [] =
      some (Sem.encRes (resolveBeforeInstantiation hasInst isInst bi after procs).2.2,
            (Sem.rbiModel hasInst (applyBeforeInstantiation isInst bi procs []).2 (fun c => (applyAfter after procs c []).2)).2) := by
  rw [Sem.resolveBeforeInstantiation_sem, Sem.rbiModel_eq]

/-- ResolveAfterInstantiation, regenerated (delegate:213-231): the InstantiationAware processors are called in the order of
    `componentPostProcessors`; PostProcessProperties only follows a `true` answer, the first error of either call ends the
    loop — `Order.resolveAfterInstantiation`.  The boolean a failing PostProcessAfterInstantiation returns next to its error
    (`errOk`) does not matter. -/
theorem C12_code_ResolveAfterInstantiation (procs : List Nat) (isInst : Nat → Bool) (res : Nat → Step) (errOk : Nat → Bool) :
    Go.run (Sem.raiPrims procs isInst res errOk) Progs.del_ResolveAfterInstantiation [.str "meta", .str "n"] [] =
      some (if (resolveAfterInstantiation isInst res procs).2 then Sem.errN else .nil,
            (resolveAfterInstantiation isInst res procs).1) :=
  Sem.resolveAfterInstantiation_sem procs isInst res errOk []

/-- InvokeBeanFactoryPostProcessors, regenerated (delegate:36-66): with `sorted` = what SortOrderedComponents returns for the
    raw list (`C12_code_sortOrderedComponents`: `sortOrdered sort part raw`), the registration is `Order.invokeRegister`:
    the processors are created through the factory and appended to `componentPostProcessors` in SORTED order, the first
    failing creation ends it -/
theorem C12_code_InvokeBeanFactoryPostProcessors (sort : (Nat → Nat → Bool) → List Nat → List Nat) (part : Nat → Part)
    (fpFails : Nat → Bool) (drFails : Bool) (lazy : Nat → Bool) (getc : Nat → Option Nat) (isCPP : Nat → Bool)
    (fprocs raw cpp0 : List Nat) :
    Go.run (Sem.regPrims' fpFails drFails (sortOrdered sort part raw) lazy getc isCPP) Progs.del_InvokeBeanFactoryPostProcessors
        [.str "factory", .list (fprocs.map Sem.encP)] { raw := .list (raw.map Sem.encP), cpp := cpp0.map Sem.encP } =
      some (Sem.invokeModel fpFails drFails (sortOrdered sort part raw) lazy getc isCPP fprocs raw cpp0) ∧
    (¬ (runLoop fpFails fprocs []).2 → drFails = false →
      (Sem.invokeModel fpFails drFails (sortOrdered sort part raw) lazy getc isCPP fprocs raw cpp0).2.cpp =
        (invokeRegister sort part (Sem.resolveOf lazy getc isCPP) raw cpp0).1.map Sem.encP) := by
  refine ⟨Sem.invokeBeanFactoryPostProcessors_sem fpFails drFails _ lazy getc isCPP fprocs raw cpp0, ?_⟩
  intro h1 h2
  simp [Sem.invokeModel, h1, h2, invokeRegister]

/-- non-vacuity: processors 1 (lazy) and 2 (created, the created instance 7 is registered) in sorted order [2, 1] -/
example : (Sem.invokeModel (fun _ => false) false [2, 1] (fun p => p == 1) (fun p => if p == 2 then some 7 else none)
    (fun _ => true) [9] [1, 2] []).2.cpp = [Sem.encP 7, Sem.encP 1] := by rfl

/-! ### defaultFactory.PrepareComponents and RegisterComponentPostProcessors, REGENERATED (interpretation Ioc.SemPrepare) -/
section prepare
open Ioc.Go Ioc.Sem

/-- PrepareComponents: the singletons in the order the registry enumerates them, each recorded in a FRESH
    `registeredComponents` map and classified; a failing `GetSingleton` ends the call with its error BEFORE the delegate is
    invoked; otherwise the delegate gets exactly the factory post-processors found and its error is returned as it is -/
theorem C12_code_PrepareComponents (p : PCP) (w : PCW) :
    run (pcPrims p) Progs.factory_PrepareComponents [] w =
      (let r := stepLoop (pcStep p) p.names [] { w with regComps := [] }
       match r.2.2 with
       | some v => some (v, r.2.1)
       | none => some (match p.invokeErr r.1 with | none => .nil | some e => .str e, { r.2.1 with invoked := some r.1 })) :=
  prepareComponents_sem p w

/-- … and when every singleton can be fetched, the component post-processors, the definition-registry post-processors and the
    factory post-processors are the singletons of each kind IN THE ENUMERATION ORDER (a singleton of several kinds is in each
    list): the order contract of the later stages starts from this order and nothing else -/
theorem C12_code_PrepareComponents_order (p : PCP) (idOf : String → Nat) (names : List String) (fpp : List Nat) (w : PCW)
    (h : ∀ n ∈ names, p.single n = .ok (idOf n)) :
    (stepLoop (pcStep p) names fpp w).1 = fpp ++ (names.map idOf).filter p.isCFPP ∧
    (stepLoop (pcStep p) names fpp w).2.2 = none ∧
    (stepLoop (pcStep p) names fpp w).2.1.defPPs = w.defPPs ++ (names.map idOf).filter p.isDRPP ∧
    (stepLoop (pcStep p) names fpp w).2.1.beanPPs =
      w.beanPPs ++ (names.filter (fun n => p.isCPP (idOf n))).map (fun n => (idOf n, n)) ∧
    (stepLoop (pcStep p) names fpp w).2.1.invoked = w.invoked :=
  pcStep_loop_ok p idOf names fpp w h

/-- RegisterComponentPostProcessors: the processor is appended to the raw list whatever it is; the type switch marks an
    instantiation-aware processor, and a destruction-aware one only when it is not instantiation-aware (first matching clause) -/
theorem C12_code_RegisterComponentPostProcessors (isInst isDestr : Nat → Bool) (i : Nat) (n : String) (w : RCW) :
    run (rcPrims isInst isDestr) Progs.delegate_RegisterComponentPostProcessors [.ref i 0, .str n] w =
      some (.tuple [], { hasInst := w.hasInst || isInst i, hasDestr := w.hasDestr || (!isInst i && isDestr i), raw := w.raw ++ [i] }) :=
  registerCPP_sem isInst isDestr i n w

end prepare

/-! ### the small methods of the nine built-in processors and of the two default processors, REGENERATED
    (interpretation Ioc.SemProcessors: a named order constant evaluates to its name) -/
section processors
open Ioc.Go Ioc.Sem

/-- each built-in processor's `Order()` returns the constant named here (value and properties share one, the two dependency
    processors share one) -/
theorem C12_code_processor_orders (w : Option Go.Val) :
    run ppPrims Progs.pp_quote_Order [] w = some (.str "PriorityOrderPropertyConfigQuoteAware", w) ∧
    run ppPrims Progs.pp_dep_Order [] w = some (.str "OrderDependencyAware", w) ∧
    run ppPrims Progs.pp_depfn_Order [] w = some (.str "OrderDependencyAware", w) ∧
    run ppPrims Progs.pp_further_Order [] w = some (.str "OrderDependencyFurtherMatching", w) ∧
    run ppPrims Progs.pp_expr_Order [] w = some (.str "PriorityOrderPropertyExpressionTagAware", w) ∧
    run ppPrims Progs.pp_logger_Order [] w = some (.str "PriorityOrderLoggerAware", w) ∧
    run ppPrims Progs.pp_props_Order [] w = some (.str "PriorityOrderPopulateProperties", w) ∧
    run ppPrims Progs.pp_validate_Order [] w = some (.str "OrderValidate", w) ∧
    run ppPrims Progs.pp_value_Order [] w = some (.str "PriorityOrderPopulateProperties", w) :=
  ⟨pp_quote_Order_sem w, pp_dep_Order_sem w, pp_depfn_Order_sem w, pp_further_Order_sem w, pp_expr_Order_sem w, pp_logger_Order_sem w, pp_props_Order_sem w, pp_validate_Order_sem w, pp_value_Order_sem w⟩

/-- each built-in processor lets population go on after instantiation: `PostProcessAfterInstantiation` = (true, nil) -/
theorem C12_code_processor_after_instantiation (c n : Go.Val) (w : Option Go.Val) :
    run ppPrims Progs.pp_quote_AfterInstantiation [c, n] w = some (.tuple [.bool true, .nil], w) ∧
    run ppPrims Progs.pp_dep_AfterInstantiation [c, n] w = some (.tuple [.bool true, .nil], w) ∧
    run ppPrims Progs.pp_depfn_AfterInstantiation [c, n] w = some (.tuple [.bool true, .nil], w) ∧
    run ppPrims Progs.pp_further_AfterInstantiation [c, n] w = some (.tuple [.bool true, .nil], w) ∧
    run ppPrims Progs.pp_expr_AfterInstantiation [c, n] w = some (.tuple [.bool true, .nil], w) ∧
    run ppPrims Progs.pp_logger_AfterInstantiation [c, n] w = some (.tuple [.bool true, .nil], w) ∧
    run ppPrims Progs.pp_props_AfterInstantiation [c, n] w = some (.tuple [.bool true, .nil], w) ∧
    run ppPrims Progs.pp_validate_AfterInstantiation [c, n] w = some (.tuple [.bool true, .nil], w) ∧
    run ppPrims Progs.pp_value_AfterInstantiation [c, n] w = some (.tuple [.bool true, .nil], w) :=
  ⟨pp_quote_After_sem c n w, pp_dep_After_sem c n w, pp_depfn_After_sem c n w, pp_further_After_sem c n w, pp_expr_After_sem c n w, pp_logger_After_sem c n w, pp_props_After_sem c n w, pp_validate_After_sem c n w, pp_value_After_sem c n w⟩

/-- `PostProcessComponentFactory` of the four processors that have one stores what the factory hands out — its Configure, or
    its definition registry — and returns nil -/
theorem C12_code_processor_factory_hooks (w : Option Go.Val) :
    run ppPrims Progs.pp_quote_ComponentFactory [.ref 0 171] w = some (.nil, some (.tuple [.str "Configure", .str "factory.GetConfigure()"])) ∧
    run ppPrims Progs.pp_dep_ComponentFactory [.ref 0 171] w = some (.nil, some (.tuple [.str "Registry", .str "factory.GetDefinitionRegistry()"])) ∧
    run ppPrims Progs.pp_depfn_ComponentFactory [.ref 0 171] w = some (.nil, some (.tuple [.str "Registry", .str "factory.GetDefinitionRegistry()"])) ∧
    run ppPrims Progs.pp_props_ComponentFactory [.ref 0 171] w = some (.nil, some (.tuple [.str "Configure", .str "factory.GetConfigure()"])) :=
  ⟨pp_quote_Factory_sem w, pp_dep_Factory_sem w, pp_depfn_Factory_sem w, pp_props_Factory_sem w⟩

/-- the default processors change nothing: the component is returned as it is, no substitute before instantiation, and —
    unlike the built-in ones — `PostProcessAfterInstantiation` = (false, nil), `PostProcessProperties` = (nil, nil) -/
theorem C12_code_default_processors (c n : Go.Val) (w : Option Go.Val) :
    run ppPrims Progs.pp_default_BeforeInitialization [c, n] w = some (.tuple [c, .nil], w) ∧
    run ppPrims Progs.pp_default_AfterInitialization [c, n] w = some (.tuple [c, .nil], w) ∧
    run ppPrims Progs.pp_default_BeforeInstantiation [c, n] w = some (.tuple [.nil, .nil], w) ∧
    run ppPrims Progs.pp_default_AfterInstantiation [c, n] w = some (.tuple [.bool false, .nil], w) ∧
    (∀ ps, run ppPrims Progs.pp_default_Properties [ps, c, n] w = some (.tuple [.nil, .nil], w)) :=
  pp_default_sem c n w

end processors

/-- every participant appears ONCE: registering the same object again changes nothing (`C01_code_RegisterSingleton`), and
    GetSingletonNames — the list PrepareComponents walks — has one entry per stored name (`C10_code_registry_readers`) -/
theorem C12_code_registered_once (nameOf : Nat → String) (i : Nat) (w : Sem.CMap) :
    Go.run (Sem.rsPrims nameOf) Progs.sreg_RegisterSingleton [.ref i 0] w =
      (match Sem.cmLoad w (nameOf i) with
       | none => some (.tuple [], Sem.cmStore (nameOf i) i w)
       | some j => if j = i then some (.tuple [], w) else none) ∧
    Go.run Sem.srPrims Progs.sreg_GetSingletonNames [] w = some (Sem.strsNil (w.map (·.1)), w) :=
  ⟨Sem.registerSingleton_sem nameOf i w, Sem.sregNames_sem w⟩

/-! ### one instance that reaches the registry through several routes is ONE participant (ninth round)

`registerSingleton` / `registerAll` model `registry.RegisterSingleton` under `app.SetComponents` (code tie:
`C12_code_registered_once` above); correspondence: markers `t` (listed twice in one SetComponents call) and `u` (listed
again in a second SetComponents option) of the `orderstart` lines. -/

/-- However often and through however many options instances are registered, the registry — the list PrepareComponents
    walks — holds one entry per name, and nobody who was registered is missing. -/
theorem C12_registered_each_once {ν : Type} [DecidableEq ν] (name : α → ν) (regs : List α) :
    ((registerAll name regs).map name).Nodup ∧ ∀ x ∈ regs, name x ∈ (registerAll name regs).map name :=
  ⟨registerAll_nodup name regs, registerAll_mem name regs⟩

/-- The application's own list `l` (instances with names of their own, any of them listed twice) followed by any further
    registrations of instances of that list (a module's option bundle, `ioc.Register`): the registry holds exactly `l`. -/
theorem C12_registered_routes {ν : Type} [DecidableEq ν] (name : α → ν) (twice : α → Bool) (l extra : List α)
    (hn : (l.map name).Nodup) (he : ∀ x ∈ extra, name x ∈ l.map name) :
    registerAll name (listed twice l ++ extra) = l :=
  registerAll_routes name twice l extra hn he

/-- …so the sequence the container builds from it has every participant exactly once, whichever routes it came by. -/
theorem C12_twice_registered_appears_once {ν : Type} [DecidableEq ν] (hs : SortSpec part sort) (name : α → ν)
    (twice : α → Bool) (l extra : List α) (hn : (l.map name).Nodup) (he : ∀ x ∈ extra, name x ∈ l.map name) :
    (sortOrdered sort part (registerAll name (listed twice l ++ extra))).Perm l := by
  rw [registerAll_routes name twice l extra hn he]
  exact sortOrdered_perm hs l

/-- non-vacuity: participants 5 and 7 each come by two routes (5 twice in the list, 7 and 5 again in a second option) -/
example : registerAll (fun n : Nat => n) (listed (fun n => n == 5) [7, 5, 9] ++ [7, 5]) = [7, 5, 9] := by decide +kernel
example : ([7, 5, 9].map (fun n : Nat => n)).Nodup ∧ ∀ x ∈ [7, 5], (fun n : Nat => n) x ∈ [7, 5, 9].map (fun n : Nat => n) := by decide +kernel

end Ioc.C12
