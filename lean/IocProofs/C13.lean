/-
  C13 — Runners execute once, in order, only after the container is ready.
  PROPERTY THEOREMS ONLY (lemmas: IocProofs/Lemmas/AppLemmas.lean, M2Step.lean, M2StepInv.lean).

  Model: Ioc.App (`appRun` = configuration → factory preparation → refresh → runners, app/app.go:80-154;
  `sortOrdered` = util/framework_helper/order_component.go with a stable insertion sort; `callRunners` = app.go
  callRunners) over the factory machine Ioc.Container.  Every theorem is for ALL application scenarios `a`
  (every dependency graph, candidate order, post-processor behaviour, fault placement, runner classes / orders).
  `Ready a` = no configuration loader failed, no definition scanner failed, the factory machine ended in `done`.
  The collected runners are the objects injected into the App's own `ApplicationRunners` slice field
  (`runnersOf a (final a.sc)`); that this field holds every component implementing the interface is C06's business.
-/
import IocProofs.Lemmas.AppLemmas
import IocProofs.Lemmas.M2StepInv
import IocProofs.Lemmas.M2Examples
import IocProofs.Lemmas.SemApp
import IocProofs.Lemmas.ConcStart
import IocProofs.Lemmas.SemIocRun
import IocProofs.Lemmas.SemAppOptions
import IocProofs.Lemmas.SemAppRun
import IocProofs.Lemmas.SemRefresh
namespace Ioc.C13
open Ioc Ioc.M2 Ioc.App

/-- The invoked runners are a prefix of the collected runners in contract order; nobody before the last invoked one
    failed; the prefix is either everything (and nobody failed) or ends at — and includes — the first failing runner.
    If a stage before the runners failed, nothing is invoked. -/
theorem C13_prefix (a : AppScen) :
    ∃ rest, sortOrdered (runnersOf a (final a.sc)) = (appRun a).invoked ++ rest ∧
      (∀ r ∈ (appRun a).invoked.dropLast, r.fails = false) ∧
      (Ready a → (rest = [] ∧ ∀ r ∈ (appRun a).invoked, r.fails = false) ∨
                 (∃ r, (appRun a).invoked.getLast? = some r ∧ r.fails = true)) ∧
      (¬ Ready a → (appRun a).invoked = []) := by
  by_cases hr : Ready a
  · obtain ⟨_, hinv, _⟩ := appRun_ready a hr
    obtain ⟨rest, he, hd, hok, hbad⟩ := callRunners_spec (sortOrdered (runnersOf a (final a.sc)))
    rw [hinv]
    refine ⟨rest, he, hd, fun _ => ?_, fun h => absurd hr h⟩
    cases hb : (callRunners (sortOrdered (runnersOf a (final a.sc)))).2 with
    | true => exact Or.inl (hok hb)
    | false => exact Or.inr (hbad hb)
  · obtain ⟨hinv, _, _⟩ := appRun_not_ready a hr
    rw [hinv]
    exact ⟨_, (List.nil_append _).symm, fun _ h => absurd h List.not_mem_nil, fun h => absurd h hr, fun _ => rfl⟩

/-- Exactly once: when no stage before the runners failed and no collected runner fails, the invoked runners are the
    whole sorted list — a permutation of the collected runners, each invoked once — and Run succeeds. -/
theorem C13_once (a : AppScen) (hr : Ready a) (hok : ∀ r ∈ runnersOf a (final a.sc), r.fails = false) :
    (appRun a).invoked = sortOrdered (runnersOf a (final a.sc)) ∧
    (appRun a).invoked.Perm (runnersOf a (final a.sc)) ∧ (appRun a).outcome = .ok := by
  obtain ⟨hout, hinv, _⟩ := appRun_ready a hr
  have hall : ∀ r ∈ sortOrdered (runnersOf a (final a.sc)), r.fails = false :=
    fun r h => hok r ((sortOrdered_perm _).mem_iff.mp h)
  rw [callRunners_all_ok _ hall] at hinv hout
  exact ⟨hinv, by rw [hinv]; exact sortOrdered_perm _, by simpa using hout⟩

/-- A failing runner that was invoked is the LAST invoked one (no later runner is invoked, nobody before it failed)
    and Run returns the runner error; conversely the runner error means the last invoked runner failed. -/
theorem C13_error (a : AppScen) :
    (∀ r ∈ (appRun a).invoked, r.fails = true →
      (appRun a).outcome = .errRunners ∧ ∃ pre, (appRun a).invoked = pre ++ [r] ∧ ∀ q ∈ pre, q.fails = false) ∧
    ((appRun a).outcome = .errRunners → ∃ r, (appRun a).invoked.getLast? = some r ∧ r.fails = true) := by
  by_cases hr : Ready a
  · obtain ⟨hout, hinv, _⟩ := appRun_ready a hr
    constructor
    · intro r hmem hf
      rw [hinv] at hmem ⊢
      obtain ⟨hb, hlast⟩ := callRunners_fail_last _ r hmem hf
      exact ⟨by rw [hout, hb]; rfl, hlast⟩
    · intro he
      obtain ⟨rest, _, _, _, hbad⟩ := callRunners_spec (sortOrdered (runnersOf a (final a.sc)))
      rw [hinv]
      apply hbad
      cases hb : (callRunners (sortOrdered (runnersOf a (final a.sc)))).2 with
      | true => rw [hout, hb] at he; cases he
      | false => rfl
  · obtain ⟨hinv, _, hne⟩ := appRun_not_ready a hr
    exact ⟨fun r hmem => (by rw [hinv] at hmem; cases hmem), fun he => absurd he hne⟩

/-- The ordering contract: `sortOrdered l` is a permutation of `l` of the form priority-ordered ++ ordered ++ rest;
    inside the first two groups the Order values are non-decreasing and runners with equal Order keep their
    registration order (stable); the unordered rest keeps the registration order. -/
theorem C13_sorted (l : List Runner) :
    (sortOrdered l).Perm l ∧
    ∃ p o n, sortOrdered l = p ++ o ++ n ∧
      (∀ r ∈ p, r.cls = .prio) ∧ (∀ r ∈ o, r.cls = .ord) ∧ (∀ r ∈ n, r.cls = .plain) ∧
      p.Pairwise (fun x y => x.key ≤ y.key) ∧ o.Pairwise (fun x y => x.key ≤ y.key) ∧
      (∀ k, p.filter (fun r => r.key == k) = (l.filter (fun r => r.cls == .prio)).filter (fun r => r.key == k)) ∧
      (∀ k, o.filter (fun r => r.key == k) = (l.filter (fun r => r.cls == .ord)).filter (fun r => r.key == k)) ∧
      n = l.filter (fun r => r.cls == .plain) := by
  refine ⟨sortOrdered_perm l, _, _, _, sortOrdered_eq l, ?_, ?_, ?_, isortStable_sorted _, isortStable_sorted _,
    fun k => isortStable_filter_key _ k, fun k => isortStable_filter_key _ k, rfl⟩
  · intro r hr
    have := (isortStable_perm _ _).mem_iff.mp hr
    simpa [isPrio] using (List.mem_filter.mp this).2
  · intro r hr
    have := (isortStable_perm _ _).mem_iff.mp hr
    simpa [isOrd] using (List.mem_filter.mp this).2
  · intro r hr
    simpa [isPlain] using (List.mem_filter.mp hr).2

/-- The container is ready at every step count `k`: a `done` state has published every boot and every eager name. -/
theorem C13_done_published (sc : Scen) (k : Nat) (hd : (run sc k (init sc)).status = .done) :
    ∀ n ∈ sc.boot ++ sc.eager, (run sc k (init sc)).l1 n ≠ none :=
  Lc.done_all_published sc k hd

/-- Runners only after the container is ready: if any runner was invoked then the factory machine had ended in
    `done`, and in that state every eagerly created component (boot post-processors and non-lazy definitions) is
    published — it has finished its initialization (C05_once_in_order: its whole lifecycle is in the log). -/
theorem C13_after_ready (a : AppScen) :
    ((appRun a).invoked ≠ [] → Ready a) ∧
    ((final a.sc).status = .done → ∀ n ∈ a.sc.boot ++ a.sc.eager, (final a.sc).l1 n ≠ none) := by
  refine ⟨fun h => ?_, fun hd => Lc.done_all_published a.sc _ hd⟩
  apply Classical.byContradiction
  intro hr
  exact h (appRun_not_ready a hr).1

/-! ### non-vacuity -/

open Ioc.M2.Ex

/-- three runners of the three classes, the ordered one (2) fails: priority-ordered 3 first, then 2, then nothing -/
example : Ready (appScen 2) ∧ (appRun (appScen 2)).invoked.map (·.obj.name) = [3, 2] ∧
    (appRun (appScen 2)).outcome = .errRunners := by decide +kernel

/-- nobody fails: all three exactly once, in contract order, although registration order is 1, 2, 3 -/
example : Ready (appScen 0) ∧ (∀ r ∈ runnersOf (appScen 0) (final (appScen 0).sc), r.fails = false) ∧
    (runnersOf (appScen 0) (final (appScen 0).sc)).map (·.obj.name) = [1, 2, 3] ∧
    (appRun (appScen 0)).invoked.map (·.obj.name) = [3, 2, 1] ∧ (appRun (appScen 0)).outcome = .ok := by decide +kernel

/-- the eager components 0 and 4 and the lazy runners are published when the runners start -/
example : (final appSc).status = .done ∧ ∀ n ∈ [0, 1, 2, 3, 4], (final appSc).l1 n ≠ none := by decide +kernel

/-- a failing factory: nothing is invoked -/
example : ¬ Ready { appScen 0 with sc := cycInitFault } ∧
    (appRun { appScen 0 with sc := cycInitFault }).invoked.map (·.obj.name) = [] := by decide +kernel

/-! ### the tie to the code: `callRunners` of the model IS the regenerated program

`Ioc.Progs.app_callRunners` is the syntax tree of `App.callRunners` (app/app.go), re-translated from /repo's source on every
run into the MiniGo deep embedding (Ioc.GoSem).  Run by the interpreter — `Run()` of the runner at position i fails iff the
model's runner does, `SortOrderedComponents` answers with an arbitrary arrangement `sorted` of the positions (its contract is
C12's business) — it invokes exactly the model's prefix, in that order, returns nil iff no invoked runner failed, and clears
the runner list only then.  For EVERY list of runners and every arrangement. -/

theorem C13_code_callRunners (rs : List Runner) (sorted : List Nat) :
    Go.run (Sem.crPrims rs sorted) Progs.app_callRunners [] {} =
      if rs.length = 0 then some (.nil, {})
      else some (if (Sem.callIdx rs sorted).2 then .nil else Sem.errA,
                 { invoked := (Sem.callIdx rs sorted).1, cleared := (Sem.callIdx rs sorted).2 }) :=
  Sem.app_callRunners_sem rs sorted

/-- the positions the program invoked are the runners `App.callRunners` (the model function of C13_prefix / C13_error)
    invokes on the sorted list, with the same verdict -/
theorem C13_code_is_model (rs : List Runner) (sorted : List Nat) (hv : ∀ i ∈ sorted, i < rs.length) :
    App.callRunners (sorted.filterMap (fun i => rs[i]?)) =
      (((Sem.callIdx rs sorted).1).filterMap (fun i => rs[i]?), (Sem.callIdx rs sorted).2) :=
  Sem.callIdx_model rs sorted hv

/-- non-vacuity: three runners, sorted as 2,0,1, the one at position 0 fails: positions 2 and 0 are invoked, an error is
    returned, the list is not cleared -/
example : Go.run (Sem.crPrims [⟨⟨7, 0⟩, .plain, 0, true⟩, ⟨⟨8, 0⟩, .plain, 0, false⟩, ⟨⟨9, 0⟩, .prio, 1, false⟩] [2, 0, 1])
    Progs.app_callRunners [] {} = some (Sem.errA, { invoked := [2, 0], cleared := false }) :=
  (Sem.app_callRunners_sem _ _).trans (by rfl)

/-! ### concurrent starts of different Apps in one process (Ioc.Conc section 4: the option loop of App.Run,
    `for _, op := range append(ops, globalOptions...) { op(s) }`, over Go slices with capacities)

    "Exactly once per start" needs every App to register ITS runners: the theorems above then give one invocation per
    registered runner per start. Which options an App applies while other Apps start at the same time: -/

open Ioc.Conc in
/-- For every number of Apps, every content and CAPACITY of globalOptions (every history of app.Settings calls), every
    option list per App and every interleaving of the Apps' `append` and loop steps: an App that has left its option loop
    applied exactly its own options, in order, followed by the global ones — no option of another App, none twice. -/
theorem C13_concurrent_starts_isolated (c : StartCfg) (h0 : Heap) (next0 : Nat) (wf : StartWF c next0) (s : StartSt)
    (hr : StartSteps c (startInit h0 next0) s) (i : Nat) (hi : i < c.napps) (hd : startDone s i) :
    s.applied i = readSlice h0 (c.ops i) ++ readSlice h0 c.g :=
  starts_isolated c h0 next0 wf s hr i hi hd

open Ioc.Conc in
/-- … so, when App i's caller passes the SetComponents option with App i's runners (standard layout: any number of global
    options of any capacity, none of them a SetComponents; nops ≥ 1 options per App), App i registers the runners of App j
    iff j = i — under every interleaving of the concurrent starts. -/
theorem C13_concurrent_starts_own_runners (glen gcap nops napps : Nat) (hn : 1 ≤ nops) (s : StartSt)
    (hr : StartSteps (stdCfg false glen gcap nops napps) (startInit stdHeap (napps + 1)) s)
    (i : Nat) (hi : i < napps) (hd : startDone s i) (j : Nat) :
    SOpt.comps j ∈ s.applied i ↔ j = i := by
  rw [C13_concurrent_starts_isolated _ stdHeap (napps + 1) (stdCfg_wf glen gcap nops napps) s hr i hi hd]
  exact std_comps_mem glen gcap nops napps hn i j

open Ioc.Conc in
/-- What the argument order of `append` buys: with `append(globalOptions, ops...)` and ONE spare slot behind three global
    options (three app.Settings calls of one option each), the schedule "both Apps evaluate append, then both run their
    loops" makes App 0 apply the SetComponents option of App 1: the runners of App 1 are invoked by two starts, those of
    App 0 by none. -/
theorem C13_globals_first_counterexample :
    let c := stdCfg true 3 4 1 2
    let s := startRendezvous c (startInit stdHeap 3)
    StartSteps c (startInit stdHeap 3) s ∧ s.pos 0 = 4 ∧ s.pos 1 = 4 ∧
      s.applied 0 = [.other, .other, .other, .comps 1] ∧ s.applied 1 = [.other, .other, .other, .comps 1] ∧
      runsOf c s 0 = 0 ∧ runsOf c s 1 = 2 ∧ foreignOf c s 1 = 1 :=
  ⟨startRendezvous_sound _ _, by decide +kernel⟩

open Ioc.Conc in
/-- non-vacuity of the two theorems above: the same schedule under the code that exists (own options first), four Apps,
    three global options with a spare slot: a run of the system in which every App has left its loop, having applied its
    own SetComponents and the three global options; every runner is invoked by exactly one start, its own -/
example :
    let c := stdCfg false 3 4 1 4
    let s := startRendezvous c (startInit stdHeap 5)
    StartSteps c (startInit stdHeap 5) s ∧ startDone s 2 ∧ s.applied 2 = [.comps 2, .other, .other, .other] ∧
      (List.range 4).map (runsOf c s) = [1, 1, 1, 1] ∧ (List.range 4).map (foreignOf c s) = [0, 0, 0, 0] :=
  ⟨startRendezvous_sound _ _, ⟨⟨5 + 2, 4, 4⟩, by decide +kernel⟩, by decide +kernel⟩

/-! ### the REGENERATED package-level entry points (run.go)

    `ioc.Register` only remembers a `SetComponents` option; `ioc.Run` starts ONE App with the options of the call first and the
    remembered ones after them — a registry (factory, configure) chosen by the call is in place before the registered
    components, runners and closers among them, are added to it. -/
section entry
open Ioc.Go Ioc.Sem

theorem C13_code_ioc_Register (flag : String) (rf : Bool) (cs : Go.Val) (w : IRW) :
    run (iocPrims flag rf) Progs.ioc_Register [cs] w =
      some (.tuple [], { w with reg := w.reg ++ [.tuple [.str "SetComponents", cs]] }) :=
  iocRegister_sem flag rf cs w

theorem C13_code_ioc_Run (flag : String) (rf : Bool) (ops : List Go.Val) (w : IRW) :
    run (iocPrims flag rf) Progs.ioc_Run [.list ops] w =
      some (if rf then .tuple [.nil, .str "error"] else .tuple [.ref 0 1, .nil],
            { w with started := w.started ++ [ops ++ w.reg] }) :=
  iocRun_sem flag rf ops w

/-- the options that decide WHERE components go: `SetRegistry` / `SetFactory` replace what the App holds, `SetComponents`
    registers every component, in the order given, into the registry the App holds when the option runs, `Options` applies the
    given options once each in the order given -/
theorem C13_code_component_options (r f : Nat) (cs : List Go.Val) (ops : List Nat) (w : AW) :
    run aoptPrims Progs.aopt_SetRegistry [.ref r 2, .ref 0 1] w = some (.tuple [], { w with registry := r }) ∧
    run aoptPrims Progs.aopt_SetFactory [.ref f 3, .ref 0 1] w = some (.tuple [], { w with factory := f }) ∧
    run aoptPrims Progs.aopt_SetComponents [.list cs, .ref 0 1] w =
      some (.tuple [], { w with registered := w.registered ++ cs.map (fun c => (w.registry, c)) }) ∧
    run aoptPrims Progs.aopt_Options [.list (ops.map (fun i => Go.Val.ref i 5)), .ref 0 1] w =
      some (.tuple [], { w with applied := w.applied ++ ops }) :=
  ⟨setRegistry_sem r w, setFactory_sem f w, setComponents_sem cs w, options_sem ops w⟩

end entry

section apprun
open Ioc.Go Ioc.Sem

/-- App.Run, regenerated (interpretation Ioc.SemAppRun; `Fatalf` is kept as a call — it returns only when the log level is
    above Fatal): the options given are applied first, in the order given, then the package-level ones; then `initiate`,
    then — when it succeeded — `run` exactly once, whose error is returned as it is.  When `initiate` fails, Run either never
    returns or (Fatalf returned) goes on to `run`: it does not return initiate's error -/
theorem C13_code_App_Run (p : ARP) (ops : List Nat) (w : List ACall) :
    run (arPrims p) Progs.app_Run [optVals ops] w =
      (if p.initErr.isSome && !p.fatalReturns then none
       else some (encOptE p.runErr, w ++ (ops ++ p.globals).map ACall.option ++ [.initiate, .run])) :=
  appRun_sem p ops w

/-- App.initiate, regenerated: a missing configure / registry / factory is reported, in that order, before anything is set or
    registered; otherwise the factory gets the registry and the configure, and the App itself and the nine built-in
    processors are registered in the order written -/
theorem C13_code_initiate (p : AIP) (w : List ACall) :
    run (aiPrims p) Progs.app_initiate [] w =
      some (if !p.hasConf then (.str "missing configure", w)
            else if !p.hasReg then (.str "missing registry", w)
            else if !p.hasFac then (.str "missing factory", w)
            else (.nil, w ++ [.setRegistry, .setConfigure] ++ builtinOrder.map ACall.register)) :=
  initiate_sem p w

end apprun

/-- "only after the container is ready": Refresh (regenerated, `C10_code_Refresh`) asks the factory for every non-lazy name of
    the DEFINITION REGISTRY AS IT IS WHEN Refresh RUNS — definitions added by factory post-processors included — in sorted
    order, and stops at the first failing creation; `run` calls the runners only after it returned nil -/
theorem C13_code_Refresh_reads_registry (sort : (Nat → Nat → Bool) → List Nat → List Nat) (metas : List Nat)
    (lazy getFails : Nat → Bool) :
    Go.run (Sem.refreshPrims sort metas lazy getFails) Progs.fac_Refresh [] [] =
      some (if (Order.runLoop getFails (Sem.refreshNames sort metas lazy) []).2 then Sem.errN else .nil,
            (Order.runLoop getFails (Sem.refreshNames sort metas lazy) []).1) :=
  Sem.refresh_sem sort metas lazy getFails

end Ioc.C13
