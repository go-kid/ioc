/-
  C14 — "Close reaches every closer exactly once and waits for all of them"  (app/app.go:156-174)

  The theorems are about `Conc.Step cfg …` where `cfg` is COMPUTED from the regenerated skeleton
  `Facts.closeSkel` of App.Close: moving or removing wg.Add / defer wg.Done / wg.Wait, or calling the
  closers in a plain loop, changes the generated term, `C14_skeleton` stops checking and with it the
  theorems below (they go through `cfg_joined`; `C14_never_twice` alone holds of every configuration).
  `Reach cfg n errs s` = s is reachable under SOME schedule of main and the n closer goroutines, so a
  statement for all reachable s is a statement for all schedules, all delays and finishing orders.
  Partial by nature: the model cannot show scheduler starvation, a closer that never returns, or a
  closer that panics (a panic in a goroutine kills the process; Close has no recover).
-/
import IocProofs.Lemmas.ConcPaths
import IocProofs.Lemmas.ConcWait
import IocProofs.Lemmas.ConcNames
import IocProofs.Lemmas.ConcEntry
import IocProofs.Lemmas.ConcNinth
import IocProofs.Lemmas.SemDelegate
import IocProofs.Lemmas.SemMisc
import IocProofs.Lemmas.SemMeta

namespace Ioc.C14
open Ioc.Conc

/-- the configuration read from the regenerated skeleton of App.Close -/
def cfg : FanCfg := (closeShape Facts.closeSkel).cfg

/-- proof obligation on the regenerated term: Add(len) before the loop, one goroutine per closer that starts with
    `defer wg.Done()` and calls Close once, Wait directly after the loop, no write to a captured variable -/
theorem C14_skeleton : closeShape Facts.closeSkel = expectedCloseShape := by decide +kernel

theorem cfg_joined : cfg.Joined := by
  unfold cfg; rw [C14_skeleton]; exact ⟨rfl, rfl, rfl, rfl⟩

theorem cfg_nocrit : cfg.crit = false := by
  unfold cfg; rw [C14_skeleton]; rfl

/-- For every number of closers, every subset of closers that return an error, every schedule: in every state in
    which Close has returned, every closer's Close was invoked exactly once and has returned. -/
theorem C14_all_once (n : Nat) (errs : Nat → Bool) (s : St) (h : Reach cfg n errs s) (hret : mainReturned s) :
    ∀ i, i < n → s.calls i = 1 ∧ s.wpc i = .finished :=
  (joined_all_once cfg_joined n errs s h hret).1

/-- … and at no point of any schedule has a closer been invoked twice. -/
theorem C14_never_twice (n : Nat) (errs : Nat → Bool) (s : St) (h : Reach cfg n errs s) (i : Nat) : s.calls i ≤ 1 :=
  calls_le_one h i

/-- No step of a closer goroutine waits on a sibling: whether closer i can take its next step depends on its own
    program counter only — not on the other workers, not on who failed, not on main. -/
theorem C14_worker_steps_local (errs errs' : Nat → Bool) (i : Nat) (s t : St) (hp : s.wpc i = t.wpc i)
    (h : ∃ q mu', WStep cfg (errs i) i (s.wpc i) s.mu q mu') : ∃ q mu', WStep cfg (errs' i) i (t.wpc i) t.mu q mu' := by
  obtain ⟨q, mu', hw⟩ := h
  obtain ⟨h0, hf, _⟩ := hw.facts
  obtain ⟨q', mu'', hw', _⟩ := worker_progress_nocrit cfg cfg_nocrit (errs' i) i (t.wpc i) (hp ▸ h0) (hp ▸ hf) t.mu
  exact ⟨q', mu'', hw'⟩

/-- A failing or slow closer never prevents the others from being invoked: from EVERY reachable state (siblings in
    the middle of their Close, failed, finished or not even scheduled) there is a continuation in which closer i is
    invoked (exactly once) and finishes while every sibling stays exactly where it is — the only thing that may
    happen to a sibling is that main spawns its goroutine. -/
theorem C14_no_block (n : Nat) (errs : Nat → Bool) (s : St) (h : Reach cfg n errs s) (i : Nat) (hi : i < n) :
    ∃ s', Steps cfg n errs s s' ∧ s'.wpc i = .finished ∧ s'.calls i = 1 ∧
      ∀ j, j ≠ i → (s'.wpc j = s.wpc j ∨ (s.wpc j = .idle ∧ s'.wpc j = .ready)) ∧ s'.calls j = s.calls j :=
  no_block cfg cfg_joined.2.1 cfg_nocrit n errs s h i hi

/-- Slow closers never keep the others from being invoked, in its strongest form: for every number of closers there is a
    schedule that brings ALL n closers inside their Close() at the same moment — each invoked exactly once, none of them
    returned yet. So closers that return only once every peer has been entered (scenario `closew`) are all released.
    (A fixed pool of k goroutines cannot have more than k closers inside at once.) -/
theorem C14_all_inside_together (n : Nat) (errs : Nat → Bool) :
    ∃ s, Reach cfg n errs s ∧ ∀ i, i < n → s.wpc i = .calling ∧ s.calls i = 1 :=
  all_inside_together cfg cfg_joined.2.1 n errs

/-- no closers: nothing is spawned, nothing is called, and Close returns -/
theorem C14_zero (errs : Nat → Bool) :
    (∀ s, Reach cfg 0 errs s → s.spawned = 0 ∧ ∀ i, s.wpc i = .idle ∧ s.calls i = 0) ∧
    (∃ s, Reach cfg 0 errs s ∧ mainReturned s) := by
  refine ⟨fun s h => ?_, joined_can_return cfg_joined cfg_nocrit 0 errs⟩
  have hinv := finv_reach h
  have hsp : s.spawned = 0 := Nat.le_zero.mp hinv.sp_le
  refine ⟨hsp, fun i => ?_⟩
  have hid := hinv.unsp i (by omega)
  exact ⟨hid, by rw [hinv.calls_eq, hid]; rfl⟩

/-- non-vacuity of C14_all_once for every n: Close CAN return (when every closer returns) -/
theorem C14_can_return (n : Nat) (errs : Nat → Bool) : ∃ s, Reach cfg n errs s ∧ mainReturned s :=
  joined_can_return cfg_joined cfg_nocrit n errs

/-- What Wait buys: the same skeleton WITHOUT `wg.Wait()` (fire and forget). For every n ≥ 1 there is a schedule in
    which Close has returned and closer 0 has not even been invoked. -/
def noWaitCfg : FanCfg := ({ expectedCloseShape with waitAfterLoop := false } : CloseShape).cfg

theorem C14_fire_and_forget_counterexample (n : Nat) (hn : 1 ≤ n) (errs : Nat → Bool) :
    ∃ s, Reach noWaitCfg n errs s ∧ mainReturned s ∧ s.calls 0 = 0 ∧ s.wpc 0 = .ready := by
  obtain ⟨s1, hs1, hpc1, hsp1, hw1, hc1, -⟩ := main_spawned noWaitCfg rfl n errs n (Nat.le_refl n)
  exact ⟨_, hs1.trans (main_returns noWaitCfg n errs s1 hpc1 hsp1 nofun), rfl, hc1 0, (hw1 0).trans (if_pos hn)⟩

/-- same for `wg.Add(1)` moved into the goroutine: main can pass the Wait before any goroutine has added itself -/
def addInWorkerCfg : FanCfg := ({ expectedCloseShape with addBeforeSpawn := false } : CloseShape).cfg

theorem C14_add_in_goroutine_counterexample (n : Nat) (_hn : 1 ≤ n) (errs : Nat → Bool) :
    ∃ s, Reach addInWorkerCfg n errs s ∧ mainReturned s ∧ s.calls 0 = 0 := by
  obtain ⟨s1, hs1, hpc1, hsp1, -, hc1, hwg1, -⟩ := main_spawned addInWorkerCfg rfl n errs n (Nat.le_refl n)
  exact ⟨_, hs1.trans (main_returns addInWorkerCfg n errs s1 hpc1 hsp1 fun _ => hwg1), rfl, hc1 0⟩

/-! ### non-vacuity: concrete runs of the executable scheduler (the one the driver uses) are runs of `Step`
    and end in a state in which Close has returned -/

example : Reach cfg 3 (fun i => i == 1) (schedule cfg 3 (fun i => i == 1) 200 7 init) ∧
    mainReturned (schedule cfg 3 (fun i => i == 1) 200 7 init) :=
  ⟨schedule_sound cfg 3 _ 200 7 init, by unfold mainReturned; decide⟩

example : (schedule cfg 3 (fun i => i == 1) 200 7 init).calls 2 = 1 := by decide +kernel

/-- the run the driver makes for `closew 5 2 8 3` (five closers that wait for each other, closer 1 fails, closer 3 returns
    at once) is a run of the system and ends with Close returned: nobody had to give up -/
example : Reach cfg 5 (fun i => i == 1) (scheduleW cfg 5 (fun i => i == 1) (fun i => i == 3) 280 3 init) ∧
    mainReturned (scheduleW cfg 5 (fun i => i == 1) (fun i => i == 3) 280 3 init) :=
  ⟨scheduleW_sound cfg 5 _ _ 280 3 init, by unfold mainReturned; decide⟩

/-- the run the driver makes for `closea 2 4 2 2 15 19` (fifth round: two self-named closers, one of them wired with the App
    and created before it, plus the two type-named closers wired with the App — four registered closer components, closer 2
    failing) and for the first App of `closed 3 1 qt.ls 77` (three ordinary closers + dupb's Sess + the function-local closer):
    runs of the system that end with Close returned, every closer invoked once -/
example : Reach cfg 4 (fun i => (4 : Nat).testBit i) (schedule cfg 4 (fun i => (4 : Nat).testBit i) 240 19 init) ∧
    mainReturned (schedule cfg 4 (fun i => (4 : Nat).testBit i) 240 19 init) :=
  ⟨schedule_sound cfg 4 _ 240 19 init, by unfold mainReturned; decide⟩

example : (schedule cfg 5 (fun i => (1 : Nat).testBit i) 280 77 init).mainPc = 3 ∧
    (List.range 5).all (fun i => (schedule cfg 5 (fun i => (1 : Nat).testBit i) 280 77 init).calls i == 1) = true := by decide +kernel

/-! ### sixth round: closers whose names differ only in letter case

Which registered components reach `App.CloserComponents` is decided by the wiring; one link of it is modelled here: every
registered component gets its definition through ONE load-or-store of the definition registry's map under the component's
name (container/support/component_definition_registry.go:43-50; `Ioc.Conc.definedNames`, section 6 of Ioc.Conc). The singleton
registry accepts every name that is not EQUAL to a registered one, so the registered names are pairwise different — nothing
more. -/

/-- With the map keyed by the name itself (the code), every registered component gets a definition of its own, whatever the
    names look like — in particular names that differ only in letter case — and in whatever order the parallel scans arrive. -/
theorem C14_exact_names_all_defined {α : Type} [DecidableEq α] (names : List α) (h : names.Nodup) :
    definedNames (fun x => x) names = names :=
  definedFrom_all (fun x => x) names [] h (fun _ _ _ _ e => e) (fun _ _ hm => by cases hm)

/-- More generally: any key that is injective on the registered names keeps all of them … -/
theorem C14_injective_key_all_defined {α κ : Type} [DecidableEq κ] (key : α → κ) (names : List α) (h : names.Nodup)
    (hinj : ∀ a, a ∈ names → ∀ b, b ∈ names → key a = key b → a = b) : definedNames key names = names :=
  definedFrom_all key names [] h hinj (fun _ _ hm => by cases hm)

/-- … and any key under which two DIFFERENT registered names collide leaves a registered component without a definition
    (it is never created, never collected as a closer, never closed), in every order of arrival. -/
theorem C14_colliding_key_drops_a_component {α κ : Type} [DecidableEq κ] (key : α → κ) (names : List α) (a b : α)
    (ha : a ∈ names) (hb : b ∈ names) (hne : a ≠ b) (hk : key a = key b) :
    (definedNames key names).length < names.length :=
  definedFrom_drops key names [] (Or.inr ⟨a, ha, b, hb, hne, hk⟩)

/-- A key that forgets the letter case is such a key: of the closers `orders`, `Orders`, `payments` only two get a
    definition, in both orders of arrival. -/
theorem C14_case_folded_key_counterexample :
    definedNames foldCase ["orders".toList, "Orders".toList, "payments".toList] = ["orders".toList, "payments".toList] ∧
    definedNames foldCase ["Orders".toList, "orders".toList, "payments".toList] = ["Orders".toList, "payments".toList] := by
  decide +kernel

-- non-vacuity: the hypotheses of C14_exact_names_all_defined hold for names that differ only in letter case
example : ["orders".toList, "Orders".toList, "ORDERS".toList, "oRDERS".toList].Nodup := by decide +kernel

/-- the run the driver makes for `closec 2 4 m2d 39` (two ordinary closers, the type-named kase.Hub and a closer that names
    itself `…/kase/hub`; closer 2 fails): four registered closer components, a run of the system that ends with Close
    returned and every closer invoked once -/
example : Reach cfg 4 (fun i => (4 : Nat).testBit i) (schedule cfg 4 (fun i => (4 : Nat).testBit i) 240 39 init) ∧
    mainReturned (schedule cfg 4 (fun i => (4 : Nat).testBit i) 240 39 init) ∧
    (List.range 4).all (fun i => (schedule cfg 4 (fun i => (4 : Nat).testBit i) 240 39 init).calls i == 1) = true :=
  ⟨schedule_sound cfg 4 _ 240 39 init, by unfold mainReturned; decide +kernel⟩

/-! ### eighth round: which registered closers reach the App that is closed

(a) starts through the package-level entry points: `ioc.Register(cs…)` stores ONE option `SetComponents(cs…)`, `ioc.Run(ops…)`
runs `append(ops, registerHandlers...)` on a new App — the options of the call first, the stored ones after them (run.go:18-31;
section 8 of Ioc.Conc). `SetComponents` registers into the registry the App holds at that moment, `SetRegistry` replaces it.
(b) closers of other Go kinds than (pointer to) struct get their definition like every component: the tag scan's first
statement is `GetMetaOrRegister`, for every kind. Both are tied to the code by the real runs (`closep`, `closek`) only. -/

/-- Whatever options the call of `ioc.Run` is given — registries of its own included —, and however many `ioc.Register`
    calls there were: every component handed to `ioc.Register` is in the registry of the App that `ioc.Run` starts (and so
    is created, collected and closed like every registered closer: C14_all_once). -/
theorem C14_run_keeps_everything_registered (ops handlers : List ROpt)
    (hh : ∀ o, o ∈ handlers → o.isComponents = true) (c : Nat) (hc : c ∈ handlers.flatMap ROpt.ids) :
    c ∈ iocRunRegistry ops handlers := by
  rw [iocRunRegistry_eq ops handlers hh]
  exact List.mem_append_right _ hc

/-- … the hypothesis holds for everything `ioc.Register` stores … -/
theorem C14_register_stores_components (hs : List ROpt) (ids : List Nat) (h : ∀ o, o ∈ hs → o.isComponents = true) :
    ∀ o, o ∈ iocRegister hs ids → o.isComponents = true :=
  iocRegister_components hs ids h

/-- … and when the call installs its registries BEFORE its own components (the scenarios `closep`), the registry of the App
    holds exactly the call's components followed by everything handed to `ioc.Register`. -/
theorem C14_run_registry (pre comps handlers : List ROpt) (hpre : ∀ o, o ∈ pre → o = .setRegistry)
    (hc : ∀ o, o ∈ comps → o.isComponents = true) (hh : ∀ o, o ∈ handlers → o.isComponents = true) :
    iocRunRegistry (pre ++ comps) handlers = comps.flatMap ROpt.ids ++ handlers.flatMap ROpt.ids := by
  rw [iocRunRegistry_eq _ handlers hh, applyOpts_append, applyOpts_registries pre hpre,
    foldl_applyOpt_components comps [] hc, List.nil_append]

/-- What the order `append(ops, registerHandlers...)` buys: with the stored options FIRST and the options of the call after
    them, one `SetRegistry` in the call discards every component handed to `ioc.Register` — the registry holds what the
    options after the last `SetRegistry` register, nothing else. -/
theorem C14_handlers_first_counterexample (handlers before after : List ROpt) :
    applyOpts (handlers ++ (before ++ .setRegistry :: after)) = applyOpts after := by
  rw [← List.append_assoc, applyOpts_append]; rfl

/-- the history of `closep 2 r.2 10 49`: closers 0, 1 through `ioc.Register`, then `ioc.Run(SetRegistry(fresh),
    SetComponents(2, 3))`: the code's order keeps all four, the stored-options-first order keeps two. -/
example : iocRunRegistry [.setRegistry, .setComponents [2, 3]] (iocRegister [] [0, 1]) = [2, 3, 0, 1] ∧
    applyOpts (iocRegister [] [0, 1] ++ [.setRegistry, .setComponents [2, 3]]) = [2, 3] := by decide +kernel

-- non-vacuity of C14_run_registry: two registries, two SetComponents options, two ioc.Register calls
example : (∀ o, o ∈ [ROpt.setRegistry, .setRegistry] → o = .setRegistry) ∧
    (∀ o, o ∈ [ROpt.setComponents [3], .setComponents [4, 5]] → o.isComponents = true) ∧
    (∀ o, o ∈ iocRegister (iocRegister [] [0, 1]) [2] → o.isComponents = true) := by decide +kernel

/-- Every registered component gets a definition in the tag scan, whatever its Go kind (the scan has no guard in front of
    `GetMetaOrRegister`) … -/
theorem C14_every_kind_defined {α : Type} (comps : List (α × CKind)) :
    scanDefined codeScanGuard comps = comps.map (·.1) :=
  scanDefined_all comps

/-- … and a scan that reaches `GetMetaOrRegister` for (pointers to) structs only leaves every registered component of another
    kind — a pointer to a named integer, a named channel, … — without definition: never created, never closed. -/
theorem C14_struct_only_scan_drops_a_component {α : Type} (comps : List (α × CKind)) (c : α × CKind) (hc : c ∈ comps)
    (hk : c.2 ≠ .struct) : (scanDefined structOnlyGuard comps).length < comps.length := by
  refine scanDefined_drops structOnlyGuard comps c hc ?_
  unfold structOnlyGuard
  cases h : c.2 <;> first | exact absurd h hk | rfl

/-- the closers of `closek 4 12 silc 44` -/
example : scanDefined codeScanGuard [(0, CKind.struct), (1, .int), (2, .slice), (3, .chan)] = [0, 1, 2, 3] ∧
    scanDefined structOnlyGuard [(0, CKind.struct), (1, .int), (2, .slice), (3, .chan)] = [0] := by decide +kernel

/-- the run the driver makes for `closep 2 r.2 10 49` (closers 2, 3, 0, 1 in the registry; closers 1 and 3 fail): a run of the
    system that ends with Close returned and every closer invoked once -/
example : Reach cfg 4 (fun j => (10 : Nat).testBit ([2, 3, 0, 1].getD j 0))
      (schedule cfg 4 (fun j => (10 : Nat).testBit ([2, 3, 0, 1].getD j 0)) 240 49 init) ∧
    mainReturned (schedule cfg 4 (fun j => (10 : Nat).testBit ([2, 3, 0, 1].getD j 0)) 240 49 init) :=
  ⟨schedule_sound cfg 4 _ 240 49 init, by unfold mainReturned; decide⟩

/-! ### ninth round: who else takes part in the start of the App that is closed

(a) user post-processors: `ResolveAfterInstantiation` asks every instantiation-aware processor and applies the
`PostProcessProperties` of those that answer true — an answer `false` concerns the processor that gave it, the loop goes on
(section 9 of Ioc.Conc). `App.CloserComponents` is filled from what the built-in dependency processor finds while the App is
populated. (b) other components with an injection point of the closer interface type have candidates of their own; what
they keep of them does not touch what the App is offered. Both are tied to the code by the real runs (`closeq`, `closeh`). -/

/-- An answer `false` is local: among ANY post-processors, in any order, whatever the others answer, a processor that answers
    true has its PostProcessProperties applied. -/
theorem C14_veto_is_local (ps : List IProc) (p : IProc) (hp : p ∈ ps) (ha : p.aware = true) (hpop : p.populate = true) :
    p.id ∈ resolveAfter ps :=
  resolveAfter_mem ps p hp ha hpop

/-- … so the App is offered its closers whatever user post-processors stand before and behind the dependency processor
    (and they are then closed exactly once: C14_all_once). -/
theorem C14_closers_collected_among_any_processors (pre post : List IProc) :
    collectsClosers (resolveAfter (pre ++ depProc :: post)) = true := by
  unfold collectsClosers
  rw [List.contains_iff_mem]
  exact resolveAfter_mem _ depProc (by simp) rfl rfl

/-- The loop that ENDS at the first answer `false` applies nothing behind that processor: with a user processor that keeps
    the default answer anywhere before the dependency processor, the App is never offered a closer. -/
theorem C14_break_on_veto_counterexample (pre post : List IProc) (v : IProc) (ha : v.aware = true) (hv : v.populate = false) :
    ∀ x, x ∈ resolveAfterBreak (pre ++ v :: post) → x ∈ pre.map (·.id) :=
  resolveAfterBreak_stops pre post v ha hv

/-- the processors of `closeq 6 42 o1d 55`: a user processor Ordered 0 that keeps the default answer, then the built-in
    ordered ones: the code's loop applies the dependency processor, the loop that breaks applies nothing -/
example : collectsClosers (resolveAfter [⟨100, true, false⟩, depProc, ⟨3, true, true⟩, ⟨1, true, true⟩]) = true ∧
    resolveAfterBreak [⟨100, true, false⟩, depProc, ⟨3, true, true⟩, ⟨1, true, true⟩] = [] := by decide +kernel

-- non-vacuity of C14_veto_is_local / C14_break_on_veto_counterexample
example : depProc ∈ [⟨100, true, false⟩, depProc] ∧ depProc.aware = true ∧ depProc.populate = true ∧
    (⟨100, true, false⟩ : IProc).aware = true ∧ (⟨100, true, false⟩ : IProc).populate = false := by decide +kernel

/-- Every injection point has candidates of its own: whatever the holders populated before the App keep of theirs, the App
    is offered the enumeration of the registered closers — each of them exactly once. -/
theorem C14_own_candidates_every_closer_once (enum : List Nat) (holders : List (Nat → Bool)) (h : enum.Nodup) :
    ownCandidates enum holders = enum ∧ ∀ c, c ∈ enum → (ownCandidates enum holders).count c = 1 :=
  ⟨rfl, fun _ hc => h.count.trans (if_pos hc)⟩

/-- ONE candidate array per type that every holder filters in place: closers 0..5, a holder that keeps the closers 2 and 5
    (`qualifier=db`) compacts the array to 2 5 2 3 4 5 — the App, populated afterwards, is offered closers 2 and 5 twice and
    closers 0 and 1 not at all; when the qualifying closers happen to be enumerated first nothing shows. -/
theorem C14_shared_candidates_counterexample :
    sharedCandidates [0, 1, 2, 3, 4, 5] [fun i => i == 2 || i == 5] = [2, 5, 2, 3, 4, 5] ∧
    sharedCandidates [2, 5, 0, 1, 3, 4] [fun i => i == 2 || i == 5] = [2, 5, 0, 1, 3, 4] := by decide +kernel

/-- the run the driver makes for `closeh 6 18 ssdssd ldb 62` (six closers; closers 1 and 4 fail): Close returned, every
    closer invoked once -/
example : Reach cfg 6 (fun j => (18 : Nat).testBit ((List.range 6).getD j 0))
      (schedule cfg 6 (fun j => (18 : Nat).testBit ((List.range 6).getD j 0)) 320 62 init) ∧
    mainReturned (schedule cfg 6 (fun j => (18 : Nat).testBit ((List.range 6).getD j 0)) 320 62 init) :=
  ⟨schedule_sound cfg 6 _ 320 62 init, by unfold mainReturned; decide⟩

/-- "every closer registered with the App" reaches `CloserComponents` through ordinary injection: ResolveAfterInstantiation
    (regenerated, `C12_code_ResolveAfterInstantiation`) calls EVERY InstantiationAware processor in chain order — a processor
    that answers false only skips ITS OWN PostProcessProperties, the later ones (the dependency processors that fill the
    App's slices) still run — and fas.Filter (regenerated, `C06_code_fasFilter`) returns a NEW list, leaving its argument
    as it was -/
theorem C14_code_population_reaches_closers (procs : List Nat) (isInst : Nat → Bool) (res : Nat → Order.Step) (errOk : Nat → Bool)
    (g : Nat → Bool) (l : List Nat) :
    Go.run (Sem.raiPrims procs isInst res errOk) Progs.del_ResolveAfterInstantiation [.str "meta", .str "n"] [] =
      some (if (Order.resolveAfterInstantiation isInst res procs).2 then Sem.errN else .nil,
            (Order.resolveAfterInstantiation isInst res procs).1) ∧
    Go.run (Sem.filterPrims g) Progs.fas_Filter [Sem.encInts l, .str "f"] () = some (Sem.encInts (l.filter g), ()) :=
  ⟨Sem.resolveAfterInstantiation_sem procs isInst res errOk [], Sem.fasFilter_sem g l⟩

/-- every closer is its own component under its own name: SetName / Name (regenerated, `C07_code_meta_names`) keep a custom
    name exactly as it is given — two names that differ in anything, blanks included, stay two names -/
theorem C14_code_names_kept (idOf nameOf : Nat → String) (isComp : Nat → Bool) (n : String) (w : Sem.MW) :
    Go.run (Sem.metaPrims idOf nameOf isComp) Progs.meta_SetName [.str n] w =
      some (.tuple [], if n != w.name then { w with alias := n } else w) ∧
    Go.run (Sem.metaPrims idOf nameOf isComp) Progs.meta_Name [] w = some (.str (if w.alias != "" then w.alias else w.name), w) :=
  ⟨Sem.metaSetName_sem idOf nameOf isComp n w, Sem.metaName_sem idOf nameOf isComp w⟩

end Ioc.C14
