/-
  C15 — Configuration sources merge in loader order; adding a source drops nothing.
  PROPERTY THEOREMS ONLY (lemmas live in IocProofs/Lemmas/Config.lean and ConfigSeq.lean).

  Model: Ioc.Config — `merge` is viper's mergeMaps rule (third party, modelled), `mergeAll` one
  viper.MergeConfig per document, `loaderSeq` the SortOrderedComponents rule on loaders, `loadAll` the loop of
  configure.loadConfigure, `applyOptions` the option fold of App.Run starting from configure.Default().
  Documents are Go maps: `Cfg.wf` (unique keys per map) is the representation invariant, not a restriction.
  Several Initialize calls on one live Configure: `St` (stored loader list + binder content), `stepOpt`, `initOnce`,
  `runPhase`.  Several Apps in one process with sources registered through `app.Settings`: `runApp`, `runProc`
  (`C15_history_splits` … `C15_registered_source_is_loaded`).  The code theorems tie the REGENERATED source of configure.go (loadConfigure, Initialize) to the loop
  the model mirrors, so an edit of that file is a C15 proof obligation.
-/
import IocProofs.Lemmas.Config
import IocProofs.Lemmas.ConfigSeq
import IocProofs.Lemmas.ConfigInit
import IocProofs.Lemmas.SemConfigure
import IocProofs.Lemmas.SemAppOptions
import IocProofs.Lemmas.SemLoaders
import IocProofs.Lemmas.SemConfDefault
import IocProofs.Lemmas.SemAppRun
import IocProofs.Lemmas.SemTypeId
namespace Ioc.C15
open Ioc Ioc.Config

/-- no document holds a MAP at `p` (decidable) — the hypothesis that excludes the viper rule of KF-C15-1 -/
def noMapAt (docs : List Cfg) (p : Path) : Bool := docs.all fun e => !mapAt e p

/-
  FULL STATEMENT (false of the code, see C15_counterexample):
    for every path p and the last document docs[i] that defines p with a leaf:  (mergeAll docs).get p = docs[i].get p.
  PROVED: the same with the extra hypothesis `noMapAt docs p` — no document holds a map at p itself (so in
  particular docs[i] holds a leaf there).  This is weaker than "no map/scalar conflict on any prefix of p":
  conflicts on proper prefixes do no harm to p.
-/
/-- LAST WINS.  `i` is the last document defining the leaf path `p`; the merged configuration shows exactly
    that document's value. -/
theorem C15_last_wins_partial (docs : List Cfg) (p : Path) (i : Nat) (hi : i < docs.length)
    (hwf : ∀ d ∈ docs, d.wf = true) (hp : p ≠ [])
    (v : Cfg) (hdef : docs[i].get p = some v)
    (hlast : ∀ j (hj : j < docs.length), i < j → docs[j].get p = none)
    (hnc : noMapAt docs p = true) :
    (mergeAll docs).get p = docs[i].get p := by
  have hm : ∀ e ∈ docs, mapAt e p = false := fun e he => by simpa using List.all_eq_true.mp hnc e he
  exact hdef ▸ last_wins_index [] docs p i hi hwf hp v hdef nofun (fun j hj _ => hm _ (List.getElem_mem hj)) hlast

/-- ONLY ONE (full strength, no conflict hypothesis): a path defined by exactly one document is visible
    with that document's value — leaf or whole subtree — whatever the other documents contain. -/
theorem C15_only_one (docs : List Cfg) (p : Path) (i : Nat) (hi : i < docs.length)
    (hwf : ∀ d ∈ docs, d.wf = true) (hp : p ≠ [])
    (v : Cfg) (hdef : docs[i].get p = some v)
    (hothers : ∀ j (hj : j < docs.length), j ≠ i → docs[j].get p = none) :
    (mergeAll docs).get p = docs[i].get p := by
  exact hdef ▸ last_wins_index [] docs p i hi hwf hp v hdef nofun (fun j hj hlt => by rw [mapAt, hothers j hj (by omega)])
    (fun j hj hlt => hothers j hj (by omega))

/-- FRAME: a further document that does not define `p` changes nothing at `p`, wherever it is merged. -/
theorem C15_silent_source (pre post : List Cfg) (d : Cfg) (p : Path)
    (hwf : ∀ e ∈ pre ++ d :: post, e.wf = true) (hd : d.get p = none) (hpost : ∀ e ∈ post, e.get p = none) :
    (mergeAll (pre ++ d :: post)).get p = (mergeAll pre).get p := by
  simp only [mergeAll, List.foldl_append, List.foldl_cons]
  rw [fold_get_none post _ p (fun e he => hwf e (by simp [he])) hpost]
  exact get_merge_src_none _ d p (hwf d (by simp)) hd

/-- NOTHING IS DROPPED (documents): every path visible without the document `d` is visible with it,
    wherever `d` lands in the sequence. Holds without any conflict hypothesis. -/
theorem C15_source_never_hides (pre post : List Cfg) (d : Cfg) (p : Path)
    (hwf : ∀ e ∈ pre ++ d :: post, e.wf = true)
    (h : ((mergeAll (pre ++ post)).get p).isSome = true) : ((mergeAll (pre ++ d :: post)).get p).isSome = true :=
  insert_doc_covers pre post d hwf p h

/-- THE LOADER SEQUENCE: a permutation of the configured loaders (each consulted exactly once) made of the
    priority loaders sorted by Order(), then the ordered ones sorted by Order(), then all others in the order
    in which they were added. -/
theorem C15_sequence (ls : List Loader) :
    (loaderSeq ls).Perm ls ∧
    ∃ a b c, loaderSeq ls = a ++ b ++ c ∧
      a.Perm (ls.filter (·.cls.isPrio)) ∧ a.Pairwise (fun x y => x.cls.key ≤ y.cls.key) ∧
      b.Perm (ls.filter (·.cls.isOrd)) ∧ b.Pairwise (fun x y => x.cls.key ≤ y.cls.key) ∧
      c = ls.filter (·.cls.isPlain) :=
  ⟨loaderSeq_perm ls, _, _, _, rfl, sortByKey_perm _, sortByKey_sorted _, sortByKey_perm _, sortByKey_sorted _, rfl⟩

/-- THE LOADER SEQUENCE IS DETERMINED, for every number of loaders: when no two priority loaders and no two ordered
    loaders have the same Order(), ANY arrangement that meets the description of `C15_sequence` (priority class
    ascending, ordered class ascending, the rest as added) is the model's `loaderSeq` — so the sequence does not
    depend on the sorting algorithm (Go's sort.Slice switches from insertion sort to pdqsort at 13 elements;
    only the placement of EQUAL Order() values, on which the property is silent, can differ). -/
theorem C15_sequence_determined (ls a b c : List Loader)
    (hdp : (ls.filter (·.cls.isPrio)).Pairwise (fun x y => x.cls.key ≠ y.cls.key))
    (hdo : (ls.filter (·.cls.isOrd)).Pairwise (fun x y => x.cls.key ≠ y.cls.key))
    (ha : a.Perm (ls.filter (·.cls.isPrio))) (has : a.Pairwise (fun x y => x.cls.key ≤ y.cls.key))
    (hb : b.Perm (ls.filter (·.cls.isOrd))) (hbs : b.Pairwise (fun x y => x.cls.key ≤ y.cls.key))
    (hc : c = ls.filter (·.cls.isPlain)) :
    a ++ b ++ c = loaderSeq ls := by
  rw [sortByKey_unique _ a hdp ha has, sortByKey_unique _ b hdo hb hbs, hc]
  rfl

/-- Files (and any priority loaders with one common Order()) are read in the order in which they were added:
    with only FileLoaders in the priority class the sequence is files, then ordered, then the rest. -/
theorem C15_files_keep_order (ls : List Loader) (k : Int) (h : ∀ l ∈ ls, l.cls.isPrio = true → l.cls.key = k) :
    loaderSeq ls = ls.filter (·.cls.isPrio) ++ sortByKey (ls.filter (·.cls.isOrd)) ++ ls.filter (·.cls.isPlain) := by
  simp only [loaderSeq]
  rw [sortByKey_const _ k (fun y hy => by
    have := List.mem_filter.mp hy
    exact h y this.1 (by simpa using this.2))]

/-- the loop of loadConfigure over well-behaved loaders computes the fold of merges over the documents in
    loader sequence -/
theorem C15_load_is_merge (ls : List Loader) (h : ∀ l ∈ ls, l.good = true) :
    loadAll ls = .ok (mergeAll (docsOf ls)) :=
  loadAll_good ls h

/-- ADDING NEVER DISCARDS: after AddConfigLoader / SetConfig(file) / Configure.AddLoaders every loader
    configured so far is still configured (for any starting list, in particular configure.Default()). -/
theorem C15_add_keeps (opts : List Opt) (o : Opt)
    (ho : (∃ ls, o = .addLoaders ls) ∨ (∃ f, o = .setConfig f) ∨ (∃ ls, o = .configureAdd ls)) :
    ∀ x ∈ applyOptions opts, x ∈ applyOptions (opts ++ [o]) := by
  intro x hx
  simp only [applyOptions, applyFrom_snoc] at hx ⊢
  rcases ho with ⟨ls, rfl⟩ | ⟨f, rfl⟩ | ⟨ls, rfl⟩ <;> simp [applyStep, hx]

/-- … and the added loaders are configured too. -/
theorem C15_add_adds (opts : List Opt) (ls : List Loader) (f : Loader) :
    (∀ x ∈ ls, x ∈ applyOptions (opts ++ [.addLoaders ls])) ∧ (∀ x ∈ ls, x ∈ applyOptions (opts ++ [.configureAdd ls])) ∧
    f ∈ applyOptions (opts ++ [.setConfig f]) := by
  simp only [applyOptions, applyFrom_snoc, applyStep]
  refine ⟨fun x hx => ?_, fun x hx => ?_, ?_⟩ <;> simp [*]

/-- SetConfigLoader (and SetConfigure) REPLACE what was configured before — documented behaviour, not "add". -/
theorem C15_set_replaces (opts : List Opt) (ls : List Loader) :
    applyOptions (opts ++ [.setLoaders ls]) = ls ∧ applyOptions (opts ++ [.setConfigure ls]) = ls := by
  simp [applyOptions, applyFrom_snoc, applyStep]

/-- NOTHING IS DROPPED (end to end): appending one more well-behaved loader to the configured list — whatever
    its class, i.e. wherever SortOrderedComponents puts it — hides no path of the effective configuration. -/
theorem C15_add_loader_never_hides (ls : List Loader) (l : Loader)
    (hgood : ∀ x ∈ ls ++ [l], x.good = true) (hwf : ∀ d ∈ docsOf (ls ++ [l]), d.wf = true) :
    ∃ c c', loadAll ls = .ok c ∧ loadAll (ls ++ [l]) = .ok c' ∧
      ∀ p, (c.get p).isSome = true → (c'.get p).isSome = true := by
  refine ⟨_, _, loadAll_good ls (fun x hx => hgood x (by simp [hx])), loadAll_good _ hgood, ?_⟩
  obtain ⟨pre, post, e1, e2⟩ := loaderSeq_snoc ls l
  simp only [docsOf, e1, e2, List.filterMap_append, List.filterMap_cons] at hwf ⊢
  intro p hp
  cases hd : docOf l with
  | none => simpa [hd] using hp
  | some d =>
    rw [hd] at hwf
    exact insert_doc_covers _ _ d hwf p hp

/-! ### several Initialize calls on one live Configure -/

/-- The first Initialize of an App (`Run(opts…)`) in the history model is the one-shot model `loadAll ∘ applyOptions`
    all theorems above are about. -/
theorem C15_first_initialize (opts : List Opt) :
    (runPhase St.app opts).map (·.acc) = loadAll (applyOptions opts) :=
  runPhase_fresh [defaultLoader] opts

/-- EVERY INITIALIZE LOADS EVERYTHING: whatever the binder holds (`docs` merged by earlier calls), one more Initialize
    merges the documents of ALL currently configured loaders, in loader sequence, on top of it, and stores the sorted
    list.  There is no "already loaded" state: a source added after an Initialize is read by the next one wherever the
    sort puts it. -/
theorem C15_initialize_is_merge (s : St) (docs : List Cfg) (hacc : s.acc = mergeAll docs)
    (hgood : ∀ l ∈ s.loaders, l.good = true) :
    initOnce s = .ok ⟨loaderSeq s.loaders, mergeAll (docs ++ docsOf s.loaders)⟩ := by
  rw [initOnce_good s hgood, hacc]
  simp [mergeAll, List.foldl_append]

/-- The sorted list that loadConfigure stores back does not disturb later calls: loaders appended to it and sorted
    again stand where the order of ADDITION puts them (the insertion sort is stable). -/
theorem C15_resort_stable (ls new : List Loader) : loaderSeq (loaderSeq ls ++ new) = loaderSeq (ls ++ new) :=
  loaderSeq_stored ls new

/-
  FULL STATEMENT (false of the code for the same reason as C15_last_wins_partial: C15_counterexample):
    after any Initialize the value at a leaf path is the one of the last CURRENT document defining it.
  PROVED: with the hypothesis that no document merged so far (earlier calls and this one) holds a map at p.
-/
/-- LAST WINS AFTER EVERY INITIALIZE: `i` is the last document of the current loader sequence defining the leaf path
    `p`; after the Initialize the configuration shows that document's value, whatever earlier Initialize calls merged
    (`docs0`) — in particular when document `i` belongs to a loader added after them and sorted to the front. -/
theorem C15_reinit_last_wins_partial (s : St) (docs0 : List Cfg) (hacc : s.acc = mergeAll docs0)
    (hgood : ∀ l ∈ s.loaders, l.good = true) (hwf : ∀ d ∈ docs0 ++ docsOf s.loaders, d.wf = true)
    (p : Path) (hp : p ≠ []) (i : Nat) (hi : i < (docsOf s.loaders).length)
    (v : Cfg) (hdef : (docsOf s.loaders)[i].get p = some v)
    (hlast : ∀ j (hj : j < (docsOf s.loaders).length), i < j → (docsOf s.loaders)[j].get p = none)
    (hnc : noMapAt (docs0 ++ docsOf s.loaders) p = true) :
    ∃ s', initOnce s = .ok s' ∧ s'.loaders = loaderSeq s.loaders ∧ s'.acc.get p = some v := by
  have hm : ∀ e ∈ docs0 ++ docsOf s.loaders, mapAt e p = false := fun e he => by simpa using List.all_eq_true.mp hnc e he
  exact ⟨_, C15_initialize_is_merge s docs0 hacc hgood, rfl, last_wins_index docs0 _ p i hi hwf hp v hdef
    (fun e he => hm e (List.mem_append_left _ he)) (fun j hj _ => hm _ (List.mem_append_right _ (List.getElem_mem hj))) hlast⟩

/-- NOTHING IS MISSING after an Initialize, for ANY content of the binder: every path some currently configured
    loader supplies is visible, and so is every path that was visible before the call. -/
theorem C15_initialize_never_drops (s : St) (hgood : ∀ l ∈ s.loaders, l.good = true)
    (hwf : ∀ d ∈ docsOf s.loaders, d.wf = true) :
    ∃ s', initOnce s = .ok s' ∧
      (∀ d ∈ docsOf s.loaders, ∀ p, (d.get p).isSome = true → (s'.acc.get p).isSome = true) ∧
      (∀ p, (s.acc.get p).isSome = true → (s'.acc.get p).isSome = true) :=
  ⟨_, initOnce_good s hgood, fun d hd p h => isSome_fold_of_mem _ _ p hwf d hd h,
    fun p h => isSome_fold_of_acc _ _ p hwf h⟩

/-- A SOURCE ADDED TO A LIVE CONFIGURE IS LOADED: after AddConfigLoader / SetConfig(file) / Configure.AddLoaders with a
    loader `l` of ANY class on a Configure in any state (any number of earlier Initialize calls) and one more
    Initialize, every path of `l`'s document is visible. -/
theorem C15_late_source_is_loaded (s : St) (l : Loader) (d : Cfg) (hd : docOf l = some d) (o : Opt)
    (ho : o = .addLoaders [l] ∨ o = .setConfig l ∨ o = .configureAdd [l])
    (hgood : ∀ x ∈ s.loaders ++ [l], x.good = true) (hwf : ∀ e ∈ docsOf (s.loaders ++ [l]), e.wf = true) :
    ∃ s', runPhase s [o] = .ok s' ∧ ∀ p, (d.get p).isSome = true → (s'.acc.get p).isSome = true := by
  have e : [o].foldl stepOpt s = ⟨s.loaders ++ [l], s.acc⟩ := by
    rcases ho with rfl | rfl | rfl <;> rfl
  obtain ⟨s', h1, h2, _⟩ := C15_initialize_never_drops ⟨s.loaders ++ [l], s.acc⟩ hgood hwf
  exact ⟨s', by simpa [runPhase, e] using h1, h2 d (mem_docsOf (by simp) hd)⟩

/-! ### code tie: the regenerated configure.go (re-stated from C12, proved in Lemmas/SemConfigure.lean) -/

/-- configure.loadConfigure, REGENERATED from /repo on every run (configure/configure.go:54-72): the loader list is
    replaced by what SortOrderedComponents returns and ALL of it is walked, from the first loader on, on every call —
    LoadConfig, then SetConfig when the document is not empty; the first error ends the walk (M4's `twoStepLoop`, the
    loop `loadLoop`/`initOnce` mirror).  An edit of the function changes the term and this obligation with it. -/
theorem C15_code_loadConfigure (res : Nat → Ioc.Order.Step) (sorted : List Nat) (w : Ioc.Sem.CfgW) :
    Ioc.Go.run (Ioc.Sem.cfgPrims res sorted) Ioc.Progs.cfg_loadConfigure [] w =
      some (if (Ioc.Order.twoStepLoop res sorted w.log).2 then Ioc.Sem.errG else Ioc.Go.Val.nil,
            { loaders := sorted, log := (Ioc.Order.twoStepLoop res sorted w.log).1 }) :=
  Ioc.Sem.loadConfigure_sem res sorted w

/-- Configure.Initialize, regenerated: nothing for an empty loader list, otherwise loadConfigure — on EVERY call; the
    function keeps no "already initialised" / "already loaded" state. -/
theorem C15_code_Initialize (res : Nat → Ioc.Order.Step) (sorted : List Nat) (w : Ioc.Sem.CfgW) :
    Ioc.Go.run (Ioc.Sem.initPrims res sorted) Ioc.Progs.cfg_Initialize [] w =
      if w.loaders.isEmpty then some (Ioc.Go.Val.nil, w)
      else some (if (Ioc.Order.twoStepLoop res sorted w.log).2 then Ioc.Sem.errG else Ioc.Go.Val.nil,
                 { loaders := sorted, log := (Ioc.Order.twoStepLoop res sorted w.log).1 }) :=
  Ioc.Sem.initialize_sem res sorted w

/-- KF-C15-1: the full-strength "last one wins" is FALSE of the code.  First loader `a: {b: 1}`, second loader
    `a: x`: viper keeps the map, the later scalar is ignored (replayed on the real code by the harness corpus
    case `map-then-scalar`). -/
theorem C15_counterexample :
    let a := ofString "a"; let b := ofString "b"
    let d0 : Cfg := .map [(a, .map [(b, .scalar (.val (ofString "1")))])]
    let d1 : Cfg := .map [(a, .scalar (.val (ofString "x")))]
    d0.wf = true ∧ d1.wf = true ∧ d1.get [a] = some (.scalar (.val (ofString "x"))) ∧
    (mergeAll [d0, d1]).get [a] = d0.get [a] ∧ (mergeAll [d0, d1]).get [a] ≠ d1.get [a] ∧
    noMapAt [d0, d1] [a] = false := by
  decide +kernel

/-! ### non-vacuity: concrete inputs satisfying the hypotheses above -/


/-! ### the process command line (`--app.config=path=value`): the loader every new App is born with -/

/-- add-type options (app.AddConfigLoader, app.SetConfig(file), Configure.AddLoaders) and the loaders they add -/
def isAddOpt : Opt → Bool
  | .addLoaders _ | .setConfig _ | .configureAdd _ => true
  | _ => false
def addedBy : Opt → List Loader
  | .addLoaders ls | .configureAdd ls | .setLoaders ls | .setConfigure ls => ls
  | .setConfig f => [f]

/-- a process started without `--app.config` arguments: the command-line loader is the silent default loader all
    theorems above start from -/
theorem C15_cmdline_none :
    cmdLoader [] = defaultLoader ∧ St.appCmd [] = St.app ∧ ∀ opts, applyOptionsCmd [] opts = applyOptions opts :=
  ⟨rfl, rfl, fun _ => rfl⟩

/-- the first Initialize of an App in a process started with the command-line pairs `pairs` is the one-shot model on the
    option fold that starts from the command-line loader -/
theorem C15_first_initialize_cmd (pairs : List (Path × Cfg)) (opts : List Opt) :
    (runPhase (St.appCmd pairs) opts).map (·.acc) = loadAll (applyOptionsCmd pairs opts) :=
  runPhase_fresh [cmdLoader pairs] opts

/-- THE COMMAND LINE IS THE FIRST LOADER ADDED: under add-type options the configured list is the command-line loader
    followed by everything the options added, in the order of the options. -/
theorem C15_cmdline_first (pairs : List (Path × Cfg)) (opts : List Opt) (hadd : ∀ o ∈ opts, isAddOpt o = true) :
    applyOptionsCmd pairs opts = cmdLoader pairs :: opts.flatMap addedBy :=
  applyFrom_append_of addedBy opts (fun o ho cur => by have := hadd o ho; cases o <;> first | rfl | cases this) _

/-- … so in the loader sequence it stands behind the priority and the ordered loaders (files) and BEFORE every other
    loader added by an option: on a shared key each of those is the later source and wins (C15_last_wins_partial on
    this sequence), a file is the earlier one and loses. -/
theorem C15_cmdline_before_added (pairs : List (Path × Cfg)) (ls : List Loader) :
    loaderSeq (cmdLoader pairs :: ls) =
      sortByKey (ls.filter (·.cls.isPrio)) ++ sortByKey (ls.filter (·.cls.isOrd)) ++
        cmdLoader pairs :: ls.filter (·.cls.isPlain) := by
  simp [loaderSeq, cmdLoader, Cls.isPrio, Cls.isOrd, Cls.isPlain]

section examples
def ka := ofString "a"
def kb := ofString "b"
def kc := ofString "c"
def sv (s : String) : Cfg := .scalar (.val (ofString s))
/-- three documents: overlap on a.b (1, then 2), disjoint a.c, a scalar→map change at `c` -/
def e0 : Cfg := .map [(ka, .map [(kb, sv "1")]), (kc, sv "s")]
def e1 : Cfg := .map [(ka, .map [(kb, sv "2"), (kc, sv "only")])]
def e2 : Cfg := .map [(kc, .map [(ka, sv "deep")])]

-- hypotheses of C15_last_wins_partial for p = a.b, i = 1 (the last document defining it), and its conclusion
example : (∀ d ∈ [e0, e1, e2], d.wf = true) ∧ [e0, e1, e2][1].get [ka, kb] = some (sv "2") ∧ (sv "2").isMap = false ∧
    e2.get [ka, kb] = none ∧ noMapAt [e0, e1, e2] [ka, kb] = true ∧
    (mergeAll [e0, e1, e2]).get [ka, kb] = some (sv "2") := by decide +kernel
-- hypotheses of C15_only_one for p = a.c (only e1 defines it)
example : e0.get [ka, kc] = none ∧ e1.get [ka, kc] = some (sv "only") ∧ e2.get [ka, kc] = none ∧
    (mergeAll [e0, e1, e2]).get [ka, kc] = some (sv "only") := by decide +kernel
-- scalar then map: the later map replaces the scalar (a conflict on a prefix that does no harm)
example : (mergeAll [e0, e1, e2]).get [kc, ka] = some (sv "deep") := by decide +kernel
-- C15_source_never_hides / C15_silent_source: e1 in the middle hides nothing of e0, e2
example : ((mergeAll [e0, e2]).get [ka, kb]).isSome = true ∧ ((mergeAll [e0, e1, e2]).get [ka, kb]).isSome = true ∧
    e2.get [ka, kb] = none ∧ (mergeAll [e0, e1, e2]).get [ka, kb] = (mergeAll [e0, e1]).get [ka, kb] := by decide +kernel

def lRaw (id : Nat) (c : Cfg) : Loader := ⟨id, .plain, .doc c⟩
-- the README order: SetConfigLoader(raw), SetConfig(file): the file is read FIRST although added last
example : (loaderSeq (applyOptions [.setLoaders [lRaw 1 e0], .setConfig (fileLoader 2 (.doc e1))])).map (·.id) = [2, 1] := by
  decide +kernel
-- all three classes, ties and negative orders
example : (loaderSeq [⟨1, .plain, .empty⟩, ⟨2, .prio 0, .empty⟩, ⟨3, .ord (-1), .empty⟩, ⟨4, .prio 0, .empty⟩,
    ⟨5, .prio (-2), .empty⟩, ⟨6, .plain, .empty⟩, ⟨7, .ord (-1), .empty⟩]).map (·.id) = [5, 2, 4, 3, 7, 1, 6] := by decide +kernel
-- C15_add_keeps / C15_set_replaces on the default configure
/-- non-vacuity of C15_sequence_determined: 14 priority loaders with pairwise different orders added in a scrambled
    order between plain ones; the hypotheses hold and the sequence is the ascending one -/
def manyLs : List Loader :=
  [⟨1, .plain, .empty⟩, ⟨2, .prio 5, .empty⟩, ⟨3, .prio (-7), .empty⟩, ⟨4, .prio 3, .empty⟩, ⟨5, .prio 9, .empty⟩,
   ⟨6, .plain, .empty⟩, ⟨7, .prio 8, .empty⟩, ⟨8, .prio (-2), .empty⟩, ⟨9, .prio 6, .empty⟩, ⟨10, .ord 1, .empty⟩,
   ⟨11, .prio (-5), .empty⟩, ⟨12, .prio (-1), .empty⟩, ⟨13, .prio 7, .empty⟩, ⟨14, .prio 2, .empty⟩, ⟨15, .plain, .empty⟩,
   ⟨16, .prio (-6), .empty⟩, ⟨17, .prio 4, .empty⟩, ⟨18, .prio 0, .empty⟩, ⟨19, .ord (-1), .empty⟩, ⟨20, .plain, .empty⟩]
example : ((manyLs.filter (·.cls.isPrio)).length = 14) ∧
    decide ((manyLs.filter (·.cls.isPrio)).Pairwise (fun x y => x.cls.key ≠ y.cls.key)) = true ∧
    decide ((manyLs.filter (·.cls.isOrd)).Pairwise (fun x y => x.cls.key ≠ y.cls.key)) = true ∧
    (loaderSeq manyLs).map (·.id) = [3, 16, 11, 8, 12, 18, 14, 4, 17, 2, 9, 13, 7, 5, 19, 10, 1, 6, 15, 20] := by
  decide +kernel

example : (applyOptions [.addLoaders [lRaw 1 e0], .setConfig (fileLoader 2 (.doc e1)), .configureAdd [lRaw 3 e2]]).map (·.id)
    = [0, 1, 2, 3] := by decide +kernel
example : (applyOptions [.addLoaders [lRaw 1 e0], .setLoaders [lRaw 3 e2]]).map (·.id) = [3] := by decide +kernel
-- hypotheses of C15_add_loader_never_hides hold for a real case, and loadAll succeeds
example : (∀ x ∈ [lRaw 1 e0, fileLoader 2 (.doc e1)] ++ [lRaw 3 e2], x.good = true) ∧
    (∀ d ∈ docsOf ([lRaw 1 e0, fileLoader 2 (.doc e1)] ++ [lRaw 3 e2]), d.wf = true) := by decide +kernel
-- viper reads keys case-insensitively; an upper-case spelling shadows the lower-case one in the same document
example : insens (.map [(ofString "a", sv "1"), (ofString "A", sv "2"), (ofString "Kb", .map [(ofString "X", sv "3")])])
    = .map [(ofString "a", sv "2"), (ofString "kb", .map [(ofString "x", sv "3")])] := by decide +kernel
-- several Initialize calls (the history of seeded change C15E): base document, Initialize, then a FILE (sorted to the
-- front) and another document, Initialize: the loader sequence is file, base, extra and every key is there
def hBase : Cfg := .map [(ka, .map [(kb, sv "base"), (kc, sv "8080")])]
def hFile : Cfg := .map [(ka, .map [(kb, sv "file"), (ofString "d", sv "true")]), (kc, .map [(ka, sv "data")])]
def hExtra : Cfg := .map [(ka, .map [(kc, sv "9090")])]
def hOpts1 : List Opt := [.setLoaders [lRaw 1 hBase]]
def hOpts2 : List Opt := [.setConfig (fileLoader 2 (.doc hFile)), .addLoaders [lRaw 3 hExtra]]
def hAfter (p : Path) : Option (Option Cfg) :=
  ((runPhase St.app hOpts1).bind fun s => runPhase s hOpts2).toOption.map fun s => s.acc.get p
example : ((runPhase St.app hOpts1).toOption.map fun s => (s.loaders.map (·.id), s.acc.get [ka, kb])) =
    some ([1], some (sv "base")) := by decide +kernel
example : (((runPhase St.app hOpts1).bind fun s => runPhase s hOpts2).toOption.map fun s => s.loaders.map (·.id)) =
    some [2, 1, 3] := by decide +kernel
example : hAfter [ka, kb] = some (some (sv "base")) ∧ hAfter [ka, kc] = some (some (sv "9090")) ∧
    hAfter [ka, ofString "d"] = some (some (sv "true")) ∧ hAfter [kc, ka] = some (some (sv "data")) := by decide +kernel
-- hypotheses of C15_reinit_last_wins_partial at the second Initialize for p = a.d (only the late file defines it; it is
-- document 0 of the current sequence) and of C15_late_source_is_loaded / C15_initialize_never_drops
example : let s : St := ⟨[lRaw 1 hBase, fileLoader 2 (.doc hFile), lRaw 3 hExtra], mergeAll [insens hBase]⟩
    (∀ l ∈ s.loaders, l.good = true) ∧ (∀ d ∈ [insens hBase] ++ docsOf s.loaders, d.wf = true) ∧
    (docsOf s.loaders).length = 3 ∧ ((docsOf s.loaders)[0]?.bind (·.get [ka, ofString "d"])) = some (sv "true") ∧
    ((docsOf s.loaders)[1]?.bind (·.get [ka, ofString "d"])) = none ∧
    ((docsOf s.loaders)[2]?.bind (·.get [ka, ofString "d"])) = none ∧
    noMapAt ([insens hBase] ++ docsOf s.loaders) [ka, ofString "d"] = true := by decide +kernel
-- the regenerated Initialize on a Configure that was initialised before (log not empty, list sorted): both loaders are
-- walked again, the first one included
example : Ioc.Go.run (Ioc.Sem.initPrims (fun _ => .next false) [1, 0]) Ioc.Progs.cfg_Initialize []
      { loaders := [0, 1], log := [.first 0, .second 0] } =
    some (Ioc.Go.Val.nil, { loaders := [1, 0], log := [.first 0, .second 0, .first 1, .second 1, .first 0, .second 0] }) :=
  (C15_code_Initialize _ _ _).trans (by rfl)
-- the process command line `--app.config=a.b=cli --app.config=a.c=7`, a file and a raw document added by options: the
-- loader sequence is file, command line, raw; the raw document wins on a.b, the command line beats the file on a.c
def cPairs : List (Path × Cfg) := [([ka, kb], sv "cli"), ([ka, kc], sv "7")]
def cOpts : List Opt := [.addLoaders [lRaw 1 (.map [(ka, .map [(kb, sv "raw")])])],
  .setConfig (fileLoader 2 (.doc (.map [(ka, .map [(kb, sv "file"), (kc, sv "1"), (ofString "d", sv "f")])])))]
example : (∀ o ∈ cOpts, isAddOpt o = true) ∧ (applyOptionsCmd cPairs cOpts).map (·.id) = [0, 1, 2] ∧
    (loaderSeq (applyOptionsCmd cPairs cOpts)).map (·.id) = [2, 0, 1] := by decide +kernel
example : ((runPhase (St.appCmd cPairs) cOpts).toOption.map fun s =>
      (s.acc.get [ka, kb], s.acc.get [ka, kc], s.acc.get [ka, ofString "d"])) =
    some (some (sv "raw"), some (sv "7"), some (sv "f")) := by decide +kernel
end examples

/-! ### the REGENERATED start options of package app (app/options.go)

    Every option constructor returns a function literal; it is translated curried (the App last).  The loaders reach the
    Configure AS THEY WERE GIVEN (no wrapper in between: the ordering markers of a loader stay visible to
    `SortOrderedComponents`), `SetConfig(path)` adds a file loader, and every configure option acts on the Configure the App
    holds when the option runs. -/
section options
open Ioc.Go Ioc.Sem

theorem C15_code_loader_options (ls b : Go.Val) (p : String) (w : AW) :
    run aoptPrims Progs.aopt_AddConfigLoader [ls, .ref 0 1] w =
      some (.tuple [], { w with cfgOps := w.cfgOps ++ [(w.configure, .addLoaders ls)] }) ∧
    run aoptPrims Progs.aopt_SetConfigLoader [ls, .ref 0 1] w =
      some (.tuple [], { w with cfgOps := w.cfgOps ++ [(w.configure, .setLoaders ls)] }) ∧
    run aoptPrims Progs.aopt_SetConfig [.str p, .ref 0 1] w =
      some (.tuple [], { w with cfgOps := w.cfgOps ++ [(w.configure, .addLoaders (.tuple [.str "file", .str p]))] }) ∧
    run aoptPrims Progs.aopt_SetConfigBinder [b, .ref 0 1] w =
      some (.tuple [], { w with cfgOps := w.cfgOps ++ [(w.configure, .setBinder b)] }) :=
  ⟨addConfigLoader_sem ls w, setConfigLoader_sem ls w, setConfig_sem p w, setConfigBinder_sem b w⟩

theorem C15_code_SetConfigure (c : Nat) (w : AW) :
    run aoptPrims Progs.aopt_SetConfigure [.ref c 4, .ref 0 1] w = some (.tuple [], { w with configure := c }) :=
  setConfigure_sem c w

end options

/-! ### the three loaders, REGENERATED (interpretation Ioc.SemLoaders: string functions, strconv2.ParseAny, the properties map,
    yaml.Marshal and os.ReadFile are parameters) -/
section loaders
open Ioc.Go Ioc.Sem

/-- ArgsLoader.LoadConfig: the arguments in order; only those with the prefix `--app.config` count; each is `key[=value]` split
    at the FIRST "=", the value (empty when there is none) parsed into a typed value and set under the key, later arguments
    after earlier ones; a parse error ends the call; no setting at all gives (nil, nil) — no document rather than an empty one,
    so this source then contributes nothing and drops nothing; otherwise the YAML of the settings, a marshalling error wrapped -/
theorem C15_code_ArgsLoader (p : ALP) (w : List (String × Nat)) :
    run (alPrims p) Progs.loader_Args [] w =
      (let r := stepLoop (alStep p) p.args () w
       match r.2.2 with
       | some v => some (v, r.2.1)
       | none =>
         if p.plen r.2.1 = 0 then some (.tuple [.nil, .nil], r.2.1)
         else some (match p.marshal r.2.1 with
                    | .ok b => .tuple [.ref b 151, .nil]
                    | .error e => .tuple [.nil, .str ("marshal to YAML: " ++ e)], r.2.1)) :=
  argsLoader_sem p w

/-- FileLoader: the file's bytes, a read error wrapped with no bytes; RawLoader: the bytes it was built from, never an error -/
theorem C15_code_File_Raw_Loader (path : String) (read : String → Except String Nat) (raw : Go.Val) :
    run (flPrims path read) Progs.loader_File [] () =
      some (match read path with
            | .ok b => .tuple [.ref b 151, .nil]
            | .error e => .tuple [.nil, .str ("read file: " ++ e)], ()) ∧
    run (rlPrims raw) Progs.loader_Raw [] () = some (.tuple [raw, .nil], ()) :=
  ⟨fileLoader_sem path read, rawLoader_sem raw⟩

end loaders

/-- configure.Default / NewConfigure / the setters, regenerated (interpretation Ioc.SemConfDefault): the default configure has
    ONE loader, the command-line loader over os.Args, and its binder is the viper binder for yaml ITSELF (no layer between
    the configure and the binder: what `SetConfig` merges and `Set` writes is what `Get` reads); SetLoaders replaces,
    AddLoaders appends in the order given, SetBinder replaces the binder -/
theorem C15_code_configure_Default (w : Sem.CfgObj) (ls : List Go.Val) (b : Go.Val) :
    Go.run Sem.cdPrims Progs.cfg_Default [] w =
      some (.ref 0 180, ⟨[.tuple [.str "ArgsLoader", .str "os.Args"]], .tuple [.str "ViperBinder", .str "yaml"]⟩) ∧
    Go.run Sem.cdPrims Progs.cfg_NewConfigure [] w = some (.ref 0 180, ⟨[], .nil⟩) ∧
    Go.run Sem.cdPrims Progs.cfg_SetLoaders [.list ls] w = some (.tuple [], { w with loaders := ls }) ∧
    Go.run Sem.cdPrims Progs.cfg_AddLoaders [.list ls] w = some (.tuple [], { w with loaders := w.loaders ++ ls }) ∧
    Go.run Sem.cdPrims Progs.cfg_SetBinder [b] w = some (.tuple [], { w with binder := b }) :=
  ⟨Sem.cfgDefault_sem w, Sem.newConfigure_sem w, (Sem.cfgSetters_sem w ls b).1, (Sem.cfgSetters_sem w ls b).2.1,
   (Sem.cfgSetters_sem w ls b).2.2⟩

/-- App.Run (regenerated, `C13_code_App_Run`) applies, on EVERY call, the options it is given and then ALL package-level
    options (`app.Settings`): a configuration source registered through `app.Settings` is a source of every App started in
    the process, not only of the first -/
theorem C15_code_Run_applies_global_options (p : Sem.ARP) (ops : List Nat) (w : List Sem.ACall) :
    Go.run (Sem.arPrims p) Progs.app_Run [Sem.optVals ops] w =
      (if p.initErr.isSome && !p.fatalReturns then none
       else some (Sem.encOptE p.runErr, w ++ (ops ++ p.globals).map Sem.ACall.option ++ [.initiate, .run])) :=
  Sem.appRun_sem p ops w

/-! ### several Apps in one process: sources registered through `app.Settings` (`runApp`, `runProc`)

    `C15_code_Run_applies_global_options` above is the code tie (the regenerated `Run` walks the call's options and then
    ALL package-level ones on every call); these are the property-level consequences in the configuration model. -/

/-- THE REGISTERED OPTIONS ARE NOT USED UP: the Apps started after a stretch `pre` of a process history are started with
    everything that was registered before and during it — the earlier Apps take nothing away. -/
theorem C15_history_splits (g : List Opt) (pre rest : List ProcStep) :
    runProc g (pre ++ rest) = runProc g pre ++ runProc (g ++ registeredBy pre) rest := by
  induction pre generalizing g with
  | nil => simp [runProc, registeredBy]
  | cons st more ih =>
    cases st with
    | settings ops => simp [runProc, registeredBy, ih, List.append_assoc]
    | newApp ops => simp [runProc, registeredBy, ih]

/-- … so EVERY App of a history — the first, the second, the tenth — is `runApp` on all options registered before its
    start: its result does not depend on how many Apps were started before it. -/
theorem C15_every_app_gets_registered (g : List Opt) (pre rest : List ProcStep) (ops : List Opt) :
    (runProc g (pre ++ .newApp ops :: rest))[(runProc g pre).length]? = some (runApp (g ++ registeredBy pre) ops) := by
  rw [C15_history_splits]
  simp [runProc]

/-- under add-type registered options the configured list of an App is its own list followed by every registered loader,
    in the order of registration (whatever its own options were, set-type ones included) -/
theorem C15_registered_sources_configured (globals ops : List Opt) (hadd : ∀ o ∈ globals, isAddOpt o = true) :
    applyOptions (ops ++ globals) = applyOptions ops ++ globals.flatMap addedBy := by
  unfold applyOptions applyFrom
  rw [List.foldl_append]
  exact applyFrom_append_of addedBy globals
    (fun o ho cur => by have := hadd o ho; cases o <;> first | rfl | cases this) _

/-- A REGISTERED SOURCE IS A SOURCE OF EVERY APP: a loader `l` registered through `app.Settings` with an add-type option
    (AddConfigLoader / SetConfig(file) / Configure.AddLoaders) is loaded by any App started afterwards — whatever the App's
    own options — and every path of its document is visible in that App's configuration. -/
theorem C15_registered_source_is_loaded (globals ops : List Opt) (hadd : ∀ o ∈ globals, isAddOpt o = true)
    (o : Opt) (ho : o ∈ globals) (l : Loader) (hl : l ∈ addedBy o) (d : Cfg) (hd : docOf l = some d)
    (hgood : ∀ x ∈ applyOptions (ops ++ globals), x.good = true)
    (hwf : ∀ e ∈ docsOf (applyOptions (ops ++ globals)), e.wf = true) :
    ∃ s', runApp globals ops = .ok s' ∧ l ∈ s'.loaders ∧ ∀ p, (d.get p).isSome = true → (s'.acc.get p).isSome = true := by
  have hmem : l ∈ applyOptions (ops ++ globals) := by
    rw [C15_registered_sources_configured globals ops hadd]
    exact List.mem_append_right _ (List.mem_flatMap.mpr ⟨o, ho, hl⟩)
  exact ⟨_, (congrArg initOnce (foldl_stepOpt_fresh [defaultLoader] (ops ++ globals))).trans
      (initOnce_good ⟨applyOptions (ops ++ globals), .map []⟩ hgood),
    (loaderSeq_perm _).mem_iff.mpr hmem, fun p => isSome_fold_of_mem _ _ p hwf d (mem_docsOf hmem hd)⟩

section procExamples
/-- the history of seeded change C15R: one raw document registered, then three Apps, each with a raw document and a
    config file of its own -/
def gDoc : Cfg := .map [(ofString "global", .map [(ofString "only", sv "g")]), (ofString "shared", .map [(ofString "global", sv "true")])]
def aRaw (i : String) : Cfg := .map [(ofString "raw", .map [(ofString "only", sv i)]), (ofString "shared", .map [(ofString "from", sv "raw")])]
def aFile (i : String) : Cfg := .map [(ofString "file", .map [(ofString "only", sv i)]), (ofString "shared", .map [(ofString "from", sv "file")])]
def pHist : List ProcStep :=
  [.settings [.addLoaders [lRaw 1 gDoc]],
   .newApp [.addLoaders [lRaw 2 (aRaw "1")], .setConfig (fileLoader 3 (.doc (aFile "1")))],
   .newApp [.addLoaders [lRaw 4 (aRaw "2")], .setConfig (fileLoader 5 (.doc (aFile "2")))],
   .newApp [.addLoaders [lRaw 6 (aRaw "3")], .setConfig (fileLoader 7 (.doc (aFile "3")))]]
def pSee (r : Except Bool St) : Option (List Nat × Option Cfg × Option Cfg × Option Cfg) :=
  r.toOption.map fun s => (s.loaders.map (·.id), s.acc.get [ofString "global", ofString "only"],
    s.acc.get [ofString "shared", ofString "global"], s.acc.get [ofString "shared", ofString "from"])
-- every App — not only the first — holds the registered loader (#1) and shows its keys; the file is read first
example : (runProc [] pHist).map pSee =
    [some ([3, 0, 2, 1], some (sv "g"), some (sv "true"), some (sv "raw")),
     some ([5, 0, 4, 1], some (sv "g"), some (sv "true"), some (sv "raw")),
     some ([7, 0, 6, 1], some (sv "g"), some (sv "true"), some (sv "raw"))] := by decide +kernel
-- hypotheses of C15_registered_source_is_loaded for the second App
example : let globals : List Opt := [.addLoaders [lRaw 1 gDoc]]
    let ops : List Opt := [.addLoaders [lRaw 4 (aRaw "2")], .setConfig (fileLoader 5 (.doc (aFile "2")))]
    (∀ o ∈ globals, isAddOpt o = true) ∧ (globals.flatMap addedBy).map (·.id) = [1] ∧
    docOf (lRaw 1 gDoc) = some (insens gDoc) ∧ (∀ x ∈ applyOptions (ops ++ globals), x.good = true) ∧
    (∀ e ∈ docsOf (applyOptions (ops ++ globals)), e.wf = true) ∧
    ((registeredBy (pHist.take 2)).flatMap addedBy).map (·.id) = [1] := by decide +kernel
-- a registration between two Apps reaches the Apps started after it, not the one started before
example : ((runProc [] [.newApp [], .settings [.setConfig (fileLoader 1 (.doc gDoc))], .newApp [], .newApp [.setLoaders []]]).map pSee).map
      (fun r => r.map (·.1)) = [some [0], some [1, 0], some [1]] := by decide +kernel
end procExamples

/-- FileLoader.Order, regenerated: 0 (with the Priority marker: file sources sort before the unordered ones) -/
theorem C15_code_FileLoader_Order :
    Go.run (Sem.tiPrims [] id (· ++ ·)) Progs.loader_File_Order [] () = some (.int 0, ()) :=
  Sem.fileLoaderOrder_sem

end Ioc.C15
