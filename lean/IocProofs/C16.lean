/-
  C16 — Placeholders resolve to the configured value, else the default, and terminate.
  PROPERTY THEOREMS ONLY (lemmas live in IocProofs/Lemmas/Placeholder.lean).

  Model: Ioc.Placeholder (M7) — the scanner for `\${[^{}]*}`, strings.Replace(…, 1), the callback of
  configQuoteAwarePostProcessors (SplitN ":" 2, viper Get, presence test, ParseAny∘FormatAny of the default) and the
  loop of el.ReplaceAllContent as written, with the bound that the facts translator reads from the source
  (`Facts.replaceBound`).  Go panics are the explicit outcome `panic`; running out of fuel is `outOfFuel` ("hangs").
-/
import IocProofs.Lemmas.Placeholder
import IocProofs.Lemmas.PlaceholderLayers
import IocProofs.Lemmas.PlaceholderSources
import IocProofs.Lemmas.SemStages
import IocProofs.Lemmas.TagRound
import IocProofs.Lemmas.SemConfDefault
import IocProofs.Lemmas.SemTagScan
import IocProofs.Lemmas.OfString
namespace Ioc.C16
open Ioc Ioc.Placeholder

/-! ### the source has a bound (regenerated fact); without it this file does not compile -/

theorem C16_bound_present : Facts.replaceBound.isSome = true := by decide +kernel

/-! ### the scanner and the replacement -/

/-- `findFirst` returns the LEFTMOST match of `${` [^{}]* `}`: the text splits around it, the content has no brace,
    and no match starts at any earlier position. -/
theorem C16_find_leftmost (s pre c post : Bytes) (h : findFirst s = some (pre, c, post)) :
    s = pre ++ matchText c ++ post ∧ braceFree c = true ∧
      ∀ p q, pre = p ++ q → q ≠ [] → tryHere (q ++ (matchText c ++ post)) = none :=
  findFirst_some s pre c post h

/-- … and it finds a match whenever there is one: `none` means no position starts a match. -/
theorem C16_find_complete (s : Bytes) (h : findFirst s = none) : ∀ p q, s = p ++ q → tryHere q = none :=
  findFirst_none s h

/-- strings.Replace(result, elr, r, 1) rewrites the regexp match itself: every occurrence of the matched text is a
    match, so the first occurrence of the text is the leftmost match. -/
theorem C16_replace_hits_match (s pre c post r : Bytes) (h : findFirst s = some (pre, c, post)) :
    replaceFirst (matchText c) r s = pre ++ r ++ post := by
  obtain ⟨e, bf, nm⟩ := findFirst_some s pre c post h
  rw [e]; exact replaceFirst_leftmost c r post bf pre nm

/-- One round of ReplaceAllContent (any callback `f`, bound not yet reached): the leftmost placeholder is replaced
    in place by the callback's answer. -/
theorem C16_step (f : Bytes → StepRes) (bound : Option Nat) (fuel round : Nat) (s pre c post r : Bytes)
    (hf : findFirst s = some (pre, c, post)) (hb : ∀ b, bound = some b → round < b) (hr : f c = .ok r) :
    loopF f bound (fuel + 1) round s = loopF f bound fuel (round + 1) (pre ++ r ++ post) :=
  loopF_step f bound fuel round s pre c post r hf hb hr

/-! ### the callback: configured value when present, else the default -/

/-- `${key}` / `${key:default}` with a configured (non-nil, non-empty) value: the formatted value, whatever the default. -/
theorem C16_present (cfg : Cfg) (key : Bytes) (dflt : Option Bytes) (content : Bytes) (v : CVal)
    (hs : splitColon content = (key, dflt)) (hg : get cfg key = .val (some v)) (hp : isAbsent (some v) = false) :
    repl cfg content = .ok (format v) :=
  repl_present cfg content key dflt v hs hg hp

/-- Absent key — Go nil, YAML null, an EMPTY map or an EMPTY list all count as absent: the answer depends on the default
    text only ("" without one). -/
theorem C16_absent (cfg : Cfg) (key : Bytes) (dflt : Option Bytes) (content : Bytes) (v : Option CVal)
    (hs : splitColon content = (key, dflt)) (hg : get cfg key = .val v)
    (ha : v = none ∨ v = some .null ∨ v = some (.map []) ∨ v = some (.list [])) :
    repl cfg content = defaultAnswer dflt := by
  refine repl_absent cfg content key dflt v hs hg ?_
  rcases ha with rfl | rfl | rfl | rfl <;> rfl

/-- the default: "" without a (non-empty) default text, else the text parsed and re-formatted -/
theorem C16_default_answer (d : Bytes) :
    defaultAnswer none = .ok [] ∧ defaultAnswer (some []) = .ok [] ∧ (d ≠ [] → defaultAnswer (some d) = normDefault d) := by
  refine ⟨rfl, rfl, ?_⟩
  intro h; cases d with
  | nil => exact absurd rfl h
  | cons _ _ => rfl

/-- the content splits at its first `:` -/
theorem C16_split (k d : Bytes) (hk : (58 : UInt8) ∉ k) :
    splitColon k = (k, none) ∧ splitColon (k ++ 58 :: d) = (k, some d) :=
  ⟨splitColon_key k hk, splitColon_key_default k d hk⟩

/-- A default that is not true/false, a number, a bracketed literal or quoted is used as it stands. -/
theorem C16_default_plain (d : Bytes) (h : plainDefault d = true) : normDefault d = .ok d :=
  normDefault_plain d h

/-- A default written in single or double quotes is used without the quotes (the container's literal syntax). -/
theorem C16_default_quoted (q : UInt8) (inner : Bytes) (hq : q = 39 ∨ q = 34) :
    normDefault (q :: (inner ++ [q])) = .ok inner :=
  normDefault_quoted q inner hq

-- `ofString_ofList` first: the literals become character lists by rewriting, the kernel evaluates the rest
example : plainDefault (ofString "some text: a,b") = true := by
  repeat rw [ofString_ofList]
  decide +kernel
example : normDefault (ofString "'quoted'") = .ok (ofString "quoted") := by
  repeat rw [ofString_ofList]
  decide +kernel
example : normDefault (ofString "TRUE") = .ok (ofString "true") := by decide +kernel
example : normDefault (ofString "1.10") = .ok (ofString "1.1") := by
  repeat rw [ofString_ofList]
  decide +kernel
example : normDefault (ofString "007") = .ok (ofString "7") := by decide +kernel
example : normDefault (ofString "+1234567") = .ok (ofString "1.234567e+06") := by
  repeat rw [ofString_ofList]
  decide +kernel
example : normDefault (ofString "0.00001") = .ok (ofString "1e-05") := by
  repeat rw [ofString_ofList]
  decide +kernel

/-! ### no placeholder survives -/

/-- A result that is a value contains no placeholder any more (for every callback, bound, fuel). -/
theorem C16_no_placeholder_left (cfg : Cfg) (s r : Bytes) (h : process cfg s = .value r) : findFirst r = none := by
  unfold process at h
  split at h
  · rename_i hn; simp only [Res.value.injEq] at h; subst h; exact hn
  · exact loopF_value_no_match (repl cfg) Facts.replaceBound _ _ s r h

/-! ### termination -/

/-- Brace-free answers (any callback): each round removes one `{` and adds none, so the loop stops by itself —
    WITHOUT any bound — after at most (number of `{`) rounds. -/
theorem C16_terminates_safe (f : Bytes → StepRes)
    (safe : ∀ c r, braceFree c = true → f c = .ok r → braceFree r = true) (s : Bytes) (fuel round : Nat)
    (hfuel : s.count 123 < fuel) :
    loopF f none fuel round s ≠ .outOfFuel :=
  loopF_safe f safe fuel round s hfuel

/-- … and then a bound of at least that many rounds never fires: the bounded and the unbounded loop agree. -/
theorem C16_safe_bound_never_fires (f : Bytes → StepRes)
    (safe : ∀ c r, braceFree c = true → f c = .ok r → braceFree r = true) (b : Nat) (s : Bytes) (fuel : Nat)
    (hb : s.count 123 ≤ b) :
    loopF f (some b) fuel 0 s = loopF f none fuel 0 s :=
  loopF_bound_irrelevant f safe b fuel 0 s (by omega)

/-- `safe` holds for the real callback under the EMPTY configuration (every placeholder is answered by its default, and
    the default of a brace-free content is brace-free) … -/
theorem C16_empty_config_safe (c r : Bytes) (hc : braceFree c = true) (h : repl [] c = .ok r) : braceFree r = true :=
  repl_nil_safe c r hc h

/-- … so under the empty configuration EVERY tag text resolves without any bound. -/
theorem C16_empty_config_terminates_unbounded (s : Bytes) (fuel round : Nat) (hfuel : s.count 123 < fuel) :
    loop [] none fuel round s ≠ .outOfFuel :=
  loopF_safe (repl []) repl_nil_safe fuel round s hfuel

example : ∀ c r, braceFree c = true → (fun _ : Bytes => StepRes.ok (ofString "v")) c = .ok r → braceFree r = true := by
  intro c r _ h; simp only [StepRes.ok.injEq] at h; subst h; decide +kernel

/-- EVERY configuration, every tag text: with the bound found in the source the loop as written ends in a value or an
    error after at most b+1 rounds — never in `outOfFuel`. -/
theorem C16_terminates (cfg : Cfg) (s : Bytes) (b : Nat) (hb : Facts.replaceBound = some b) :
    ∀ fuel, fuel ≥ b + 2 → loop cfg Facts.replaceBound fuel 0 s ≠ .outOfFuel := by
  intro fuel hfuel
  rw [hb]
  exact loopF_terminates (repl cfg) b fuel 0 s (by omega) (by omega)

/-- the processor never hangs (closed form: uses `C16_bound_present`, so it breaks when the bound is removed) -/
theorem C16_process_terminates (cfg : Cfg) (s : Bytes) : process cfg s ≠ .outOfFuel := by
  obtain ⟨b, hb⟩ := Option.isSome_iff_exists.mp C16_bound_present
  unfold process
  split
  · simp
  · exact C16_terminates cfg s b hb (fuelFor Facts.replaceBound) (by rw [hb]; simp [fuelFor])

/-- `a: "${a}"` with the tag `${a}`: ends in an error. -/
theorem C16_cycle_errors (b : Nat) (hb : Facts.replaceBound = some b) : process selfCfg selfTag = .error := by
  have hf : findFirst selfTag ≠ none := by rw [self_find]; simp
  unfold process
  split
  · next h => exact absurd h hf
  · rw [replaceAll, loop, hb]
    exact self_errors b (fuelFor (some b)) 0 (by omega) (by simp [fuelFor])

/-- Why the bound matters: without it the same configuration exhausts EVERY fuel (the defect D11 that was repaired). -/
theorem C16_diverges_unbounded (fuel round : Nat) : loop selfCfg none fuel round selfTag = .outOfFuel :=
  self_diverges fuel round

/-! ### structured tags: several placeholders, nested inside keys and defaults to any depth -/

/-- For a tag built from brace-free literals and placeholders (keys and defaults being tags again) whose replacements
    are brace-free, resolution computes exactly the inner-first substitution `eval`; in particular an empty map / list
    behaves like an absent key because `eval` goes through the same callback (`C16_absent`). -/
theorem C16_structured (cfg : Cfg) (t : Tag) (v : Bytes) (h : eval cfg t = some v)
    (hb : ∀ b, Facts.replaceBound = some b → phCount t ≤ b) :
    replaceAll cfg (render t) = .value v := by
  obtain ⟨b, hb'⟩ := Option.isSome_iff_exists.mp C16_bound_present
  have hle := hb b hb'
  unfold replaceAll loop
  exact loopF_structured (repl cfg) Facts.replaceBound t v h hb _ (by rw [hb']; simp [fuelFor]; omega)

/-- the same for any callback and any bound (or none) -/
theorem C16_structured_any (f : Bytes → StepRes) (bound : Option Nat) (t : Tag) (v : Bytes)
    (h : evalF f t = some v) (hb : ∀ b, bound = some b → phCount t ≤ b) (fuel : Nat) (hfuel : phCount t < fuel) :
    loopF f bound fuel 0 (render t) = .value v :=
  loopF_structured f bound t v h hb fuel hfuel

/-! ### non-vacuity -/

example : render exTag = ofString "x${a${p}}-${zz:${n}}${e:dflt}${el}${m.k}" := by
  repeat rw [ofString_ofList]
  decide +kernel
example : eval exCfg exTag = some (ofString "xhit-42dflttrue") := by
  repeat rw [ofString_ofList]
  decide +kernel
example : ∀ b, Facts.replaceBound = some b → phCount exTag ≤ b := by decide +kernel
example : process exCfg (render exTag) = .value (ofString "xhit-42dflttrue") := by
  repeat rw [ofString_ofList]
  decide +kernel
example : process exCfg (ofString "${m}${zz}|${}") =
    .value (ofString "{\"k\":true}|{\"ab\":\"hit\",\"el\":[],\"m\":{\"k\":true},\"n\":42,\"p\":\"b\"}") := by
  repeat rw [ofString_ofList]
  decide +kernel
example : findFirst (ofString "a$${x{${k:d}}") = some (ofString "a$${x{", ofString "k:d", ofString "}") := by
  repeat rw [ofString_ofList]
  decide +kernel
example : repl exCfg (ofString "e:dd") = .ok (ofString "dd") ∧ repl exCfg (ofString "zz:dd") = .ok (ofString "dd") ∧
    repl exCfg (ofString "el") = .ok [] ∧ repl exCfg (ofString "z") = .ok [] ∧ repl exCfg (ofString "zz") = .ok [] := by
  repeat rw [ofString_ofList]
  decide +kernel

/-! indirect placeholders: a configured value that carries placeholders is processed as if the tag had been written
    with it — a key reached twice in one tag (repetition, a diamond, inside a default, inside another placeholder's key)
    resolves every time; only a real cycle ends in the error -/
example : process diaCfg (ofString "${base}/bin:${base}/lib") = .value (ofString "/opt/app/bin:/opt/app/lib") := by
  repeat rw [ofString_ofList]
  decide +kernel
example : process diaCfg (ofString "${bin}:${lib}") = .value (ofString "/opt/app/bin:/opt/app/lib") := by
  repeat rw [ofString_ofList]
  decide +kernel
example : process diaCfg (ofString "${twice}${zz:${base}}") = .value (ofString "/opt/app:/opt/app/opt/app") := by
  repeat rw [ofString_ofList]
  decide +kernel
example : process diaCfg (ofString "${k${sel}}${k${sel}}") = .value (ofString "/opt/app!/opt/app!") := by
  repeat rw [ofString_ofList]
  decide +kernel
example : process diaCfg (ofString "${left}") = .error := by decide +kernel


/-! ### the configuration changes between two resolutions (`Layers`: what was handed to Configure.Set, over the documents)

    A placeholder is replaced by "the configured value of key": after Set that is what was set — at the path, below it,
    above it, in any letter case.  The lookup is a function of the two layers as they are NOW (nothing remembers an earlier
    answer, present or absent), and with nothing set it is the lookup every theorem above speaks about. -/

/-- With nothing set the layered model IS the model of the theorems above: same lookup, same callback, same result. -/
theorem C16_no_set (cfg : Cfg) :
    (∀ key, (Layers.mk [] cfg).get key = get cfg key) ∧ replL ⟨[], cfg⟩ = repl cfg ∧
      ∀ s, processL ⟨[], cfg⟩ s = process cfg s :=
  ⟨get_no_set cfg, replL_no_set cfg, processL_no_set cfg⟩

/-- Set, then a lookup of the same path written in any letter case: the value that was set (any value but nil), whatever
    was configured, set or looked up before — also when the key was ABSENT before. -/
theorem C16_set_get (l : Layers) (path path' : Bytes) (v : CVal) (hp : path' ≠ []) (hc : lower path' = lower path)
    (hv : lowerKeys v ≠ .null) : (l.set path v).get path' = .val (some (lowerKeys v)) :=
  set_get l path path' v hp hc hv

/-- Set ABOVE, lookup BELOW: after Set("a", map) a key "a.q" that the map gives a value resolves to that value
    (`svc.url` after Set("svc", {url: …}); `cache.ttl`, absent before, after Set("cache", {ttl: 60})). -/
theorem C16_set_seen_below (l : Layers) (a q : Bytes) (vm : Cfg) (w : CVal)
    (h : searchOver (lowerKeysM vm) (splitDots (lower q)) = some w) :
    (l.set a (.map vm)).get (a ++ 46 :: q) = .val (some w) :=
  set_seen_below l a q vm w h

/-- Set BELOW, lookup ABOVE: after Set("a.q", v) the ancestor `a` answers with a map in which the rest of the path leads
    to v. -/
theorem C16_set_seen_through_ancestor (l : Layers) (a q : Bytes) (ha : a ≠ []) (v : CVal) :
    ∃ sub, (l.set (a ++ 46 :: q) v).get a = .val (some (.map sub)) ∧
      searchOver sub (splitDots (lower q)) = nilToNone (lowerKeys v) :=
  set_seen_through_ancestor l a q ha v

/-- … and the placeholder: `${key}` / `${key:default}` whose path has a present value in the override layer is replaced by
    that value, formatted — not by an earlier answer, not by the default. -/
theorem C16_set_present (l : Layers) (content key : Bytes) (dflt : Option Bytes) (v : CVal) (hk : key ≠ [])
    (hs : splitColon content = (key, dflt)) (h : searchOver l.over (splitDots (lower key)) = some v)
    (hp : isAbsent (some v) = false) : replL l content = .ok (format v) :=
  replL_of_over l content key dflt v hk hs h hp

/-- A second resolution of a tag is a first resolution under the configuration as it is then. -/
theorem C16_resolve_again_current (cfg : Cfg) (ops : List (Bytes × CVal)) (tags : List Bytes) :
    (resolveTwice cfg ops tags).2 = tags.map (processL ((Layers.mk [] cfg).setAll ops)) ∧
      (resolveTwice cfg ops tags).1 = tags.map (process cfg) := by
  refine ⟨rfl, ?_⟩
  simp only [resolveTwice]
  exact List.map_congr_left (fun s _ => processL_no_set cfg s)

def svcCfg : Cfg := [(ofString "svc", .map [(ofString "url", .str (ofString "http://old")), (ofString "name", .str (ofString "billing"))])]
def svcTags : List Bytes := [ofString "${svc.url}/${svc.name}?ttl=${cache.ttl:30}", ofString "${SVC.URL}"]
example : resolveTwice svcCfg [(ofString "svc", .map [(ofString "URL", .str (ofString "http://new")), (ofString "name", .str (ofString "billing"))]),
      (ofString "cache", .map [(ofString "ttl", .num (ofString "60"))])] svcTags =
    ([.value (ofString "http://old/billing?ttl=30"), .value (ofString "http://old")],
     [.value (ofString "http://new/billing?ttl=60"), .value (ofString "http://new")]) := by
  unfold svcTags svcCfg
  repeat rw [ofString_ofList]
  decide +kernel
example : resolveTwice svcCfg [(ofString "SVC.URL", .str (ofString "http://new")), (ofString "cache.ttl", .num (ofString "60"))] svcTags =
    ([.value (ofString "http://old/billing?ttl=30"), .value (ofString "http://old")],
     [.value (ofString "http://new/billing?ttl=60"), .value (ofString "http://new")]) := by
  unfold svcTags svcCfg
  repeat rw [ofString_ofList]
  decide +kernel
example : searchOver (lowerKeysM [(ofString "URL", .str (ofString "http://new"))]) (splitDots (lower (ofString "url"))) =
    some (.str (ofString "http://new")) := by rfl
/-! ### known findings pinned by the model (KF-C16-1, KF-C16-2): Go panics, not errors -/

/-- a default that is a lone quote character: strconv2.ParseAny slices `val[1:0]` -/
theorem C16_default_lone_quote_panics_counterexample :
    process [] (ofString "${x:'}") = .panic ∧ process [] (ofString "${x:\"}") = .panic := by
  repeat rw [ofString_ofList]
  decide +kernel

/-- a negative index into a configured list: viper indexes `sourceSlice[-1]` -/
theorem C16_negative_index_panics_counterexample :
    process [(ofString "l", .list [.num (ofString "1")])] (ofString "${l.-1}") = .panic := by
  repeat rw [ofString_ofList]
  decide +kernel

/-! ### the REGENERATED loop and quote stage

    `el_ReplaceAllContent` is the syntax tree of elHelper.ReplaceAllContent as it is in /repo now, `quote_PostProcessProperties`
    that of configQuoteAwarePostProcessors.PostProcessProperties INCLUDING the function literal it hands to the loop.
    Under the interpretation Ioc.SemStages (the regexp search, strings.Replace, SplitN, Configure.Get, ParseAny, FormatAny are
    parameters) they are `elLoop` and `stageLoop (quoteNode …)`; the byte-level model of this file (`loopF`, `repl`) is the
    instance of the same loop and the same decision at the byte-level operations. -/
section code
open Ioc.Go Ioc.Sem

/-- ReplaceAllContent for EVERY string-operation table, callback (which may change the world), bound and input: the same
    rounds in the same order — search, stop when nothing matches, THEN the bound check, then the callback on the content,
    the first callback error ends it, else replace the first occurrence of the matched text and go round again -/
theorem C16_code_ReplaceAllContent {σ : Type} (ops : ElOps String) (cb : String → σ → Except String String × σ)
    (bound fuel : Nat) (hE : ∀ s, ops.isEmpty s = (s == "")) (s : String) (w : σ) :
    run (elPrims ops cb bound fuel) Progs.el_ReplaceAllContent [.str s, .ref 0 40] w =
      (elLoop ops cb "unresolved" bound fuel 0 s w).map (fun r => (encElRes r.1, r.2)) :=
  el_sem ops cb bound hE fuel s w

/-- … and it ends, whatever the callback answers: `bound + 1` rounds of fuel always suffice -/
theorem C16_code_loop_terminates {σ S ε : Type} (ops : ElOps S) (cb : S → σ → Except ε S × σ) (be : ε) (bound : Nat) (s : S) (w : σ) :
    (elLoop ops cb be bound (bound + 1) 0 s w).isSome = true :=
  elLoop_terminates bound ops cb be (bound + 1) 0 s w (by omega) (by omega)

/-- a callback that fails is the end: nothing is searched or replaced after it, its error is the result -/
theorem C16_code_loop_first_error {σ S ε : Type} (ops : ElOps S) (cb : S → σ → Except ε S × σ) (be : ε) (bound fuel round : Nat)
    (s : S) (w w' : σ) (e : ε) (hm : ops.isEmpty (ops.find s) = false) (hb : round < bound)
    (hc : cb (ops.content (ops.find s)) w = (.error e, w')) :
    elLoop ops cb be bound (fuel + 1) round s w = some (.error e, w') := by
  have : ¬ round ≥ bound := by omega
  simp [elLoop, hm, this, hc]

/-- the quote stage with its function literal -/
theorem C16_code_quote_stage (props : List SProp) (ops : ElOps String) (splitN : String → String × Option String)
    (cfg : String → Option QV) (lenOf : Nat → Nat) (parse : String → Except String Nat) (fmtAny : Nat → Except String String)
    (bound fuel : Nat) (hE : ∀ s, ops.isEmpty s = (s == "")) (hfuel : bound + 1 ≤ fuel) (n : Nat) (w : SW) :
    run (quotePrims props ops splitN cfg lenOf parse fmtAny bound fuel) Progs.quote_PostProcessProperties
        [.list ((List.range' 0 n).map (fun i => Go.Val.ref i 20)), .str "c", .str "n"] w =
      some (stageResult (stageLoop (quoteNode props ops splitN cfg lenOf parse fmtAny bound fuel) (List.range' 0 n) w).2,
            (stageLoop (quoteNode props ops splitN cfg lenOf parse fmtAny bound fuel) (List.range' 0 n) w).1) :=
  quote_sem props ops splitN cfg lenOf parse fmtAny bound fuel hE hfuel n w

/-- the byte-level string operations of this file's model -/
def bytesOps : ElOps Bytes where
  find s := match findFirst s with
    | none => []
    | some (_, c, _) => matchText c
  isEmpty s := s.isEmpty
  content elr := (elr.drop 2).dropLast
  replace1 s old new := replaceFirst old new s

def stepToExcept : StepRes → Except Res Bytes
  | .ok r => .ok r
  | .err => .error .error
  | .panic => .error .panic
  | .unmodelled => .error .unmodelled

def loopResult : Option (Except Res Bytes × Unit) → Res
  | none => .outOfFuel
  | some (.ok r, _) => .value r
  | some (.error e, _) => e

theorem bytesOps_content (c : Bytes) : bytesOps.content (matchText c) = c := by
  simp [bytesOps, matchText]

/-- the byte-level loop `loopF` (with the bound) IS `elLoop` at the byte-level operations -/
theorem C16_loopF_is_elLoop (f : Bytes → StepRes) (b : Nat) : ∀ (fuel round : Nat) (s : Bytes),
    loopF f (some b) fuel round s =
      loopResult (elLoop bytesOps (fun c (_ : Unit) => (stepToExcept (f c), ())) Res.error b fuel round s ()) := by
  intro fuel
  induction fuel with
  | zero => intro round s; rfl
  | succ n ih =>
    intro round s
    simp only [loopF, elLoop]
    cases hff : findFirst s with
    | none => simp [bytesOps, hff, loopResult]
    | some m =>
      obtain ⟨pre, c, post⟩ := m
      have hfind : bytesOps.find s = matchText c := by simp [bytesOps, hff]
      have hne : bytesOps.isEmpty (matchText c) = false := by simp [bytesOps, matchText]
      simp only [hfind, hne, Bool.false_eq_true, if_false, bytesOps_content, hitBound]
      by_cases hb : round ≥ b
      · simp [hb, loopResult]
      · simp only [hb, decide_false, Bool.false_eq_true, if_false]
        cases f c with
        | ok r => exact ih (round + 1) (replaceFirst (matchText c) r s)
        | _ => rfl

/-- the byte-level callback `repl` takes the decision `quoteDecision` (the decision of the regenerated function literal,
    `quoteCb`): a present value is formatted, an absent one (nil, empty map, empty list) falls to the default, an empty or
    missing default gives the empty text, a default that does not parse is the error -/
theorem C16_repl_is_quoteDecision (cfg : Cfg) (content : Bytes) (v : Option CVal)
    (hget : get cfg (splitColon content).1 = .val v) :
    repl cfg content =
      match quoteDecision (ε := StepRes) (isAbsent v) (formatOpt v) (splitColon content).2 (fun d => d.isEmpty)
              (fun d => match normDefault d with | .ok r => .ok r | e => .error e) with
      | .error e => e
      | .ok none => .ok []
      | .ok (some t) => .ok t := by
  unfold repl quoteDecision
  rcases hs : splitColon content with ⟨key, dflt⟩
  rw [hs] at hget
  simp only [hget]
  cases hab : isAbsent v with
  | false => simp
  | true =>
    rcases dflt with _ | d
    · simp [defaultAnswer]
    · cases hd : d.isEmpty <;> simp [defaultAnswer, hd]
      cases normDefault d <;> simp [Except.map]

end code

/-! ### from the tag TEXT (seventh round): the arguments are cut off OUTSIDE the placeholders -/

/-- A tag text `v,name=items,…` whose value part `v` is bracket-balanced with its commas inside brackets only - in
    particular every comma inside a `${…}` / `#{…}` block, nested to any depth, also one that follows an inner `}` - reaches
    the placeholder processor with exactly `v` as its TagStr: the text is processed as `v` alone is. -/
theorem C16_arguments_cut_outside (cfg : Cfg) (v : Bytes) (as : List (Bytes × List Bytes))
    (hv : Ioc.Tag.WFpre Ioc.Tag.cComma Ioc.Tag.isLB Ioc.Tag.isRB v 0 = true) (has : ∀ a ∈ as, Ioc.Tag.WFArg a) :
    processText cfg (Ioc.Tag.render v as) = some (v, process cfg v) := by
  simp [processText, Ioc.Tag.parse?_render v as hv has]

/-- … and the parser never panics on the way: every tag text reaches the processor. -/
theorem C16_text_total (cfg : Cfg) (text : Bytes) : ∃ v, processText cfg text = some (v, process cfg v) := by
  obtain ⟨v, a, h⟩ := Ioc.Tag.parse?_total text
  exact ⟨v, by simp [processText, h]⟩

def motdCfg : Cfg := [(ofString "lang", .str (ofString "de")),
  (ofString "motd", .map [(ofString "de", .str (ofString "Hallo, Fremder"))]),
  (ofString "tier", .str (ofString "gold")), (ofString "quota", .map [(ofString "gold", .num (ofString "500"))])]

example : Ioc.Tag.WFpre Ioc.Tag.cComma Ioc.Tag.isLB Ioc.Tag.isRB (ofString "${motd.${lang}:Welcome, stranger}") 0 = true := by
  repeat rw [ofString_ofList]
  decide +kernel
example : Ioc.Tag.render (ofString "${motd.${lang}:Welcome, stranger}") [(ofString "required", [[]])]
    = ofString "${motd.${lang}:Welcome, stranger},required=" := by
  repeat rw [ofString_ofList]
  decide +kernel
example : processText motdCfg (ofString "${motd.${lang}:Welcome, stranger},required") =
    some (ofString "${motd.${lang}:Welcome, stranger}", .value (ofString "Hallo, Fremder")) := by
  repeat rw [ofString_ofList]
  decide +kernel
example : processText motdCfg (ofString "${motd.${nolang:fr}:Welcome, stranger},required=true,validate=required") =
    some (ofString "${motd.${nolang:fr}:Welcome, stranger}", .value (ofString "Welcome, stranger")) := by
  repeat rw [ofString_ofList]
  decide +kernel
example : processText motdCfg (ofString "#{max(${low:1},${quota.${tier}:100})},validate=min=1") =
    some (ofString "#{max(${low:1},${quota.${tier}:100})}", .value (ofString "#{max(1,500)}")) := by
  repeat rw [ofString_ofList]
  decide +kernel

/-! ### as written (eighth round): the text a tag resolves to, written as a tag, is handed on unchanged

  "The tag is then processed as if it had been written with the replacement text": the placeholder stage writes TagVal, every
  later stage (expression, value, validate) reads TagVal and the arguments only.  So it is enough that the tag `T'` written
  with the text `T` resolves to leaves the placeholder stage with that very text - under EVERY configuration, because it
  holds no placeholder any more.  (What the later stages read is the regenerated fact of `C18_code_expr_reads_quote_result`
  and, for whole Apps, the oracle `placeholder-as-written`: two real starts, `T` against `T'`.) -/

/-- If `T` resolves to the text `r`, the tag written `r` resolves to `r` (whatever the configuration is then): both
    properties carry the same TagVal into the later stages. -/
theorem C16_as_written (cfg cfg' : Cfg) (s r : Bytes) (h : process cfg s = .value r) : process cfg' r = .value r := by
  have hn := C16_no_placeholder_left cfg s r h
  unfold process
  rw [hn]

/-- … also from the tag TEXT with the same arguments behind: when the value part `v` resolves to `r` and `r` is
    bracket-balanced with its commas inside brackets (otherwise NO written tag has the value part `r`), the text
    `r,args` reaches the later stages with TagStr = TagVal = `r` and the arguments of `v,args`. -/
theorem C16_as_written_text (cfg : Cfg) (v r : Bytes) (as : List (Bytes × List Bytes))
    (hv : Ioc.Tag.WFpre Ioc.Tag.cComma Ioc.Tag.isLB Ioc.Tag.isRB v 0 = true)
    (hr : Ioc.Tag.WFpre Ioc.Tag.cComma Ioc.Tag.isLB Ioc.Tag.isRB r 0 = true) (has : ∀ a ∈ as, Ioc.Tag.WFArg a)
    (h : process cfg v = .value r) :
    processText cfg (Ioc.Tag.render v as) = some (v, .value r) ∧
    processText cfg (Ioc.Tag.render r as) = some (r, .value r) := by
  rw [C16_arguments_cut_outside cfg v as hv has, C16_arguments_cut_outside cfg r as hr has, h,
    C16_as_written cfg cfg v r h]
  exact ⟨rfl, rfl⟩

def cacheCfg : Cfg := [(ofString "region", .str (ofString "eu")),
  (ofString "cache", .map [(ofString "ttl", .str (ofString "#{60*60}")), (ofString "label", .str (ofString "#{'cache-'+'${region}'}"))])]

-- the expression reaches the tag only through the configured value: nothing in the written tag says "expression"
example : process cacheCfg (ofString "${cache.ttl}") = .value (ofString "#{60*60}") := by
  repeat rw [ofString_ofList]
  decide +kernel
example : process cacheCfg (ofString "${cache.label}") = .value (ofString "#{'cache-'+'eu'}") := by
  unfold cacheCfg
  repeat rw [ofString_ofList]
  decide +kernel
example : process cacheCfg (ofString "#{60*60}") = .value (ofString "#{60*60}") := by
  repeat rw [ofString_ofList]
  decide +kernel
example : Ioc.Tag.WFpre Ioc.Tag.cComma Ioc.Tag.isLB Ioc.Tag.isRB (ofString "#{'cache-'+'eu'}") 0 = true := by
  repeat rw [ofString_ofList]
  decide +kernel
example : processText cacheCfg (ofString "${cache.ttl},validate=min=1") = some (ofString "${cache.ttl}", .value (ofString "#{60*60}")) := by
  repeat rw [ofString_ofList]
  decide +kernel

/-! ### sources merged after the start (ninth round): the configured value is the one the binder holds NOW

    `Conf` is the library's default configure as `C16_code_configure_Default` reads it off the source: a loader list and the
    viper binder itself.  Configure.SetConfig hands a document straight to the binder (viper.MergeConfig into what it holds),
    AddLoaders + Initialize loads every loader again; a lookup is a function of the binder's two layers as they are then -
    nothing between the configure and the binder remembers what a key resolved to before. -/

/-- A second resolution of a tag, after any sequence of SetConfig / AddLoaders + Initialize / Set, is a first resolution
    under the layers those steps leave; the first one is the resolution under the base document. -/
theorem C16_sources_resolve_again_current (base : Cfg) (steps : List Step) (tags : List Bytes) :
    (resolveAround base steps tags).2 = tags.map (processL ((Conf.start base).steps steps).layers) ∧
      (resolveAround base steps tags).1 = tags.map (process (mergeDoc [] base)) := by
  refine ⟨rfl, ?_⟩
  simp only [resolveAround, start_layers]
  exact List.map_congr_left (fun s _ => processL_no_set _ s)

/-- A document that says `key: v` (the nested form of the dotted path, as insensitiviseMap leaves it), merged with SetConfig
    at ANY point of a history: unless the binder holds a map at that very path (viper keeps a map against a scalar) and unless
    a Set stands in front of the path, the lookup of the key - in any letter case - answers v from then on, whatever it
    answered before. -/
theorem C16_merged_value_seen (c : Conf) (key : Bytes) (hk : key ≠ []) (v : CVal) (doc : Cfg)
    (hdoc : lowerKeysM doc = pathDoc (splitDots (lower key)) v)
    (ho : searchOver c.layers.over (splitDots (lower key)) = none) (hs : shadowed c.layers.over (splitDots (lower key)) = false)
    (hm : mapAt c.layers.conf (splitDots (lower key)) = false) :
    (c.step (.setConfig doc)).layers.get key = .val (nilToNone v) := by
  rw [step_setConfig_layers, get_of_conf ⟨c.layers.over, mergeDoc c.layers.conf doc⟩ key hk ho hs]
  exact search_mergeDoc _ doc key v hdoc hm

/-- … the same for a source added with AddLoaders and loaded by the next Initialize: it is merged LAST, after every loader
    the configure already had, so the condition speaks about what those leave. -/
theorem C16_added_source_seen (c : Conf) (key : Bytes) (hk : key ≠ []) (v : CVal) (doc : Cfg)
    (hdoc : lowerKeysM doc = pathDoc (splitDots (lower key)) v)
    (ho : searchOver c.layers.over (splitDots (lower key)) = none) (hs : shadowed c.layers.over (splitDots (lower key)) = false)
    (hm : mapAt (c.loaders.foldl mergeDoc c.layers.conf) (splitDots (lower key)) = false) :
    (c.step (.addLoader doc)).layers.get key = .val (nilToNone v) := by
  rw [step_addLoader_layers, get_of_conf ⟨c.layers.over, mergeDoc (c.loaders.foldl mergeDoc c.layers.conf) doc⟩ key hk ho hs]
  exact search_mergeDoc _ doc key v hdoc hm

/-- … and the placeholder: after the merge `${key}` / `${key:default}` is replaced by the merged value, formatted - not by
    what the key resolved to before the merge, not by the default. -/
theorem C16_merged_value_replaces (c : Conf) (content key : Bytes) (dflt : Option Bytes) (v : CVal) (doc : Cfg) (hk : key ≠ [])
    (hsp : splitColon content = (key, dflt)) (hdoc : lowerKeysM doc = pathDoc (splitDots (lower key)) v)
    (ho : searchOver c.layers.over (splitDots (lower key)) = none) (hs : shadowed c.layers.over (splitDots (lower key)) = false)
    (hm : mapAt c.layers.conf (splitDots (lower key)) = false) (hp : isAbsent (some v) = false) :
    replL (c.step (.setConfig doc)).layers content = .ok (format v) := by
  have hv : nilToNone v = some v := by cases v <;> simp_all [nilToNone, isAbsent]
  rw [step_setConfig_layers]
  exact replL_of_conf ⟨c.layers.over, mergeDoc c.layers.conf doc⟩ content key dflt v hk hsp ho hs
    (hv ▸ search_mergeDoc _ doc key v hdoc hm) hp

def regionCfg : Cfg := [(ofString "region", .str (ofString "us")), (ofString "greeting", .str (ofString "hello from ${region}"))]
def regionTags : List Bytes := [ofString "${region:none}", ofString "${greeting}", ofString "/srv/${region:none}/${REGION}.log"]
def regionEu : Cfg := [(ofString "region", .str (ofString "eu"))]

-- the hypotheses of C16_merged_value_seen hold for the running configure of the example and the document `region: eu`
example : lowerKeysM regionEu = pathDoc (splitDots (lower (ofString "REGION"))) (.str (ofString "eu")) := by rfl
example : searchOver (Conf.start regionCfg).layers.over (splitDots (lower (ofString "REGION"))) = none ∧
    shadowed (Conf.start regionCfg).layers.over (splitDots (lower (ofString "REGION"))) = false ∧
    mapAt (Conf.start regionCfg).layers.conf (splitDots (lower (ofString "REGION"))) = false := by
  repeat rw [ofString_ofList]
  decide +kernel
example : resolveAround regionCfg [.setConfig regionEu] regionTags =
    ([.value (ofString "us"), .value (ofString "hello from us"), .value (ofString "/srv/us/us.log")],
     [.value (ofString "eu"), .value (ofString "hello from eu"), .value (ofString "/srv/eu/eu.log")]) := by
  unfold regionEu regionTags regionCfg
  repeat rw [ofString_ofList]
  decide +kernel
example : resolveAround regionCfg [.addLoader regionEu] regionTags =
    ([.value (ofString "us"), .value (ofString "hello from us"), .value (ofString "/srv/us/us.log")],
     [.value (ofString "eu"), .value (ofString "hello from eu"), .value (ofString "/srv/eu/eu.log")]) := by
  unfold regionEu regionTags regionCfg
  repeat rw [ofString_ofList]
  decide +kernel
-- Initialize loads the base document again: after SetConfig(region: eu), a loader that does not mention the key brings `us` back
example : (resolveAround regionCfg [.setConfig regionEu, .addLoader [(ofString "other", .str (ofString "x"))]] regionTags).2 =
    [.value (ofString "us"), .value (ofString "hello from us"), .value (ofString "/srv/us/us.log")] := by
  unfold regionEu regionTags regionCfg
  repeat rw [ofString_ofList]
  decide +kernel
-- what was Set stays in front of every source
example : (resolveAround regionCfg [.set (ofString "Region") (.str (ofString "ap")), .setConfig regionEu] regionTags).2 =
    [.value (ofString "ap"), .value (ofString "hello from ap"), .value (ofString "/srv/ap/ap.log")] := by
  unfold regionEu regionTags regionCfg
  repeat rw [ofString_ofList]
  decide +kernel
-- viper keeps a map against a scalar (the condition `mapAt … = false` of the theorem is needed)
example : (resolveAround [(ofString "region", .map [(ofString "name", .str (ofString "us"))])] [.setConfig regionEu]
    [ofString "${region.name}", ofString "${region}"]).2 = [.value (ofString "us"), .value (ofString "{\"name\":\"us\"}")] := by
  repeat rw [ofString_ofList]
  decide +kernel

/-- configure.Default / NewConfigure / the setters, regenerated (interpretation Ioc.SemConfDefault): the default configure has
    ONE loader, the command-line loader over os.Args, and its binder is the viper binder for yaml ITSELF (no layer between
    the configure and the binder: what `SetConfig` merges and `Set` writes is what `Get` reads); SetLoaders replaces,
    AddLoaders appends in the order given, SetBinder replaces the binder -/
theorem C16_code_configure_Default (w : Sem.CfgObj) (ls : List Go.Val) (b : Go.Val) :
    Go.run Sem.cdPrims Progs.cfg_Default [] w =
      some (.ref 0 180, ⟨[.tuple [.str "ArgsLoader", .str "os.Args"]], .tuple [.str "ViperBinder", .str "yaml"]⟩) ∧
    Go.run Sem.cdPrims Progs.cfg_NewConfigure [] w = some (.ref 0 180, ⟨[], .nil⟩) ∧
    Go.run Sem.cdPrims Progs.cfg_SetLoaders [.list ls] w = some (.tuple [], { w with loaders := ls }) ∧
    Go.run Sem.cdPrims Progs.cfg_AddLoaders [.list ls] w = some (.tuple [], { w with loaders := w.loaders ++ ls }) ∧
    Go.run Sem.cdPrims Progs.cfg_SetBinder [b] w = some (.tuple [], { w with binder := b }) :=
  ⟨Sem.cfgDefault_sem w, Sem.newConfigure_sem w, (Sem.cfgSetters_sem w ls b).1, (Sem.cfgSetters_sem w ls b).2.1,
   (Sem.cfgSetters_sem w ls b).2.2⟩

/-- the `prop` shorthand IS a placeholder: the value scanner's ExtractHandler (regenerated, `C11_code_valueExtract`) wraps
    EVERY `prop` key — whatever it starts with, nested placeholders included — into `${key}` followed by the argument text -/
theorem C16_code_prop_is_placeholder (o : Sem.VXOps) :
    Go.run (Sem.vxPrims o) Progs.scan_valueExtract [.ref 0 1, .ref 0 60] () =
      (Sem.valueExtractS o).map (fun r => (Sem.encExtract r, ())) :=
  Sem.valueExtract_sem o

end Ioc.C16
