/-
  C18 — Expressions run after placeholder substitution, validation after binding.  PROPERTY THEOREMS ONLY
  (lemmas live in IocProofs/Lemmas/ValueC18 and the Value* files).

  Model: Ioc.Value.  `evalE` (expr) and `validate` (validator) are OPAQUE parameters: every theorem holds for any
  expression engine and any validator; what the real libraries compute is checked by the tie only.
  `stageOrder` is computed from the REGENERATED table `Ioc.Facts.builtinProcessors` (type, marker embeddings,
  Order() constant) with the SortOrderedComponents rule, so changing an Order constant or a marker embedding in
  the Go source breaks `C18_stage_order` and `C18_pipeline`.
-/
import IocProofs.Lemmas.ValueC18
import IocProofs.Lemmas.ValueTwice
import IocProofs.Lemmas.SemStages
import IocProofs.Lemmas.SemDelegate
import IocProofs.Lemmas.OfString
namespace Ioc.C18
open Ioc Ioc.Tag Ioc.Value

/-- The order of the built-in processors, from the regenerated table: quote before expression before the two
    binding processors before validate; plain dependency matching before further matching.  All are present. -/
theorem C18_stage_order :
    (∀ n ∈ [nQuote, nExpr, nValue, nProps, nValidate, nDepAware, nFurther], n ∈ stageOrder) ∧
    idx nQuote stageOrder < idx nExpr stageOrder ∧
    idx nExpr stageOrder < idx nValue stageOrder ∧
    idx nExpr stageOrder < idx nProps stageOrder ∧
    idx nValue stageOrder < idx nValidate stageOrder ∧
    idx nProps stageOrder < idx nValidate stageOrder ∧
    idx nDepAware stageOrder < idx nFurther stageOrder := by
  decide +kernel

/-- Running every built-in processor, in the order computed from the regenerated table, over one configuration
    property IS the composition  quote ≫ expression ≫ (value | prefix) ≫ validate  — for every expression
    engine, validator, configuration, tag text and field type. -/
theorem C18_pipeline (J : Json) (evalE : Bytes → Except Err Val) (validate : FVal → List Bytes → Bool)
    (cfg : Cfg) (tag : Bytes) (ty : FieldTy) :
    runProperty J evalE validate cfg true tag ty = valuePipeline J evalE validate cfg tag ty ∧
    runProperty J evalE validate cfg false tag ty = prefixPipeline J evalE validate cfg tag ty :=
  ⟨runProperty_value J evalE validate cfg tag ty, runProperty_prefix J evalE validate cfg tag ty⟩

/-- The expression engine never sees a placeholder.  (i) What the quote stage hands on contains no `${…}` match
    any more (this is the loop of el.ReplaceAllContent, however many rounds of substitution it took — not only a
    single level).  (ii) Every text handed to the engine during the expression stage is free of `${…}`: an engine
    that REFUSES (panics on) any text containing a `${…}` match is indistinguishable from the given one.
    (Texts are the contents of `#{[^{}]*}` matches, hence brace-free.) -/
theorem C18_expr_sees_no_placeholder (J : Json) (cfg : Cfg) (evalE : Bytes → Except Err Val) (tv s1 : Bytes)
    (hq : quoteStage J cfg tv = .ok s1) :
    findEl cDollar s1 = none ∧ exprStage J (guardE evalE) s1 = exprStage J evalE s1 :=
  ⟨replaceAllF_ok_no_match _ _ _ _ _ _ hq, exprStage_guard J evalE s1⟩

/-- The field receives the expression's result: when the tag, after all placeholders inside it have been
    substituted, is `#{e}`, the engine gives `v` for `e`, and the formatted result contains no further `#{…}`,
    then what is bound is  decode ty (parseAny (formatAny v))  (then validated) — with any arguments. -/
theorem C18_expr_result (J : Json) (evalE : Bytes → Except Err Val) (validate : FVal → List Bytes → Bool)
    (cfg : Cfg) (tv e : Bytes) (as : List (Bytes × List Bytes)) (ty : FieldTy) (v : Val)
    (htv : WFpre cComma isLB isRB tv 0 = true) (has : ∀ a ∈ as, WFArg a)
    (hq : quoteStage J cfg tv = .ok (exprTag e)) (he : ∀ b ∈ e, notBrace b = true)
    (hv : evalE e = .ok v) (hn : findEl cHash (formatAny J v) = none) (hne : (formatAny J v).isEmpty = false) :
    valuePipeline J evalE validate cfg (render tv as) ty =
      (parseAny J (formatAny J v) >>= fun w => unmarshall ty w >>= fun b =>
        validateStage validate (as.foldl (fun m a => setArg m a.1 a.2) []) ty b >>= fun b' => pure (b'.getD (zero ty))) := by
  unfold valuePipeline
  rw [parse?_render tv as htv has]
  simp only [hq, exprStage_exprTag J evalE e v he hv hn, bind, Except.bind]
  unfold valueStage
  simp only [hne, Bool.false_eq_true, if_false]
  cases parseAny J (formatAny J v) <;> rfl

/-- Validation runs on the bound value and decides the outcome: with a `validate` argument `cs` (and the field
    not a nil pointer) the stage fails exactly when the validator rejects the value the field holds. -/
theorem C18_validate_iff (validate : FVal → List Bytes → Bool) (args : Args) (ty : FieldTy) (b : Option FVal)
    (cs : List Bytes) (hcs : Tag.find args kValidate = some cs)
    (hp : ¬ (isPtrTy ty = true ∧ b.getD (zero ty) = .nil)) :
    (validateStage validate args ty b = .error .validate ↔ validate (b.getD (zero ty)) cs = false) ∧
    (validateStage validate args ty b = .ok b ↔ validate (b.getD (zero ty)) cs = true) := by
  rw [validateStage_spec, hcs]
  simp only [hp, if_false]
  cases validate (b.getD (zero ty)) cs <;> simp

/-- … and never otherwise: without a `validate` argument the stage cannot fail, whatever the validator says. -/
theorem C18_validate_only_when_asked (validate : FVal → List Bytes → Bool) (args : Args) (ty : FieldTy) (b : Option FVal)
    (h : Tag.find args kValidate = none) : validateStage validate args ty b = .ok b := by
  rw [validateStage_spec, h]

/-- The outcome of a whole value point in terms of its stages: once binding succeeded with `b`, start-up fails
    iff validation was asked for, the field is not a nil pointer, and the validator rejects the bound value. -/
theorem C18_validate_outcome (J : Json) (evalE : Bytes → Except Err Val) (validate : FVal → List Bytes → Bool)
    (cfg : Cfg) (tag tv s1 s2 : Bytes) (args : Args) (ty : FieldTy) (b : Option FVal)
    (hp : Tag.parse? tag = some (tv, args)) (hq : quoteStage J cfg tv = .ok s1) (he : exprStage J evalE s1 = .ok s2)
    (hb : valueStage J args ty s2 = .ok b) :
    valuePipeline J evalE validate cfg tag ty =
      match Tag.find args kValidate with
      | none => .ok (b.getD (zero ty))
      | some cs =>
        if isPtrTy ty = true ∧ b.getD (zero ty) = .nil then .ok (b.getD (zero ty))
        else if validate (b.getD (zero ty)) cs = true then .ok (b.getD (zero ty)) else .error .validate := by
  unfold valuePipeline
  simp only [hp, hq, he, hb, bind, Except.bind, validateStage_spec]
  cases Tag.find args kValidate with
  | none => rfl
  | some cs =>
    simp only
    by_cases h1 : isPtrTy ty = true ∧ b.getD (zero ty) = .nil
    · simp only [h1, and_self, if_true]; rfl
    · simp only [h1, if_false]
      by_cases h2 : validate (b.getD (zero ty)) cs = true
      · simp only [h2, if_true]; rfl
      · simp only [h2, Bool.false_eq_true, if_false]

/-- An optional pointer field for which nothing was bound is not validated (no error), whatever the constraints
    and the validator (the behaviour after the repair of D17). -/
theorem C18_validate_absent (J : Json) (validate : FVal → List Bytes → Bool) (args : Args) (t : FieldTy)
    (hopt : isRequired args = false) :
    valueStage J args (.ptr t) [] = .ok none ∧ validateStage validate args (.ptr t) none = .ok none := by
  constructor
  · simp [valueStage, hopt]
  · rw [validateStage_spec]
    cases Tag.find args kValidate <;> simp [isPtrTy, zero]

/-- The stage order holds on EVERY population of a property, not only the first.  A Property object keeps TagStr,
    TagVal, its arguments and its field between two creations of its component; running the processors over such a
    left-over state — any TagVal `leftVal`, any field contents `leftBound` — is, when TagStr contains a placeholder,
    again   quote (on TagStr, under the CURRENT configuration) ≫ expression ≫ bind ≫ validate:
    the expression is evaluated after the placeholders were substituted with the current values, and validation
    judges the value bound now (the old field contents only when nothing is bound now). -/
theorem C18_repopulate_pipeline (J : Json) (evalE : Bytes → Except Err Val) (validate : FVal → List Bytes → Bool)
    (cfg : Cfg) (ty : FieldTy) (tagStr leftVal : Bytes) (args : Args) (leftBound : Option FVal)
    (r : Bytes × Bytes × Bytes) (hf : findEl cDollar tagStr = some r) :
    runStagesOn J evalE validate cfg ty stageOrder ⟨true, tagStr, leftVal, args, leftBound⟩ =
      (quoteStage J cfg tagStr >>= fun s1 => exprStage J evalE s1 >>= fun s2 => valueStage J args ty s2 >>= fun b =>
        validateStage validate args ty (b.orElse fun _ => leftBound) >>= fun b' => pure ⟨true, tagStr, s2, args, b'⟩) ∧
    runStagesOn J evalE validate cfg ty stageOrder ⟨false, tagStr, leftVal, args, leftBound⟩ =
      (quoteStage J cfg tagStr >>= fun s1 => exprStage J evalE s1 >>= fun s2 => prefixStage cfg args ty s2 >>= fun b =>
        validateStage validate args ty (b.orElse fun _ => leftBound) >>= fun b' => pure ⟨false, tagStr, s2, args, b'⟩) :=
  ⟨runStages_value_some J evalE validate cfg ty tagStr leftVal args leftBound r hf,
   runStages_prefix_some J evalE validate cfg ty tagStr leftVal args leftBound r hf⟩

/-- A tag WITHOUT a placeholder is skipped by the quote processor (`if !MatchString(TagStr) continue`): the later
    stages start from the TagVal the property holds — TagStr itself on a fresh property, the text an earlier
    population left otherwise. -/
theorem C18_repopulate_no_placeholder (J : Json) (evalE : Bytes → Except Err Val) (validate : FVal → List Bytes → Bool)
    (cfg : Cfg) (ty : FieldTy) (tagStr leftVal : Bytes) (args : Args) (leftBound : Option FVal)
    (hf : findEl cDollar tagStr = none) :
    runStagesOn J evalE validate cfg ty stageOrder ⟨true, tagStr, leftVal, args, leftBound⟩ =
      (exprStage J evalE leftVal >>= fun s2 => valueStage J args ty s2 >>= fun b =>
        validateStage validate args ty (b.orElse fun _ => leftBound) >>= fun b' => pure ⟨true, tagStr, s2, args, b'⟩) :=
  runStages_value_none J evalE validate cfg ty tagStr leftVal args leftBound hf

/-! ### non-vacuity and worked examples (by evaluation of the model) -/

/-- a toy engine: knows three expression texts -/
def toyE : Bytes → Except Err Val := fun e =>
  if e = ofString "2+3" then .ok (.int 5)
  else if e = ofString "2 * 3" then .ok (.int 6)
  else if e = ofString "10/4" then .ok (.dec (ofString "2.5"))
  else .error .expr

/-- a toy validator: `min=N` on integers -/
def toyV : FVal → List Bytes → Bool := fun v cs =>
  match v with
  | .int i => cs.all (fun c => if c = ofString "min=6" then decide (6 ≤ i) else true)
  | .ptr (.int i) => cs.all (fun c => if c = ofString "min=6" then decide (6 ≤ i) else true)
  | _ => true

def cfgAB : Cfg := fun k =>
  if k = ofString "a" then .int 2 else if k = ofString "b" then .int 3 else if k = ofString "op" then .str (ofString "*") else .null

example : stageOrder.take 5 = [ "loggerAwarePostProcessors", nQuote, nExpr, nProps, nValue ] := by decide +kernel
-- placeholders are substituted first, the engine sees "2+3"
-- `ofString_ofList` first: the literals become character lists by rewriting, the kernel evaluates the rest
example : valuePipeline goJson toyE toyV cfgAB (ofString "#{${a}+${b}}") .int = .ok (.int 5) := by
  repeat rw [ofString_ofList]
  decide +kernel
-- a placeholder that expands to an operator
example : valuePipeline goJson toyE toyV cfgAB (ofString "#{${a} ${op} ${b}}") .string = .ok (.str (ofString "6")) := by
  repeat rw [ofString_ofList]
  decide +kernel
-- `#{…}` containing `${…:default}`
example : valuePipeline goJson toyE toyV cfgAB (ofString "#{${a}+${missing:3}}") .int = .ok (.int 5) := by
  repeat rw [ofString_ofList]
  decide +kernel
-- … and a configured key wins over its declared default, also when it is configured with 0
example : valuePipeline goJson toyE toyV (fun k => if k = ofString "z" then .int 0 else cfgAB k) (ofString "#{${a}+${b:9}}") .int = .ok (.int 5) := by
  repeat rw [ofString_ofList]
  decide +kernel
example : quoteStage goJson (fun k => if k = ofString "z" then .int 0 else cfgAB k) (ofString "#{${z:7}*${a:9}}") = .ok (ofString "#{0*2}") := by
  repeat rw [ofString_ofList]
  decide +kernel
-- a float result into a float and into an int field
example : valuePipeline goJson toyE toyV cfgAB (ofString "#{10/4}") .float = .ok (.dec (ofString "2.5")) := by decide +kernel
example : valuePipeline goJson toyE toyV cfgAB (ofString "#{10/4}") .int = .ok (.int 2) := by
  repeat rw [ofString_ofList]
  decide +kernel
-- an engine error fails start-up
example : valuePipeline goJson toyE toyV cfgAB (ofString "#{1+}") .int = .error .expr := by decide +kernel
-- validate on a value produced by an expression: 5 violates min=6, 6 does not
example : valuePipeline goJson toyE toyV cfgAB (ofString "#{${a}+${b}},validate=min=6") .int = .error .validate := by
  repeat rw [ofString_ofList]
  decide +kernel
example : valuePipeline goJson toyE toyV cfgAB (ofString "#{${a} ${op} ${b}},validate=min=6") .int = .ok (.int 6) := by
  repeat rw [ofString_ofList]
  decide +kernel
-- optional pointer, nothing configured: not validated; a required one fails for being absent, not for validation
example : valuePipeline goJson toyE toyV cfgAB (ofString "${nothing},validate=min=6,required=false") (.ptr .int) = .ok .nil := by
  repeat rw [ofString_ofList]
  decide +kernel
example : valuePipeline goJson toyE toyV cfgAB (ofString "${nothing},validate=min=6") (.ptr .int) = .error .required := by
  repeat rw [ofString_ofList]
  decide +kernel
-- the hypotheses of C18_expr_result are met by `#{${a}+${b}}`
example : quoteStage goJson cfgAB (ofString "#{${a}+${b}}") = .ok (exprTag (ofString "2+3")) := by
  repeat rw [ofString_ofList]
  decide +kernel
example : WFpre cComma isLB isRB (ofString "#{${a}+${b}}") 0 = true := by
  repeat rw [ofString_ofList]
  decide +kernel
-- the hypotheses of C18_validate_iff are met
example : Tag.find [(ofString "Validate", [ofString "min=6"])] kValidate = some [ofString "min=6"] := by decide +kernel

-- a holder populated twice.  `#{${a} ${op} ${b}},validate=min=6`: first op = "+" gives 2 + 3 = … the toy engine
-- does not know "2 + 3": the first creation fails in the expression stage; op is then set to "*": the second creation
-- evaluates "2 * 3" on the CURRENT values and binds 6, which satisfies min=6
def cfgPlus : Cfg := fun k => if k = ofString "op" then .str (ofString "+") else cfgAB k
def holderE : List HProp :=
  [⟨.int, ⟨true, ofString "#{${a} ${op} ${b}}", ofString "#{${a} ${op} ${b}}", [(ofString "Validate", [ofString "min=6"])], none⟩⟩]
example : (createTwice goJson toyE toyV cfgPlus cfgAB false holderE).first = some .expr ∧
    (createTwice goJson toyE toyV cfgPlus cfgAB false holderE).second = none ∧
    (createTwice goJson toyE toyV cfgPlus cfgAB false holderE).props.map (·.st.bound) = [some (.int 6)] := by decide +kernel
-- `#{${a}+${b}},validate=min=6` binds 5 and fails validation; the creation is repeated after b was set to … the same
-- configuration: it fails again, for the same reason (TagVal "5" left by the first population is not consulted)
def holderV : List HProp :=
  [⟨.int, ⟨true, ofString "#{${a}+${b}}", ofString "#{${a}+${b}}", [(ofString "Validate", [ofString "min=6"])], none⟩⟩]
example : (createTwice goJson toyE toyV cfgAB cfgAB false holderV).first = some .validate ∧
    (createTwice goJson toyE toyV cfgAB cfgAB false holderV).second = some .validate ∧
    ((populateAll goJson toyE toyV cfgAB stageOrder holderV).1.map (·.st.tagVal)) = [ofString "5"] := by decide +kernel
-- a creation that fails AFTER its properties were populated (a dependency that cannot be created): populated again
example : (createTwice goJson toyE toyV cfgAB cfgAB true holderE).failed = true ∧
    (createTwice goJson toyE toyV cfgAB cfgAB true holderE).props.map (·.st.bound) = [some (.int 6)] := by decide +kernel
-- a creation that succeeds is not repeated
example : (createTwice goJson toyE toyV cfgAB cfgPlus false holderE).failed = false ∧
    (createTwice goJson toyE toyV cfgAB cfgPlus false holderE).props.map (·.st.bound) = [some (.int 6)] := by decide +kernel
example : (findEl cDollar (ofString "#{${a} ${op} ${b}}")).isSome = true := by
  repeat rw [ofString_ofList]
  decide +kernel

-- quote characters are ordinary bytes of a tag: an apostrophe (an unbalanced quote) in the text behind an expression or in
-- a placeholder's default does not hide the `validate` argument behind it — the value part ends at the first top-level
-- comma, the field receives the expression's result and the text, and validation judges it
def toyQ : FVal → List Bytes → Bool := fun v cs =>
  match v with
  | .str s => cs.all (fun c => if c = ofString "startswith=9" then s.head? = some 57 else if c = ofString "max=8" then decide (s.length ≤ 8) else true)
  | _ => true
example : Tag.parse? (ofString "#{${a} ${op} ${b}} o'clock,validate=startswith=9") =
    some (ofString "#{${a} ${op} ${b}} o'clock", [(ofString "Validate", [ofString "startswith=9"])]) := by
  repeat rw [ofString_ofList]
  decide +kernel
example : valuePipeline goJson toyE toyQ cfgAB (ofString "#{${a} ${op} ${b}} o'clock,validate=startswith=9") .string = .error .validate := by
  repeat rw [ofString_ofList]
  decide +kernel
example : valuePipeline goJson toyE toyQ cfgAB (ofString "#{${a} ${op} ${b}} o'clock,validate=startswith=6") .string = .ok (.str (ofString "6 o'clock")) := by
  repeat rw [ofString_ofList]
  decide +kernel
example : valuePipeline goJson toyE toyQ cfgAB (ofString "${motd:don't panic},validate=max=8") .string = .error .validate := by
  repeat rw [ofString_ofList]
  decide +kernel
example : valuePipeline goJson toyE toyQ cfgAB (ofString "${motd:don't},validate=max=8") .string = .ok (.str (ofString "don't")) := by
  repeat rw [ofString_ofList]
  decide +kernel
example : valuePipeline goJson toyE toyQ cfgAB (ofString "5\" pipe,validate=max=8") .string = .ok (.str (ofString "5\" pipe")) := by
  repeat rw [ofString_ofList]
  decide +kernel

/-! ### the REGENERATED stage functions

    `expr_PostProcessProperties` (with its function literal) and `validate_PostProcessProperties` are the syntax trees of
    the two processors as they are in /repo now; under the interpretation Ioc.SemStages they are the model loops below for
    EVERY node list and every behaviour of the expression engine / validator parameters. -/
section code
open Ioc.Go Ioc.Sem

/-- the expression stage: on TagVal AS THE QUOTE STAGE LEFT IT (`tagValNow` reads the log), each `#{…}` through
    compile → run → format, the bounded loop of `el.ReplaceAllContent`, TagVal stored only after a loop without error -/
theorem C18_code_expr_stage (props : List SProp) (ops : ElOps String) (compile : String → Except String Nat)
    (runP : Nat → Except String Nat) (fmtAny : Nat → Except String String) (bound fuel : Nat)
    (hE : ∀ s, ops.isEmpty s = (s == "")) (hfuel : bound + 1 ≤ fuel) (n : Nat) (w : SW) :
    run (exprPrims props ops compile runP fmtAny bound fuel) Progs.expr_PostProcessProperties
        [.list ((List.range' 0 n).map (fun i => Go.Val.ref i 20)), .str "c", .str "n"] w =
      some (stageResult (stageLoop (exprNode props ops compile runP fmtAny bound fuel) (List.range' 0 n) w).2,
            (stageLoop (exprNode props ops compile runP fmtAny bound fuel) (List.range' 0 n) w).1) :=
  expr_sem props ops compile runP fmtAny bound fuel hE hfuel n w

/-- the expression stage sees what the quote stage stored: after `setTagVal i s` the text it works on is `s` -/
theorem C18_code_expr_reads_quote_result (props : List SProp) (w : SW) (i : Nat) (s : String) :
    tagValNow props (w ++ [.setTagVal i s]) i = s := by
  unfold tagValNow
  have : ∀ (w : SW), lastTagVal (w ++ [.setTagVal i s]) i = some s := by
    intro w
    induction w with
    | nil => simp [lastTagVal]
    | cons ev rest ih => simp [lastTagVal, ih]
  rw [this]; rfl

theorem C18_code_validate_stage (props : List SProp) (vS : Nat → Option String) (vV : Nat → String → Option String)
    (n : Nat) (w : SW) :
    run (validPrims props vS vV) Progs.validate_PostProcessProperties
        [.list ((List.range' 0 n).map (fun i => Go.Val.ref i 20)), .str "c", .str "n"] w =
      some (stageResult (stageLoop (validateNode props vS vV) (List.range' 0 n) w).2,
            (stageLoop (validateNode props vS vV) (List.range' 0 n) w).1) :=
  validate_sem props vS vV n w

/-- what a node decides: only configuration nodes with a `validate` argument, a nil pointer is skipped, a struct goes to
    validator.Struct, any other readable value to validator.Var with the joined constraint text -/
theorem C18_code_validate_node (props : List SProp) (vS : Nat → Option String) (vV : Nat → String → Option String)
    (i : Nat) (w : SW) :
    (validateNode props vS vV i w).2 = (match validateNodeDecision props vS vV i with | .fail e => some e | _ => none) :=
  validateNode_decision props vS vV i w

/-- a node without the argument is never handed to the validator (no event, no error) -/
theorem C18_code_validate_only_when_asked (props : List SProp) (vS : Nat → Option String) (vV : Nat → String → Option String)
    (i : Nat) (w : SW) (h : (spropAt props i).validate = none) : validateNode props vS vV i w = (w, none) := by
  unfold validateNode
  cases (spropAt props i).cfgType <;> simp [h]

/-- a time value (a struct in Go's eyes, but one the validator refuses as a struct) is validated as a VARIABLE — the repair
    of defect D25: before it, a bound, valid `time.Time` with any validate argument failed the start -/
theorem C18_code_validate_time_as_variable (props : List SProp) (vS : Nat → Option String) (vV : Nat → String → Option String)
    (i : Nat) (w : SW) (ts : List String) (hc : (spropAt props i).cfgType = true) (hv : (spropAt props i).validate = some ts)
    (ht : (spropAt props i).isTime = true) (hn : ((spropAt props i).isPtr && (spropAt props i).isNil) = false)
    (hi : (spropAt props i).canIface = true) :
    validateNode props vS vV i w = (w ++ [.vVar i (",".intercalate ts)], vV i (",".intercalate ts)) := by
  unfold validateNode
  simp [hc, hv, ht, hn, hi]

/-- the hand-written validate stage is the same decision (the model has one validator function for structs and variables,
    every bound value can be read) -/
theorem C18_validateStage_is_decision (validate : FVal → List Bytes → Bool) (args : Tag.Args) (ty : FieldTy) (b : Option FVal) :
    validateStage validate args ty b =
      match validateDecision true (Tag.find args kValidate) (isPtrTy ty && decide (b.getD (zero ty) = .nil)) false true
              (none : Option Err) (fun cs => if validate (b.getD (zero ty)) cs then none else some Err.validate) with
      | .fail e => .error e
      | _ => .ok b := by
  unfold validateStage validateDecision
  cases Tag.find args kValidate with
  | none => simp
  | some cs =>
    by_cases hp : isPtrTy ty = true ∧ b.getD (zero ty) = .nil
    · simp [hp.1, hp.2]
    · have : (isPtrTy ty && decide (b.getD (zero ty) = .nil)) = false := by
        cases h1 : isPtrTy ty <;> simp_all
      simp only [hp, if_false, this, Bool.false_eq_true, Bool.not_true]
      cases validate (b.getD (zero ty)) cs <;> simp

end code

/-- the stage order also holds for the configuration points of a USER post-processor: InvokeBeanFactoryPostProcessors
    (regenerated, `C12_code_InvokeBeanFactoryPostProcessors`) SORTS the raw processors BEFORE it creates any of them and
    appends each to the active chain as soon as it is created — so a processor created there is populated by the built-in
    stages that sort before it, in stage order, never by an arbitrary subset in registry order -/
theorem C18_code_processors_sorted_before_creation (sort : (Nat → Nat → Bool) → List Nat → List Nat) (part : Nat → Order.Part)
    (fpFails : Nat → Bool) (drFails : Bool) (lazy : Nat → Bool) (getc : Nat → Option Nat) (isCPP : Nat → Bool)
    (fprocs raw cpp0 : List Nat) :
    Go.run (Sem.regPrims' fpFails drFails (Order.sortOrdered sort part raw) lazy getc isCPP) Progs.del_InvokeBeanFactoryPostProcessors
        [.str "factory", .list (fprocs.map Sem.encP)] { raw := .list (raw.map Sem.encP), cpp := cpp0.map Sem.encP } =
      some (Sem.invokeModel fpFails drFails (Order.sortOrdered sort part raw) lazy getc isCPP fprocs raw cpp0) :=
  Sem.invokeBeanFactoryPostProcessors_sem fpFails drFails _ lazy getc isCPP fprocs raw cpp0

end Ioc.C18
