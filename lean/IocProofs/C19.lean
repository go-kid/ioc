/-
  C19 — Tag argument grammar is total and faithful.  PROPERTY THEOREMS ONLY (lemmas live in IocProofs/Lemmas).

  Model: Ioc.Tag (strings2.Index / Split, TagArg.Parse / Set / formatArgType / Has, NewProperty,
  IsRequired, the prop shorthand).  A Go slice expression out of range is `none` in the model, so
  "never panics" is the statement `parse? s = some _`, not an artefact of Lean's totality.
-/
import IocProofs.Lemmas.TagTotal
import IocProofs.Lemmas.TagRound
import IocProofs.Lemmas.TagConsume
import IocProofs.Lemmas.SemArgs
import IocProofs.Lemmas.OfString
namespace Ioc.C19
open Ioc Ioc.Tag

/-- strings2.Index returns -1 or a valid position, for every input, separator and bracket set. -/
theorem C19_index_bounds {α : Type} [DecidableEq α] (sep : α) (isL isR : α → Bool) (s : List α) :
    index sep isL isR s = -1 ∨ (0 ≤ index sep isL isR s ∧ index sep isL isR s < s.length) :=
  index_bounds sep isL isR s

/-- strings2.Split: every slice expression is in range (the checked and the unchecked function agree). -/
theorem C19_split_total {α : Type} [DecidableEq α] (sep : α) (isL isR : α → Bool) (s : List α) :
    split? sep isL isR s = some (split sep isL isR s) ∧ split sep isL isR s ≠ [] :=
  ⟨split?_eq sep isL isR s, split_ne_nil sep isL isR s⟩

/-- Totality: EVERY byte string parses (NewProperty never panics). -/
theorem C19_total (s : Bytes) : ∃ v a, parse? s = some (v, a) :=
  parse?_total s

/-- Totality of the `prop` shorthand rewrite, and of parsing its result. -/
theorem C19_prop_total (s : Bytes) : ∃ t v a, propShorthand? s = some t ∧ parse? t = some (v, a) := by
  obtain ⟨t, ht⟩ := propShorthand?_total s
  obtain ⟨v, a, hp⟩ := parse?_total t
  exact ⟨t, v, a, ht, hp⟩

/-- On bracket-balanced text whose separators before position |pre| are all inside brackets,
    Index finds exactly the first top-level separator. -/
theorem C19_index_toplevel {α : Type} [DecidableEq α] (sep : α) (isL isR : α → Bool)
    (hsL : isL sep = false) (hsR : isR sep = false) (pre post : List α)
    (hwf : WFpre sep isL isR pre 0 = true) :
    index sep isL isR (pre ++ sep :: post) = pre.length :=
  index_toplevel sep isL isR hsL hsR pre post hwf

/-- A stored argument is found again under its name, whatever was stored before. -/
theorem C19_set_find (m : Args) (k : Bytes) (items : List Bytes) (hk : k ≠ []) :
    find (setArg m k items) k = some items := by
  cases k with
  | nil => exact absurd rfl hk
  | cons b rest => simp [setArg, find, formatArgType?, alookup_ainsert_same]

/-- Names are matched regardless of the case of their first letter. -/
theorem C19_first_letter_case (a : Args) (b : UInt8) (rest : Bytes) (hb : 97 ≤ b ∧ b ≤ 122) :
    find a (b :: rest) = find a ((b - 32) :: rest) ∧
    ∀ m items, setArg m (b :: rest) items = setArg m ((b - 32) :: rest) items := by
  obtain ⟨h1, h2⟩ := upperFirst_lower b hb
  exact ⟨by simp [find, formatArgType?, h1, h2], fun m items => by simp [setArg, h1, h2]⟩

/-- Only an explicit `required=false` makes a point optional. -/
theorem C19_required (a : Args) :
    isRequired a = false ↔ ∃ items, alookup kRequired a = some items ∧ vFalse ∈ items := by
  simp only [isRequired, has, find_kRequired]
  cases h : alookup kRequired a with
  | none => simp
  | some items => simp [List.any_eq_true]

/-- The tag scanner's default (DefaultTagScanDefinitionRegistryPostProcessor, `Required` field = `req`, set or left at
    its zero value) never changes required-ness: the marker it stores carries no items, and it is stored only when the
    tag has no required argument. -/
theorem C19_scan_required (req : Bool) (a : Args) : isRequired (scanDefault req a) = isRequired a := by
  unfold scanDefault
  split
  · next hc => exact isRequired_marker a (by simp at hc; exact hc.2)
  · rfl

/-- Scanning is total, whatever the scanner's `Required` field. -/
theorem C19_scan_total (req : Bool) (s : Bytes) : ∃ v a, scan? req s = some (v, a) := by
  obtain ⟨v, a, hp⟩ := parse?_total s
  exact ⟨v, scanDefault req a, by simp [scan?, hp]⟩

/-- End to end through a scanner: the scanned point is optional exactly when the TAG TEXT has a required argument
    listing the item `false` — for every tag text and every setting of the scanner's `Required` field
    (in particular a user-defined scanner that leaves it unset makes nothing optional by itself). -/
theorem C19_scan_only_explicit_false (req : Bool) (s v : Bytes) (a : Args) (h : parse? s = some (v, a)) :
    ∃ a', scan? req s = some (v, a') ∧
      (isRequired a' = false ↔ ∃ items, alookup kRequired a = some items ∧ vFalse ∈ items) :=
  ⟨scanDefault req a, by simp [scan?, h], by rw [C19_scan_required]; exact C19_required a⟩

/-- Faithfulness: a structured tag `v,name=i1 i2,…` (value and items bracket-balanced with separators only
    inside brackets, names non-empty without `=` `,` or brackets) parses to exactly what was rendered:
    the value, and the arguments stored by TagArg.Set in order (so a repeated name keeps the last). -/
theorem C19_roundtrip (v : Bytes) (as : List (Bytes × List Bytes))
    (hv : WFpre cComma isLB isRB v 0 = true) (has : ∀ a ∈ as, WFArg a) :
    parse? (render v as) = some (v, as.foldl (fun m a => setArg m a.1 a.2) []) :=
  parse?_render v as hv has

/-- strings2.Split is the exact inverse of joining bracket-balanced parts (separators only inside brackets). -/
theorem C19_split_join (sep : UInt8) (isL isR : UInt8 → Bool) (hsL : isL sep = false) (hsR : isR sep = false)
    (parts : List Bytes) (hne : parts ≠ []) (hwf : ∀ p ∈ parts, WFpre sep isL isR p 0 = true) :
    split? sep isL isR (joinB sep parts) = some parts :=
  split?_joinB sep isL isR hsL hsR parts hne hwf

/-! ### histories (fifth round): the parse is a function of the tag text, not of what happened to other properties -/

/-- `Args().Add` / `AddArg`: the items are appended to what the name held (nothing when it was absent). -/
theorem C19_add_find (m : Args) (k : Bytes) (items : List Bytes) (hk : k ≠ []) :
    find (addArg m k items) k = some ((find m k).getD [] ++ items) := by
  cases k with
  | nil => exact absurd rfl hk
  | cons b rest => simp [addArg, find, formatArgType?, alookup_ainsert_same]

/-- Every history is total: creating A, editing it with any list of edits, creating B — nothing panics. -/
theorem C19_history_total (scanned req : Bool) (t t2 : Bytes) (ops : List ArgOp) :
    ∃ a b, hist? scanned req t ops t2 = some (a, b) := by
  obtain ⟨va, aa, ha⟩ := create?_total scanned req t
  obtain ⟨vb, ab, hb⟩ := create?_total scanned req t2
  exact ⟨(va, applyOps aa ops), (vb, ab), by simp [hist?, ha, hb]⟩

/-- History independence: the property B created from `t2` is what `t2` alone creates — whatever property A was created
    from (the same text or another one) and however A's arguments were edited (`Args().Set/Add`, `SetArg/AddArg`). -/
theorem C19_history_fresh (scanned req : Bool) (t t2 : Bytes) (ops : List ArgOp)
    (a b : Bytes × Args) (h : hist? scanned req t ops t2 = some (a, b)) :
    create? scanned req t2 = some b ∧
    ∀ t' ops', ∃ a', hist? scanned req t' ops' t2 = some (a', b) := by
  refine ⟨hist?_snd h, fun t' ops' => ?_⟩
  obtain ⟨a', b', h'⟩ := C19_history_total scanned req t' t2 ops'
  exact ⟨a', by rw [h', Option.some.inj ((hist?_snd h').symm.trans (hist?_snd h))]⟩

/-- …and in particular B is optional exactly when ITS text has a required argument listing `false`, after any history. -/
theorem C19_history_only_explicit_false (scanned req : Bool) (t t2 v : Bytes) (ops : List ArgOp) (a : Args)
    (hp : parse? t2 = some (v, a)) :
    ∃ A a', hist? scanned req t ops t2 = some (A, (v, a')) ∧
      (isRequired a' = false ↔ ∃ items, alookup kRequired a = some items ∧ vFalse ∈ items) := by
  obtain ⟨A, b, h⟩ := C19_history_total scanned req t t2 ops
  obtain rfl := Option.some.inj ((hist?_snd h).symm.trans (create?_parse hp))
  refine ⟨A, _, h, ?_⟩
  cases scanned <;> simp only [Bool.false_eq_true, if_false, if_true, C19_scan_required] <;> exact C19_required a

/-! ### consumers of arguments (seventh round): lookups hand out the items as stored; Property.Unmarshall -/

/-- An argument always has at least one item: whatever the tag text, the parser never stores an empty item list
    (a bare `name` and `name=` hold the one item ""), so a consumer's `args[0]` is in range. -/
theorem C19_parsed_items_nonempty (s v : Bytes) (a : Args) (h : parse? s = some (v, a)) (k : Bytes) (items : List Bytes)
    (hf : find a k = some items) : items ≠ [] :=
  find_items_ne a k items (parse?_nonempty s v a h) hf

/-- Find hands out the stored items unchanged — empty items included: an argument written `name=a  b` (two blanks)
    is found with its three items. -/
theorem C19_find_keeps_empty_items (m : Args) (k : Bytes) (hk : k ≠ []) (x y : Bytes) :
    find (setArg m k [x, [], y]) k = some [x, [], y] :=
  C19_set_find m k [x, [], y] hk

/-- Totality reaches the consumer: for EVERY tag text, scanned by a scanner with any `Required` setting, the two
    `args[0]` of Property.Unmarshall (`timeLayout`, `mapper`) are in range. -/
theorem C19_unmarshall_total (req : Bool) (s v : Bytes) (a : Args) (h : scan? req s = some (v, a)) :
    ∃ o, decodeOpts? a = some o := by
  obtain ⟨a0, hp, rfl⟩ := scan?_some h
  have hn := parse?_nonempty s v a0 hp
  apply decodeOpts?_total
  · intro items hf; rw [find_scan_timeLayout] at hf; exact find_items_ne a0 _ items hn hf
  · intro items hf; rw [find_scan_mapper] at hf; exact find_items_ne a0 _ items hn hf

/-- The item reaches its consumer as written: for every tag text whose `timeLayout` argument has the first item `item`,
    a text is bound exactly as time.Parse reads it with the layout `item` — no byte of the item added, dropped or joined. -/
theorem C19_layout_as_written (req : Bool) (s v : Bytes) (a : Args) (h : scan? req s = some (v, a))
    (item : Bytes) (more : List Bytes) (hl : find a kTimeLayout = some (item :: more)) (value : Bytes) :
    bindTime? a value = some (.time (timeParse item value)) := by
  obtain ⟨a0, hp, rfl⟩ := scan?_some h
  apply bindTime?_item _ item more value hl
  intro items hf; rw [find_scan_mapper] at hf
  exact find_items_ne a0 _ items (parse?_nonempty s v a0 hp) hf

/-- … and for a well-formed structured tag that item is the text between `timeLayout=` and the next top-level blank or
    comma: a bracketed group (blanks and commas inside) is the layout, brackets included. -/
theorem C19_layout_roundtrip (req : Bool) (v : Bytes) (pre : List (Bytes × List Bytes)) (item : Bytes) (more : List Bytes)
    (hv : WFpre cComma isLB isRB v 0 = true) (hpre : ∀ x ∈ pre, WFArg x) (hit : WFArg (kTimeLayout, item :: more))
    (value : Bytes) :
    (scan? req (render v (pre ++ [(kTimeLayout, item :: more)]))).bind (fun va => bindTime? va.2 value)
      = some (.time (timeParse item value)) := by
  have hp := C19_roundtrip v _ hv (List.forall_mem_append.2 ⟨hpre, fun x hx => List.mem_singleton.1 hx ▸ hit⟩)
  have hs : scan? req (render v (pre ++ [(kTimeLayout, item :: more)]))
      = some (v, scanDefault req ((pre ++ [(kTimeLayout, item :: more)]).foldl (fun m x => setArg m x.1 x.2) [])) := by
    simp [scan?, hp]
  rw [hs]
  simp only [Option.bind_some]
  apply C19_layout_as_written req _ v _ hs item more _ value
  rw [find_scan_timeLayout, List.foldl_append]
  simp only [List.foldl_cons, List.foldl_nil]
  exact C19_set_find _ kTimeLayout (item :: more) (by decide +kernel)

/-- An edit through `SetArg(name)` without items is the one way to an empty item list: the model pins the panic of
    `args[0]` there (the parser never produces this state: C19_unmarshall_total). -/
theorem C19_unmarshall_empty_list_panics : decodeOpts? (setArg [] kMapper []) = none := by decide +kernel

/-! non-vacuity: concrete, non-trivial inputs meet the hypotheses -/

-- `ofString_ofList` first: the literals become character lists by rewriting, the kernel evaluates the rest
example : parse? (ofString "a,required=false") = some (ofString "a", [(ofString "Required", [ofString "false"])]) := by
  repeat rw [ofString_ofList]
  decide +kernel
example : isRequired [(ofString "Required", [ofString "false"])] = false := by decide +kernel
example : WFpre cComma isLB isRB (ofString "f(a,b)") 0 = true := by
  repeat rw [ofString_ofList]
  decide +kernel
-- roundtrip hypotheses are met by a bracketed item containing a space, a comma and `=`; and by an empty item
example : WFArg (ofString "qualifier", [ofString "a", ofString "(b c,d=e)"]) := ⟨by decide +kernel, by decide +kernel, by decide +kernel, by decide +kernel⟩
example : WFArg (ofString "x", [[]]) := ⟨by decide +kernel, by decide +kernel, by decide +kernel, by decide +kernel⟩
example : parse? (render (ofString "v") [(ofString "q", [ofString "a", ofString "(b c)"]), (ofString "q", [ofString "z"])])
    = some (ofString "v", [(ofString "Q", [ofString "z"])]) := by decide +kernel
example : render (ofString "v") [(ofString "q", [ofString "a", ofString "(b c)"])] = ofString "v,q=a (b c)" := by
  repeat rw [ofString_ofList]
  decide +kernel
-- a scanner with Required left unset stores nothing; one with Required=true stores the bare marker; neither makes `main` optional
example : scan? false (ofString "main,qualifier=[x y]") = some (ofString "main", [(ofString "Qualifier", [ofString "[x y]"])]) := by
  repeat rw [ofString_ofList]
  decide +kernel
example : scan? true (ofString "main") = some (ofString "main", [(ofString "Required", [])]) := by decide +kernel
example : (scan? false (ofString "main")).map (fun va => isRequired va.2) = some true := by decide +kernel
example : (scan? true (ofString "main,required=false")).map (fun va => isRequired va.2) = some false := by
  repeat rw [ofString_ofList]
  decide +kernel
-- the unbalanced corner: still total, still in range
example : parse? (ofString "),(x") = some (ofString "),", [(ofString "X", [[]])]) := by decide +kernel
-- a history: A from `ledger,required=true` relaxed through Args().Set; B from the same text is still required
example : (hist? true true (ofString "l,required=true") [⟨false, ofString "required", [ofString "false"]⟩] (ofString "l,required=true")).map
      (fun r => (r.1.2, r.2.2))
    = some ([(ofString "Required", [ofString "false"])], [(ofString "Required", [ofString "true"])]) := by
  repeat rw [ofString_ofList]
  decide +kernel
example : (hist? true true (ofString "l,required=true") [⟨false, ofString "required", [ofString "false"]⟩] (ofString "l,required=true")).map
      (fun r => (isRequired r.1.2, isRequired r.2.2)) = some (false, true) := by
  repeat rw [ofString_ofList]
  decide +kernel
example : addArg [(ofString "Q", [ofString "a"])] (ofString "q") [ofString "b"] = [(ofString "Q", [ofString "a", ofString "b"])] := by decide +kernel
-- consumers: a bare `mapper` holds the one item "" (TagName "" = mapstructure's default); a bracketed layout is the layout
example : (scan? true (ofString "app,mapper")).map (fun va => bindTagName? va.2) = some (some (.tagName [])) := by
  repeat rw [ofString_ofList]
  decide +kernel
example : (scan? true (ofString "app,Mapper=,required=true")).map (fun va => bindTagName? va.2) = some (some (.tagName [])) := by
  repeat rw [ofString_ofList]
  decide +kernel
example : (scan? true (ofString "k,timeLayout=[2006-01-02]")).bind (fun va => bindTime? va.2 (ofString "[2024-05-06]"))
    = some (.time (.ok 2024 5 6 0 0 0 0)) := by
  repeat rw [ofString_ofList]
  decide +kernel
example : (scan? true (ofString "k,TimeLayout=(2006-01-02 15:04)")).bind (fun va => bindTime? va.2 (ofString "(2024-05-06 17:30)"))
    = some (.time (.ok 2024 5 6 17 30 0 0)) := by
  repeat rw [ofString_ofList]
  decide +kernel
example : (scan? true (ofString "k,timeLayout=2006-01-02")).bind (fun va => bindTime? va.2 (ofString "[2024-05-06]"))
    = some (.time .err) := by
  repeat rw [ofString_ofList]
  decide +kernel
-- an unbracketed blank splits the layout into two items; the first one is the layout
example : (scan? true (ofString "k,timeLayout=2006-01-02 15:04")).bind (fun va => bindTime? va.2 (ofString "2024-05-06"))
    = some (.time (.ok 2024 5 6 0 0 0 0)) := by
  repeat rw [ofString_ofList]
  decide +kernel
example : (scan? true (ofString "k,timeLayout=")).bind (fun va => bindTime? va.2 (ofString "2024-05-06")) = some (.time .err) := by
  repeat rw [ofString_ofList]
  decide +kernel
example : WFArg (kTimeLayout, [ofString "(2006-01-02 15:04)"]) := ⟨by decide +kernel, by decide +kernel, by decide +kernel, by decide +kernel⟩
example : timeParse (ofString "02.01.2006") (ofString "31.02.2024") = .err := by
  repeat rw [ofString_ofList]
  decide +kernel
example : timeParse (ofString "Jan 2") (ofString "Feb 3") = .unmodelled := by decide +kernel
example : find (setArg [] (ofString "x") [ofString "a", [], ofString "b"]) (ofString "X") = some [ofString "a", [], ofString "b"] := by decide +kernel

/-! ### the REGENERATED tag-argument functions (component_definition/arg.go)

    `Parse`, `Set`, `Add`, `formatArgType`, `Find`, `Has`, `isIntersect` as they are in /repo now, under the interpretation
    Ioc.SemArgs (the receiver — a Go map — is an association list, the string operations `strings2.Split`, `strings.Index`,
    slicing and `strings.ToUpper` are parameters).  `Ioc.Tag` (`parse?`, `find`, `has`, `formatArgType?`) is the byte-level
    instance of exactly these functions: the value part is what precedes the first top-level comma, every further part is ONE
    argument (bare name ⇒ the single empty value; `name=a b` ⇒ the blank-separated values), names are stored with their first
    letter in upper case, a later `Set` replaces, `Find` hands the stored values out AS STORED, `Has` = stored ∧ (nothing wanted ∨
    intersection). -/
section code
open Ioc.Go Ioc.Sem

theorem C19_code_Parse (o : StrOps) (tag : String) (w : SetLog) :
    run (parsePrims o) Progs.arg_Parse [.str tag] w =
      some (.str (o.splitC tag).1, w ++ (o.splitC tag).2.map (parseArg o)) :=
  argParse_sem o tag w

theorem C19_code_Set_Add (o : StrOps) (k : String) (vs : List String) (w : AM) :
    run (argPrims o) Progs.arg_Set [.str k, strsVal vs] w =
      some (.tuple [], if k = "" then w else amSet (o.fmtKey k) vs w) ∧
    run (argPrims o) Progs.arg_Add [.str k, strsVal vs] w =
      some (.tuple [], if k = "" then w else amSet (o.fmtKey k) ((amGet (o.fmtKey k) w).getD [] ++ vs) w) :=
  ⟨argSet_sem o k vs w, argAdd_sem o k vs w⟩

theorem C19_code_formatArgType (o : StrOps) (k : String) (w : AM) :
    run (argPrims o) Progs.arg_formatArgType [.str k] w = some (.str (o.upper (o.takeS k 1) ++ o.dropS k 1), w) :=
  argFmt_sem o k w

theorem C19_code_Find_Has (o : StrOps) (k : String) (wants : List String) (w : AM) :
    run (argPrims o) Progs.arg_Find [.str k] w =
      some (match amGet (o.fmtKey k) w with
            | some l => .tuple [strsVal l, .bool true]
            | none => .tuple [.nil, .bool false], w) ∧
    run (argPrims o) Progs.arg_Has [.str k, strsVal wants] w =
      some (.bool (match amGet (o.fmtKey k) w with
                   | none => false
                   | some l => wants.isEmpty || l.any (fun x => wants.contains x)), w) :=
  ⟨argFind_sem o k w, argHas_sem o k wants w⟩

theorem C19_code_isIntersect (a b : List String) :
    run noPrims Progs.arg_isIntersect [strsVal a, strsVal b] () = some (.bool (a.any (fun x => b.contains x)), ()) :=
  argIsIntersect_sem a b

/-- what was set under a name is what Find finds under it, whatever else was set under other names -/
theorem C19_code_set_then_get (k k' : String) (v : List String) (m : AM) :
    amGet k (amSet k v m) = some v ∧ (k' ≠ k → amGet k' (amSet k v m) = amGet k' m) :=
  ⟨by rw [amGet_amSet, if_pos rfl], fun h => by rw [amGet_amSet, if_neg (Ne.symm h)]⟩

end code

end Ioc.C19
