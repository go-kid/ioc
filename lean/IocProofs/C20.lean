/-
  C20 — "Start-up, shutdown and the concurrent containers are free of races"

  (a) Race freedom of the container's own concurrent phases, operationally: the fork/join system of Ioc.Conc with
      the configuration COMPUTED from the regenerated skeletons of applyDefinitionRegistryPostProcessors
      (post_processor_registration_delegate.go:66-95) and App.Close (app/app.go:156-174). A non-atomic access to the
      shared `errs` slice is two steps (accBegin, accEnd); a race is a reachable state in which two threads are
      inside a conflicting access, or main reads `errs` while a worker can still write it.
  (b) sync2.Map / ConcurrentSets (util/sync2/map.go, util/list/concurrent_set.go; generic_concurrent_set.go is the same
      code over a type parameter): every method is the primitive sequence read from the regenerated facts; a
      history is an interleaving of primitive steps of any number of threads.

  PARTIAL BY NATURE — what this model cannot exhibit and the -race harness (sub `conc`) is there for:
    * the Go memory model: the model is sequentially consistent; that "no two conflicting accesses in progress at
      the same time in any SC interleaving" equals "no two conflicting accesses unordered by happens-before" is the
      standard assumption, not proved here;
    * the internals of sync.Map, sync.Mutex, sync.WaitGroup: each primitive is ASSUMED atomic and correct;
    * what the scanners/closers themselves touch (registry keys, Metas): the call is one opaque step (C20_scan_own_data
      of the design is not stated: the model has no memory locations besides `errs`);
    * scheduler fairness, panics inside goroutines, Range callbacks that stop early.
  KNOWN FINDING KF-C20-1 (`range-not-atomic`): C20_range_not_atomic — Range is regular, not atomic.
-/
import IocProofs.Lemmas.ConcPaths
import IocProofs.Lemmas.ConcMap
import IocProofs.Lemmas.ConcLen
import IocProofs.Lemmas.ConcReg
import IocProofs.Lemmas.ConcPref
import IocProofs.Lemmas.SemSync2
import IocProofs.Lemmas.ConcNinth
import IocProofs.Lemmas.SemFacAccess
import IocProofs.Lemmas.SemTypeId

namespace Ioc.C20
open Ioc.Conc

/-- configurations read from the regenerated skeletons -/
def scanCfg : FanCfg := (scanShape Facts.scanSkel).cfg
def closeCfg : FanCfg := (closeShape Facts.closeSkel).cfg

/-- proof obligations on the regenerated terms: the scan round is Add(len) / goroutine per component with deferred Done /
    `errs = append(…)` between Lock and Unlock / Wait before `errs` is read; Close is the C14 skeleton and its goroutine
    writes no captured variable; every sync2.Map / ConcurrentSets method is the expected primitive sequence. -/
theorem C20_skeletons :
    scanShape Facts.scanSkel = expectedScanShape ∧ closeShape Facts.closeSkel = expectedCloseShape ∧
    (∀ op, factProgs op = expectedProgs op) := by
  refine ⟨by decide +kernel, by decide +kernel, ?_⟩
  intro op
  cases op <;> (simp only [factProgs, expectedProgs]; decide)

/-- GenericConcurrentSets (generic_concurrent_set.go) is ConcurrentSets over a type parameter: the same primitive per
    method, so the theorems about put/exists_/remove are about both -/
theorem C20_generic_set_same :
    ∀ name, name ∈ ["Put", "Exists", "Remove"] →
      methodProg Facts.genericConcurrentSetMethods name = methodProg Facts.concurrentSetMethods name := by decide +kernel

theorem scanCfg_joined : scanCfg.Joined := by
  unfold scanCfg; rw [C20_skeletons.1]; exact ⟨rfl, rfl, rfl, rfl⟩

theorem scanCfg_guarded : scanCfg.guarded = true := by
  unfold scanCfg; rw [C20_skeletons.1]; rfl

theorem closeCfg_joined : closeCfg.Joined := by
  unfold closeCfg; rw [C20_skeletons.2.1]; exact ⟨rfl, rfl, rfl, rfl⟩

theorem factProgs_eq : factProgs = expectedProgs := funext C20_skeletons.2.2

/-- The scanning round is data-race free — for every number of components, every subset of failing scanners (also all
    at the same time), every schedule: (1) never two workers inside the access to `errs`; (2) when main reads `errs`,
    every worker has finished (so no access is in progress or still to come), every scanner ran exactly once, and the
    WaitGroup counter is 0 again — the initial condition of the next processor's round. -/
theorem C20_scan_drf (n : Nat) (fails : Nat → Bool) (s : St) (h : Reach scanCfg n fails s) :
    (∀ i j, inErrs s i → inErrs s j → i = j) ∧
    (mainReadsErrs s → (∀ i, i < n → s.wpc i = .finished ∧ s.calls i = 1) ∧ (∀ i, inCrit (s.wpc i) = false) ∧ s.wg = 0) := by
  refine ⟨fun i j hi hj => Option.some.inj ((minv_reach scanCfg_guarded h i (by rw [hi]; rfl)).symm.trans
    (minv_reach scanCfg_guarded h j (by rw [hj]; rfl))), fun hret => ?_⟩
  obtain ⟨hall, hwg⟩ := joined_all_once scanCfg_joined n fails s h hret
  refine ⟨fun i hi => ⟨(hall i hi).2, (hall i hi).1⟩, fun i => ?_, hwg⟩
  by_cases hi : i < n
  · rw [(hall i hi).2]; rfl
  · rw [(finv_reach h).unsp i (Nat.le_trans (finv_reach h).sp_le (by omega))]; rfl

/-- What the mutex buys (the code before repair 13b5e08): the same skeleton with the append outside Lock/Unlock.
    With two failing scanners there is a schedule in which both are inside the access at the same time. -/
def unguardedScanCfg : FanCfg := ({ expectedScanShape with errsGuarded := false } : ScanShape).cfg

theorem C20_scan_race_unguarded (n : Nat) (hn : 2 ≤ n) (fails : Nat → Bool) (h0 : fails 0 = true) (h1 : fails 1 = true) :
    ∃ s, Reach unguardedScanCfg n fails s ∧ inErrs s 0 ∧ inErrs s 1 :=
  two_inAcc_unguarded unguardedScanCfg rfl rfl rfl n hn fails h0 h1

/-- Close is data-race free: its goroutines write no variable captured from Close (regenerated shape), so no worker is
    ever inside an access to shared data — for every n, error subset, schedule — and main's continuation (return)
    happens only after every goroutine has finished. -/
theorem C20_close_drf (n : Nat) (errs : Nat → Bool) (s : St) (h : Reach closeCfg n errs s) :
    (∀ i, inCrit (s.wpc i) = false) ∧ (mainReturned s → ∀ i, i < n → s.wpc i = .finished) := by
  have hc : closeCfg.crit = false := by unfold closeCfg; rw [C20_skeletons.2.1]; rfl
  exact ⟨nocrit_reach hc h, fun hret i hi => ((joined_all_once closeCfg_joined n errs s h hret).1 i hi).2⟩

/-! ### the concurrent map and set -/

/-- Methods that are one sync.Map primitive are linearizable at that primitive. For every number of threads, every
    queue of Load/Store/LoadOrStore/Delete/Put/Exists/Remove calls per thread, every initial map and every schedule of
    primitive steps: the completed calls, taken in the order of their primitive steps (`hist`, newest first — a step
    lies between the call's invocation and its return, so this order respects real-time order), form a legal
    sequential history: every recorded result is the sequential specification's, and the history ends in the
    current map. -/
theorem C20_single_primitive_linearizable (m0 : MapSt) (queue : Nat → List Op)
    (hq : ∀ t op, op ∈ queue t → op.single = true) (sched : List Nat) :
    Explains m0 (run factProgs (Sys.start m0 queue) sched).hist (run factProgs (Sys.start m0 queue) sched).map := by
  rw [factProgs_eq]
  exact run_explained expectedProgs m0 queue (fun t op h => good_single op (hq t op h)) sched

/-- The repaired LoadOrStoreFn — the regenerated sequence [Load, f, LoadOrStore] — is linearizable too (at the Load
    when it hits, else at the LoadOrStore), also mixed with all the single-primitive methods. -/
theorem C20_loadOrStoreFn_linearizable (m0 : MapSt) (queue : Nat → List Op)
    (hq : ∀ t op, op ∈ queue t → op.single = true ∨ ∃ k v, op = .loadOrStoreFn k v) (sched : List Nat) :
    Explains m0 (run factProgs (Sys.start m0 queue) sched).hist (run factProgs (Sys.start m0 queue) sched).map := by
  rw [factProgs_eq]
  refine run_explained expectedProgs m0 queue (fun t op h => ?_) sched
  rcases hq t op h with hs | ⟨k, v, rfl⟩
  · exact good_single op hs
  · exact good_lofn k v

/-- … so a load-or-store never lets two callers both win: any number of callers, any number of LoadOrStoreFn calls each
    on one key, any value functions, any initial map, any schedule — at most one call returns loaded = false. -/
theorem C20_loadOrStoreFn_one_winner (k : Nat) (m0 : MapSt) (queue : Nat → List Op)
    (hq : ∀ t op, op ∈ queue t → ∃ v, op = .loadOrStoreFn k v) (sched : List Nat) :
    ((run factProgs (Sys.start m0 queue) sched).hist.filter isWin).length ≤ 1 := by
  obtain ⟨hex, hops⟩ := lofn_run factProgs_eq k m0 queue hq sched
  exact (seq_one_winner k m0 _ _ hex hops).1

/-- The code before repair b226ae7 — [Load, f, Store]: two callers on one key, both pass the Load before either
    stores, both return loaded = false (and the second Store overwrites the first caller's value). -/
theorem C20_loadOrStoreFn_counterexample :
    (run oldProgs (Sys.start emptyMap (fun t => if t < 2 then [.loadOrStoreFn 1 (10 + t)] else [])) [0, 1, 0, 1, 0, 0, 1, 1]).hist
      = [(1, .loadOrStoreFn 1 11, .got (some 11) false), (0, .loadOrStoreFn 1 10, .got (some 10) false)] := by
  decide +kernel

/-- the same schedule on the regenerated sequence: one winner, the other caller gets the winner's value -/
example :
    (run factProgs (Sys.start emptyMap (fun t => if t < 2 then [.loadOrStoreFn 1 (10 + t)] else [])) [0, 1, 0, 1, 0, 0, 1, 1]).hist
      = [(1, .loadOrStoreFn 1 11, .got (some 10) true), (0, .loadOrStoreFn 1 10, .got (some 10) false)] := by
  decide +kernel

/-- Range is regular: in every run (any threads, any calls, any schedule, any programs) every pair a completed Range
    reports was the key's value in the map at some point of the run. With `s0` = the state at the Range's invocation
    and `sched` = the steps up to its return, "some point of the run" is "some point inside the Range's interval". -/
theorem C20_range_regular (s0 : Sys) (h0 : s0.hist = []) (hp : ∀ t c, s0.cur t = some c → c.res = none ∧ c.seen = [])
    (sched : List Nat) (t : Nat) (ks : List Nat) (l : List (Nat × Nat))
    (hmem : (t, Op.range ks, Res.seen l) ∈ (run factProgs s0 sched).hist) (k v : Nat) (hkv : (k, v) ∈ l) :
    ∃ m, m ∈ mapsAlong factProgs s0 sched ∧ m k = some v :=
  range_regular factProgs s0 h0 hp sched t ks l hmem k v hkv

/-- KNOWN FINDING KF-C20-1 (`range-not-atomic`). Map {1↦1, 2↦1}; thread 0: Range; thread 1: Delete 1 then Delete 2.
    Schedule: Range visits key 1, then both Deletes run, then Range visits key 2. The Range reports {1}.
    The Deletes are ordered (same thread), so a sequential history is one of the three below — and none of them is
    legal: an atomic Range sees {1,2}, {2} or {} . Hence this (regular) Range is not linearizable; the decidable
    checker used on the harness's recorded histories says the same. Documented sync.Map behaviour. -/
def m12 : MapSt := upd (upd emptyMap 1 (some 1)) 2 (some 1)
def rangeHist : List (Nat × Op × Res) :=
  (run factProgs (Sys.start m12 (fun t => if t = 0 then [.range [1, 2]] else if t = 1 then [.delete 1, .delete 2] else []))
    [0, 0, 1, 1, 1, 1, 0]).hist

theorem C20_range_not_atomic :
    rangeHist = [(0, .range [1, 2], .seen [(1, 1)]), (1, .delete 2, .unit), (1, .delete 1, .unit)] ∧
    (∀ h, h ∈ [ [(1, Op.delete 2, Res.unit), (1, .delete 1, .unit), (0, .range [1, 2], .seen [(1, 1)])],
                [(1, Op.delete 2, Res.unit), (0, .range [1, 2], .seen [(1, 1)]), (1, .delete 1, .unit)],
                [(0, Op.range [1, 2], Res.seen [(1, 1)]), (1, .delete 2, .unit), (1, .delete 1, .unit)] ] →
          ¬ ∃ m, Explains m12 h m) ∧
    linearizableB m12 [⟨.range [1, 2], .seen [(1, 1)], 0, 6⟩, ⟨.delete 1, .unit, 2, 3⟩, ⟨.delete 2, .unit, 4, 5⟩] = false := by
  refine ⟨by decide +kernel, ?_, by decide +kernel⟩
  intro h hmem
  have hnone : replay m12 h = none := by
    simp only [List.mem_cons, List.not_mem_nil, or_false] at hmem
    rcases hmem with rfl | rfl | rfl <;> decide +kernel
  rintro ⟨m, he⟩
  rw [replay_of_explains m12 h m he] at hnone
  cases hnone

/-! ### `Length()` of ConcurrentSets / GenericConcurrentSets (util/list/concurrent_set.go:69-71, generic_concurrent_set.go:69-71)

Recorded set histories contain `Length` calls (harness token `N`), and every set history ends with a QUIESCENT `Length`
(after all goroutines have returned); the `setlen` scenarios release several goroutines that Remove the same present key
(and Put / Remove other keys) and read Length(), len(ToArray()) and Exists afterwards.  The specification: Length is the
number of keys present.  (A seeded change kept an atomic size counter and decremented it in Remove after a separate
Load: two concurrent Removes of one present key both decrement, and every later Length is one too small — no sequential
order of the calls explains that, `C20_length_drift_not_linearizable`.) -/

/-- sequential specification of `Length`: the number of keys (of the universe) present; the set is left as it is -/
theorem C20_length_counts_present (ks : List Nat) (m : MapSt) :
    (HOp.length ks).spec m = (m, .got (some (presentKeys m ks).length) false) := by
  simp only [HOp.spec, snapshot_length]

/-- the checker for histories with `Length` calls decides, on a history without them, exactly what `linearizableB` decides -/
theorem C20_hist_conservative (m0 : MapSt) (h : List Rec) :
    linearizableHB m0 (h.map Rec.lift) = linearizableB m0 h :=
  linearizableHB_lift m0 h

/-- Put / Remove calls in which no key is both put and removed: the set they leave is determined by WHICH keys are
    removed and put — removed keys are absent, put keys present, every other key as before. -/
theorem C20_setlen_final (l : List Op) (m0 : MapSt)
    (hset : ∀ op, op ∈ l → op.setOnly = true) (hdisj : ∀ k, k ∈ removedKeys l → k ∉ putKeys l) (k : Nat) :
    (l.foldl (fun m op => (op.spec m).1) m0) k =
      if k ∈ removedKeys l then none else if k ∈ putKeys l then some 0 else m0 k :=
  setFold_final l m0 hset hdisj k

/-- … hence every order of the same calls — the linearization order of ANY schedule of the goroutines of a `setlen`
    scenario, or the thread-by-thread order `seqFinal` uses — leaves the same set, and so the same quiescent Length. -/
theorem C20_setlen_order_irrelevant (queues : List (List Op)) (l : List Op) (m0 : MapSt) (hp : queues.flatten.Perm l)
    (hset : ∀ op, op ∈ queues.flatten → op.setOnly = true)
    (hdisj : ∀ k, k ∈ removedKeys queues.flatten → k ∉ putKeys queues.flatten) :
    l.foldl (fun m op => (op.spec m).1) m0 = seqFinal m0 queues :=
  (setFold_perm queues.flatten l m0 hp hset hdisj).symm

def m123 : MapSt := upd (upd (upd emptyMap 1 (some 0)) 2 (some 0)) 3 (some 0)

/-- the drift: set {1,2,3}, two overlapping Remove(1), then a quiescent Length() = 1 — no sequential order explains it;
    Length() = 2 is what every order gives. -/
theorem C20_length_drift_not_linearizable :
    linearizableHB m123 [⟨.op (.remove 1), .unit, 0, 3⟩, ⟨.op (.remove 1), .unit, 1, 2⟩, ⟨.length [1, 2, 3], .got (some 1) false, 4, 5⟩] = false ∧
    linearizableHB m123 [⟨.op (.remove 1), .unit, 0, 3⟩, ⟨.op (.remove 1), .unit, 1, 2⟩, ⟨.length [1, 2, 3], .got (some 2) false, 4, 5⟩] = true := by
  decide +kernel

-- non-vacuity of C20_setlen_order_irrelevant: eight goroutines removing key 1, one putting key 4
example : (∀ op, op ∈ ((List.replicate 8 [Op.remove 1] ++ [[Op.put 4, Op.remove 2]]).flatten) → op.setOnly = true) ∧
    (∀ k, k ∈ removedKeys ((List.replicate 8 [Op.remove 1] ++ [[Op.put 4, Op.remove 2]]).flatten) →
          k ∉ putKeys ((List.replicate 8 [Op.remove 1] ++ [[Op.put 4, Op.remove 2]]).flatten)) ∧
    quiescentObs m123 (List.replicate 8 [Op.remove 1] ++ [[Op.put 4, Op.remove 2]]) [1, 2, 3, 4, 5, 6, 7, 8] = (2, 2, [3, 4]) := by
  decide +kernel

/-! ### non-vacuity -/

-- a run of the executable scheduler of the scan round with 4 components, scanners 1 and 3 failing:
-- reachable, main reads errs, both errors were appended
example : Reach scanCfg 4 (fun i => i % 2 == 1) (schedule scanCfg 4 (fun i => i % 2 == 1) 400 5 init) :=
  schedule_sound scanCfg 4 _ 400 5 init
example : (schedule scanCfg 4 (fun i => i % 2 == 1) 400 5 init).mainPc = 3 ∧
    (schedule scanCfg 4 (fun i => i % 2 == 1) 400 5 init).acc = 2 := by decide +kernel

-- a history that satisfies the hypotheses of C20_single_primitive_linearizable and is not trivial
example : (run factProgs (Sys.start emptyMap (fun t => if t = 0 then [.store 1 5, .load 2] else if t = 1 then [.loadOrStore 1 7, .delete 1] else []))
    [0, 1, 1, 0, 1, 1, 0, 0]).hist.length = 4 := by decide +kernel

-- the checker accepts a linearizable overlapping history
example : linearizableB emptyMap [⟨.store 1 5, .unit, 0, 3⟩, ⟨.load 1, .got (some 5) true, 1, 2⟩] = true := by decide +kernel

/-! ### the tie to the code: sync2.Map.Load / LoadOrStoreFn (regenerated), one caller at a time

`Ioc.Progs.sync2_Load` / `Ioc.Progs.sync2_LoadOrStoreFn` are the syntax trees of the two methods of util/sync2/map.go,
re-translated from /repo's source on every run (MiniGo, Ioc.GoSem; named results and the bare `return` included).  With the
underlying sync.Map read as an association list whose `Load` / `LoadOrStore` are atomic primitives: `Load` is the lookup;
`LoadOrStoreFn` returns the stored value WITHOUT running the constructor when the key is present, and otherwise runs it
exactly once and finishes with the atomic `LoadOrStore` (the repair of D14 — the seeded changes C20B and C20C rewrote this
function).  What concurrent callers can observe on top of this is the interleaving model above
(`C20_loadOrStoreFn_linearizable`, built from the regenerated primitive sequence). -/

theorem C20_code_Load (fv k : Nat) (w : Sem.MapW) :
    Go.run (Sem.mapBase fv) Progs.sync2_Load [.int k] w =
      some (match alookup k w.m with
            | some v => .tuple [.int v, .bool true]
            | none => .tuple [.nil, .bool false], w) :=
  Sem.sync2_load_sem fv k w

theorem C20_code_LoadOrStoreFn (fv k : Nat) (w : Sem.MapW) :
    Go.run (Sem.mapPrims fv) Progs.sync2_LoadOrStoreFn [.int k, .ref 0 30] w =
      some (match alookup k w.m with
            | some v => (.tuple [.int v, .bool true], w)
            | none => (.tuple [.int fv, .bool false], { m := ainsert k fv w.m, fCalls := w.fCalls + 1 })) :=
  Sem.sync2_loadOrStoreFn_sem fv k w

/-! ### fifth round: the closing phase is over when Close returns; load-or-store of a definition

`closel`: a failing closer's goroutine reports its error to the (user's) logger between the return of `m.Close()` and the
deferred `wg.Done()` (app/app.go:163-166) — in the fork/join system the step `called → post`; `reported` counts the failing
workers that are past it. -/

/-- For every number of closers, every failing subset and every schedule: in every state in which Close has returned, the
    error report of EVERY failing closer is complete — no goroutine of the closing phase has anything left to say to the
    logger once the caller continues. -/
theorem C20_close_reports_before_return (n : Nat) (errs : Nat → Bool) (s : St) (h : Reach closeCfg n errs s)
    (hret : mainReturned s) : reported n errs s = failing n errs :=
  reported_all_finished n errs s ((C20_close_drf n errs s h).2 hret)

/-- What the position of Done buys: with `wg.Done()` NOT deferred to the end of the goroutine (Done before the work is
    finished) there is a schedule in which Close has returned and neither of two failing closers has reported yet. -/
def earlyDoneCfg : FanCfg := ({ expectedCloseShape with doneDeferredInWorker := false } : CloseShape).cfg

theorem C20_close_report_after_return_counterexample :
    ∃ s, Reach earlyDoneCfg 2 (fun _ => true) s ∧ mainReturned s ∧
      reported 2 (fun _ => true) s = 0 ∧ failing 2 (fun _ => true) = 2 := by
  have hc : (runActs earlyDoneCfg 2 (fun _ => true) [.main, .main, .main, .w 0, .w 1, .main, .main] init).map
      (fun s => (s.mainPc, reported 2 (fun _ => true) s)) = some (3, 0) := by decide +kernel
  cases hf : runActs earlyDoneCfg 2 (fun _ => true) [.main, .main, .main, .w 0, .w 1, .main, .main] init with
  | none => rw [hf] at hc; cases hc
  | some s =>
    rw [hf] at hc
    simp only [Option.map_some, Option.some.injEq, Prod.mk.injEq] at hc
    exact ⟨s, runActs_sound _ _ _ _ _ _ hf, hc.1, hc.2, by decide +kernel⟩

/-- `DefinitionRegistry.GetMetaOrRegister(name, c)` is one `LoadOrStoreFn(name, build c)` on the registry's sync2.Map
    (container/support/component_definition_registry.go:43-50; the regenerated primitive sequence [Load, f, LoadOrStore]).
    Any number of callers of ONE name, any definitions they would build, any initial registry, any schedule: every caller
    that has returned holds the definition the registry keeps under that name — so all of them hold the same one. -/
theorem C20_getMetaOrRegister_one_definition (k : Nat) (m0 : MapSt) (queue : Nat → List Op)
    (hq : ∀ t op, op ∈ queue t → ∃ v, op = .loadOrStoreFn k v) (sched : List Nat) :
    ∀ e, e ∈ (run factProgs (Sys.start m0 queue) sched).hist →
      ∃ w l, e.2.2 = .got (some w) l ∧ (run factProgs (Sys.start m0 queue) sched).map k = some w := by
  obtain ⟨hex, hops⟩ := lofn_run factProgs_eq k m0 queue hq sched
  exact seq_all_kept k m0 _ _ hex hops

/-- … whereas a check-then-act (look the name up, build, Store — the pre-repair primitive sequence [Load, f, Store]) hands
    two callers that both pass the lookup two DIFFERENT definitions, and the registry keeps only the last one. -/
theorem C20_getMetaOrRegister_check_then_act_counterexample :
    gotVals (run oldProgs (Sys.start emptyMap (gmorQueues 2)) (gmorSched 2)).hist = [11, 10] ∧
    (run oldProgs (Sys.start emptyMap (gmorQueues 2)) (gmorSched 2)).map 1 = some 11 := by
  decide +kernel

-- the run the driver makes for `gmor 3 …`: three callers, all past the Load before the first LoadOrStore: one definition,
-- listed once, held by everybody (and the hypotheses of C20_getMetaOrRegister_one_definition hold for these queues)
example : gmorObs 3 = (1, 1, true) := by decide +kernel
example : ∀ t op, op ∈ gmorQueues 3 t → ∃ v, op = .loadOrStoreFn 1 v :=
  fun _ _ h => ⟨_, mem_ite_singleton h⟩

-- the run the driver makes for `closel 3 5 … 7`: closers 0 and 2 fail; at the return of Close both reports are complete
example : reported 3 (fun i => (5 : Nat).testBit i) (schedule closeCfg 3 (fun i => (5 : Nat).testBit i) 200 7 init) = 2 ∧
    (schedule closeCfg 3 (fun i => (5 : Nat).testBit i) 200 7 init).mainPc = 3 := by decide +kernel

/-! ### sixth round: the closing phase under the built-in logger

`closeb`: the goroutines of Close report their failing closers through ONE logger object (`syslog.Pref("Application")` is
cached per prefix). The built-in logger (syslog/logger.go:118-142) builds each line in locals of the call and hands it to a
`log.Logger` (serialised by its own mutex), so the report is a step of the goroutine that touches nothing shared:
`C20_close_drf` (no worker is ever inside an access to shared data) and `C20_close_reports_before_return` cover it. What that
privacy buys: -/

/-- The skeleton of Close with ONE memory location that every failing closer's goroutine reads and writes while it reports
    (a scratch buffer kept in the shared logger), outside any lock: for every n ≥ 2 and every failing subset that contains
    closers 0 and 1 there is a schedule in which both are inside their access at the same time — a data race. -/
def sharedScratchCloseCfg : FanCfg := ({ expectedCloseShape with workerWritesShared := true } : CloseShape).cfg

theorem C20_close_shared_scratch_race_counterexample (n : Nat) (hn : 2 ≤ n) (errs : Nat → Bool)
    (h0 : errs 0 = true) (h1 : errs 1 = true) :
    ∃ s, Reach sharedScratchCloseCfg n errs s ∧ inErrs s 0 ∧ inErrs s 1 :=
  two_inAcc_unguarded sharedScratchCloseCfg rfl rfl rfl n hn errs h0 h1

-- the run the driver makes for `closeb 3 7 … 4`: three closers failing together; at the return of Close all three reports
-- are complete
example : reported 3 (fun i => (7 : Nat).testBit i) (schedule closeCfg 3 (fun i => (7 : Nat).testBit i) 200 4 init) = 3 ∧
    (schedule closeCfg 3 (fun i => (7 : Nat).testBit i) 200 4 init).mainPc = 3 := by decide +kernel

/-! ### seventh round: the process-wide prefix cache of `syslog.Pref` across Apps; Range against Delete

`plog`: Apps started one after the other in one process, each with its own logger (app.SetLogger → syslog.SetLogger, which
assigns `_logger`); user scanners and closers log through ONE prefix, `syslog.Pref(p)`, from all goroutines of the parallel
scan / the parallel Close. -/

/-- The regenerated skeleton of `syslog.Pref` (syslog/log.go:57-62): ONE call on the package-level cache,
    `prefCache.LoadOrStoreFn`, then `return` — and no assignment to anything but locals of the call: whatever the cache hands
    out is never written again by `Pref`. -/
theorem C20_pref_skeleton :
    skCallsL Facts.syslogPrefSkel = ["prefCache.LoadOrStoreFn", "return"] ∧ skWritesL Facts.syslogPrefSkel = false := by
  decide +kernel

/-- … so the callers of one prefix are callers of one load-or-store. Any number of them, whatever root logger each of them
    read (`_logger` is read inside the value function), any cache, any schedule: every caller that has returned holds the logger
    the cache keeps for the prefix — all callers of a phase are handed ONE logger (oracle `pref-two-loggers`). -/
theorem C20_pref_one_logger (k : Nat) (m0 : MapSt) (queue : Nat → List Op)
    (hq : ∀ t op, op ∈ queue t → ∃ v, op = .loadOrStoreFn k v) (sched : List Nat) :
    ∀ e, e ∈ (run factProgs (Sys.start m0 queue) sched).hist →
      ∃ w l, e.2.2 = .got (some w) l ∧ (run factProgs (Sys.start m0 queue) sched).map k = some w :=
  C20_getMetaOrRegister_one_definition k m0 queue hq sched

/-- The cache outlives the App: once a logger `w` is cached for the prefix, every later caller — any number, any schedule,
    whatever root logger has been installed since (the value `v` each caller would derive) — is handed `w`, and the cache
    still holds `w` afterwards. This is what the code does today across Apps (the observation of `plog`: the lines of App 2
    reach the logger of App 1); it is stated here as a fact about the code, not as something C20 demands. -/
theorem C20_pref_cached_logger_kept (k w : Nat) (m0 : MapSt) (h0 : m0 k = some w) (queue : Nat → List Op)
    (hq : ∀ t op, op ∈ queue t → ∃ v, op = .loadOrStoreFn k v) (sched : List Nat) :
    (run factProgs (Sys.start m0 queue) sched).map k = some w ∧
    ∀ e, e ∈ (run factProgs (Sys.start m0 queue) sched).hist → ∃ l, e.2.2 = .got (some w) l := by
  obtain ⟨hex, hops⟩ := lofn_run factProgs_eq k m0 queue hq sched
  have hk := seq_cached_stays k w m0 h0 _ _ hex hops
  refine ⟨hk, fun e he => ?_⟩
  obtain ⟨w', l, hr, hw'⟩ := seq_all_kept k m0 _ _ hex hops e he
  rw [hk] at hw'
  cases hw'
  exact ⟨l, hr⟩

/-- What refreshing the shared cache entry IN PLACE would do (`refreshStep`: a caller that finds the entry derived from
    another root writes `entry.root`, then `entry.logger`, without a lock): entry {root 1, logger 1}, the root logger is now 2,
    two callers. Schedule: caller 0 finds the entry stale and writes the root; caller 1 now finds the root up to date and is
    handed the OLD logger; caller 0 writes and returns the new one. Two callers of one phase, two loggers — and caller 1 read
    `entry.root` while caller 0 was between its two writes (a conflicting access with nothing ordering them). -/
theorem C20_pref_refresh_in_place_counterexample :
    let s := refreshRun 2 [0, 0, 1, 0] (⟨1, 1⟩, fun _ => .start)
    s.2 0 = .done 2 ∧ s.2 1 = .done 1 ∧
    (refreshRun 2 [0, 0] (⟨1, 1⟩, fun _ => .start)).2 0 = .wroteRoot ∧ (refreshRun 2 [0, 0] (⟨1, 1⟩, fun _ => .start)).2 1 = .start := by
  decide +kernel

-- the run the driver makes for `plog 3 2 2 1 3 …`: three Apps, the prefix first used by App 1's scan: every phase of every
-- App is handed the logger derived from root 1; `plog 4 1 2 2 2 …`: first used by the closers of App 2
example : plogObs 3 2 2 1 3 = (["1", "1", "1"], ["1", "1", "1"]) := by decide +kernel
example : plogObs 4 1 2 2 2 = (["-", "-", "-", "-"], ["-", "2", "2", "2"]) := by decide +kernel
-- the hypotheses of C20_pref_one_logger / C20_pref_cached_logger_kept hold for the queues of a phase
example : ∀ t op, op ∈ prefQueues 3 2 t → ∃ v, op = .loadOrStoreFn 1 v :=
  fun _ _ h => ⟨_, mem_ite_singleton h⟩

/-- `rdel` / oracle `range-phantom-pair`: C20_range_regular — every pair a Range reports was the key's value at some point of
    the run — is what the oracle evaluates on the real map. The run the driver makes (two rangers, two store/delete rounds):
    no Range reports a pair nobody stored, none reports a key twice, none misses a permanent key. -/
example : rdelObs 2 2 = (0, 0, 0) := by decide +kernel

/-! ### ninth round: the factory driven directly

`fdirect`: without the App nobody looks at the definition registry before the parallel scan; every scanning goroutine evaluates
`factory.GetDefinitionRegistry()` itself (post_processor_registration_delegate.go:76). `factory.Default()` stored the registry
in the field before the factory was handed out, the getter is one read of that field (section 9 of Ioc.Conc). -/

/-- Any number of goroutines that read a field nobody writes, in any schedule: every one of them is handed the registry
    `Default()` stored there, and the field still holds it afterwards. -/
theorem C20_registry_getter_one_registry (k w : Nat) (m0 : MapSt) (h0 : m0 k = some w) (queue : Nat → List Op)
    (hq : ∀ t op, op ∈ queue t → op = .load k) (sched : List Nat) :
    (run factProgs (Sys.start m0 queue) sched).map k = some w ∧
    ∀ e, e ∈ (run factProgs (Sys.start m0 queue) sched).hist → e.2.2 = .got (some w) true := by
  have hex := C20_single_primitive_linearizable m0 queue (fun t op h => by rw [hq t op h]; rfl) sched
  have hops := hist_ops_start factProgs (· = .load k) m0 queue hq sched
  obtain ⟨hm, hres⟩ := seq_loads_same k m0 _ _ hex hops
  refine ⟨by rw [hm]; exact h0, fun e he => ?_⟩
  rw [hres e he, h0]; rfl

/-- … so no definition gets lost in the parallel scan: when every goroutine stores its definition in the ONE registry `w`
    it was handed, every one of them is in `w` afterwards, in whatever order the stores arrive. -/
theorem C20_direct_scan_no_definition_lost (w : Nat) (regs : Nat → List Nat) (acts : List (Nat × Nat))
    (h : ∀ a, a ∈ acts → a.1 = w) : ∀ a, a ∈ acts → a.2 ∈ scanStores regs acts w := by
  intro a ha
  have := scanStores_mem acts regs a ha
  rwa [h a ha] at this

/-- A getter that creates the registry when it finds the field empty is a check-then-act (`[Load, f, Store]`) on the field:
    two goroutines that both pass the check are handed two DIFFERENT registries (a write to the field concurrent with the
    other's read: a data race), the field keeps the last one, and the definition the other goroutine stores is in a registry
    nobody holds any more. -/
theorem C20_lazy_registry_counterexample :
    gotVals (run oldProgs (Sys.start emptyMap (gmorQueues 2)) (gmorSched 2)).hist = [11, 10] ∧
    (run oldProgs (Sys.start emptyMap (gmorQueues 2)) (gmorSched 2)).map 1 = some 11 ∧
    scanStores (fun _ => []) [(10, 0), (11, 1)] 11 = [1] := by
  decide +kernel

-- the run the driver makes for `fdirect 3 tr …` (five goroutines): nobody lost, everybody handed the registry that is kept;
-- and the hypotheses of the two theorems hold for it
example : fdirectObs 5 = (0, 0) := by decide +kernel
example : fieldAfterDefault 1 = some 7 ∧ ∀ t op, op ∈ getterQueues 5 t → op = .load 1 :=
  ⟨rfl, fun _ _ h => mem_ite_singleton h⟩

/-- factory.Default and the accessors of defaultFactory, regenerated (interpretation Ioc.SemFacAccess): the definition
    registry, the singleton-component registry and the delegate are BUILT WHEN THE FACTORY IS MADE; `GetDefinitionRegistry`
    — called by every goroutine of the parallel definition scan — only READS the member (no lazily created shared state, so
    nothing for the goroutines to race on), and so do the other getters; the setters write exactly the member they name -/
theorem C20_code_factory_accessors (w : Sem.FacObj) (r c p n : Go.Val) :
    Go.run Sem.fdPrims Progs.fac_Default [] w =
      some (.tuple [.str "defaultFactory", .str "new definition registry", .str "new singleton component registry",
                    .str "new delegate", .bool true], w) ∧
    Go.run Sem.faPrims Progs.fac_GetDefinitionRegistry [] w = some (w.definitionRegistry, w) ∧
    Go.run Sem.faPrims Progs.fac_GetConfigure [] w = some (w.configure, w) ∧
    Go.run Sem.faPrims Progs.fac_GetRegisteredComponents [] w = some (w.registeredComponents, w) ∧
    Go.run Sem.faPrims Progs.fac_GetDefinitionRegistryPostProcessors [] w = some (w.defPPs, w) ∧
    Go.run Sem.faPrims Progs.fac_SetRegistry [r] w = some (.tuple [], { w with singletonRegistry := r }) ∧
    Go.run Sem.faPrims Progs.fac_SetConfigure [c] w = some (.tuple [], { w with configure := c }) ∧
    Go.run Sem.faPrims Progs.fac_registerBeanPostProcessors [p, n] w =
      some (.tuple [], { w with beanPPCalls := w.beanPPCalls ++ [(p, n)] }) :=
  ⟨Sem.facDefault_sem w, Sem.facAccessors_sem w r c p n⟩

/-- reflectx.TypeId / Id — on the path of every goroutine of the parallel definition scan (GetMetaOrRegister → NewMeta →
    GetComponentNameWithAlias → Id → TypeId) — are PURE: regenerated, they read nothing but their argument and what reflection
    answers about it, and write nothing (the world of the interpretation is `Unit`: no package-level state to share) -/
theorem C20_code_TypeId_pure (ts : List Sem.TyD) (typeOf : Nat → Nat) (join : String → String → String) (t c : Nat) :
    Go.run (Sem.tiPrims ts typeOf join) Progs.reflectx_TypeId [.ref t 190] () = some (.str (Sem.typeIdOf ts join t), ()) ∧
    Go.run (Sem.tiPrims ts typeOf join) Progs.reflectx_Id [.ref c 0] () = some (.str (Sem.typeIdOf ts join (typeOf c)), ()) :=
  ⟨Sem.typeId_sem ts typeOf join t, (Sem.id_sem ts typeOf join c).2⟩

end Ioc.C20
