/-
  Lemmas about the start-up pipeline (Ioc.App): the ordering contract `sortOrdered` (stable insertion sort per class),
  `callRunners` (stop at the first error) and the stage structure of `appRun`.
-/
import Ioc.App
namespace Ioc.App
open Ioc.M2

theorem insertStable_perm {α : Type} (lt : α → α → Bool) (x : α) (l : List α) :
    (insertStable lt x l).Perm (x :: l) := by
  induction l with
  | nil => exact List.Perm.refl _
  | cons y ys ih =>
    simp only [insertStable]
    split
    · exact (List.Perm.cons y ih).trans (List.Perm.swap x y ys)
    · exact List.Perm.refl _

theorem isortStable_cons {α : Type} (lt : α → α → Bool) (x : α) (l : List α) :
    isortStable lt (x :: l) = insertStable lt x (isortStable lt l) := rfl

theorem isortStable_perm {α : Type} (lt : α → α → Bool) (l : List α) : (isortStable lt l).Perm l := by
  induction l with
  | nil => exact List.Perm.refl _
  | cons x l ih =>
    rw [isortStable_cons]
    exact (insertStable_perm lt x _).trans (List.Perm.cons x ih)

def keyLt (a b : Runner) : Bool := decide (a.key < b.key)

theorem insertStable_sorted (x : Runner) (l : List Runner) (h : l.Pairwise (fun a b => a.key ≤ b.key)) :
    (insertStable keyLt x l).Pairwise (fun a b => a.key ≤ b.key) := by
  induction l with
  | nil => exact List.pairwise_singleton _ _
  | cons y ys ih =>
    obtain ⟨hy, hys⟩ := List.pairwise_cons.mp h
    unfold insertStable
    split
    · rename_i hlt
      refine List.pairwise_cons.mpr ⟨fun z hz => ?_, ih hys⟩
      rcases List.mem_cons.mp ((insertStable_perm keyLt x ys).mem_iff.mp hz) with rfl | hz
      · exact Int.le_of_lt (of_decide_eq_true hlt)
      · exact hy z hz
    · rename_i hlt
      have hle : x.key ≤ y.key := Int.not_lt.mp fun h => hlt (decide_eq_true h)
      refine List.pairwise_cons.mpr ⟨fun z hz => ?_, h⟩
      rcases List.mem_cons.mp hz with rfl | hz
      · exact hle
      · exact Int.le_trans hle (hy z hz)

theorem isortStable_sorted (l : List Runner) : (isortStable keyLt l).Pairwise (fun a b => a.key ≤ b.key) := by
  induction l with
  | nil => exact List.Pairwise.nil
  | cons x l ih => exact insertStable_sorted x _ ih

/-- stability: the runners with one and the same key keep their relative order -/
theorem insertStable_filter_key (x : Runner) (l : List Runner) (k : Int) :
    (insertStable keyLt x l).filter (fun r => r.key == k) = (x :: l).filter (fun r => r.key == k) := by
  induction l with
  | nil => rfl
  | cons y ys ih =>
    unfold insertStable
    split
    · rename_i hlt
      have hlt : y.key < x.key := of_decide_eq_true hlt
      rw [List.filter_cons, ih]
      by_cases hy : (y.key == k) = true
      · have hx : ¬ (x.key == k) = true := fun hx => by have := eq_of_beq hy; have := eq_of_beq hx; omega
        rw [if_pos hy, List.filter_cons_of_neg (p := fun r : Runner => r.key == k) hx,
          List.filter_cons_of_neg (p := fun r : Runner => r.key == k) hx,
          List.filter_cons_of_pos (p := fun r : Runner => r.key == k) hy]
      · rw [if_neg hy, List.filter_cons, List.filter_cons (xs := y :: ys),
          List.filter_cons_of_neg (p := fun r : Runner => r.key == k) hy]
    · rfl

theorem isortStable_filter_key (l : List Runner) (k : Int) :
    (isortStable keyLt l).filter (fun r => r.key == k) = l.filter (fun r => r.key == k) := by
  induction l with
  | nil => rfl
  | cons x l ih => rw [isortStable_cons, insertStable_filter_key, List.filter_cons, ih, List.filter_cons]

def isPrio (r : Runner) : Bool := r.cls == .prio
def isOrd (r : Runner) : Bool := r.cls == .ord
def isPlain (r : Runner) : Bool := r.cls == .plain

theorem sortOrdered_eq (l : List Runner) :
    sortOrdered l = isortStable keyLt (l.filter isPrio) ++ isortStable keyLt (l.filter isOrd) ++ l.filter isPlain := rfl

theorem classes_perm (l : List Runner) : (l.filter isPrio ++ l.filter isOrd ++ l.filter isPlain).Perm l := by
  induction l with
  | nil => exact List.Perm.refl _
  | cons x l ih =>
    obtain ⟨o, c, k, f⟩ := x
    cases c with
    | prio => exact List.Perm.cons _ ih
    | ord => exact (List.perm_middle.append_right _).trans (List.Perm.cons _ ih)
    | plain => exact List.perm_middle.trans (List.Perm.cons _ ih)

theorem sortOrdered_perm (l : List Runner) : (sortOrdered l).Perm l := by
  rw [sortOrdered_eq]
  exact (List.Perm.append (List.Perm.append (isortStable_perm _ _) (isortStable_perm _ _)) (List.Perm.refl _)).trans
    (classes_perm l)

theorem callRunners_cons (x : Runner) (l : List Runner) :
    callRunners (x :: l) = if x.fails then ([x], false) else (x :: (callRunners l).1, (callRunners l).2) := rfl

/-- either nobody fails and everybody is invoked, or the invoked runners end with the first one that fails -/
theorem callRunners_cases (l : List Runner) :
    (callRunners l = (l, true) ∧ ∀ r ∈ l, r.fails = false) ∨
    ∃ pre r rest, l = pre ++ r :: rest ∧ (∀ q ∈ pre, q.fails = false) ∧ r.fails = true ∧
      callRunners l = (pre ++ [r], false) := by
  induction l with
  | nil => exact Or.inl ⟨rfl, fun _ h => nomatch h⟩
  | cons x l ih =>
    rw [callRunners_cons]
    cases hx : x.fails with
    | true => exact Or.inr ⟨[], x, l, rfl, (fun _ h => nomatch h), hx, rfl⟩
    | false =>
      rcases ih with ⟨e, h⟩ | ⟨pre, r, rest, rfl, hpre, hr, e⟩
      · exact Or.inl ⟨by rw [e]; rfl, List.forall_mem_cons.mpr ⟨hx, h⟩⟩
      · exact Or.inr ⟨x :: pre, r, rest, rfl, List.forall_mem_cons.mpr ⟨hx, hpre⟩, hr, by rw [e]; rfl⟩

theorem callRunners_spec (l : List Runner) :
    ∃ rest, l = (callRunners l).1 ++ rest ∧
      (∀ r ∈ (callRunners l).1.dropLast, r.fails = false) ∧
      ((callRunners l).2 = true → rest = [] ∧ ∀ r ∈ (callRunners l).1, r.fails = false) ∧
      ((callRunners l).2 = false → ∃ r, (callRunners l).1.getLast? = some r ∧ r.fails = true) := by
  rcases callRunners_cases l with ⟨e, h⟩ | ⟨pre, r, rest, rfl, hpre, hr, e⟩
  · rw [e]
    exact ⟨[], (List.append_nil l).symm, fun r hr => h r (List.dropLast_subset l hr), fun _ => ⟨rfl, h⟩,
      (fun h => nomatch h)⟩
  · rw [e]
    exact ⟨rest, (List.append_cons ..), by rwa [List.dropLast_concat], (fun h => nomatch h),
      fun _ => ⟨r, List.getLast?_concat .., hr⟩⟩

theorem callRunners_all_ok (l : List Runner) (h : ∀ r ∈ l, r.fails = false) : callRunners l = (l, true) := by
  rcases callRunners_cases l with ⟨e, _⟩ | ⟨pre, r, rest, rfl, _, hr, _⟩
  · exact e
  · rw [h r (List.mem_append_right _ List.mem_cons_self)] at hr; cases hr

/-- an invoked failing runner is the last invoked one -/
theorem callRunners_fail_last (l : List Runner) (r : Runner) (hr : r ∈ (callRunners l).1) (hf : r.fails = true) :
    (callRunners l).2 = false ∧ ∃ pre, (callRunners l).1 = pre ++ [r] ∧ ∀ q ∈ pre, q.fails = false := by
  rcases callRunners_cases l with ⟨e, h⟩ | ⟨pre, r', rest, rfl, hpre, _, e⟩ <;> rw [e] at hr ⊢
  · rw [h r hr] at hf; cases hf
  · rcases List.mem_append.mp hr with hr | hr
    · rw [hpre r hr] at hf; cases hf
    · cases List.mem_singleton.mp hr
      exact ⟨rfl, pre, rfl, hpre⟩

/-- the runner stage is reached exactly when no earlier stage failed -/
def Ready (a : AppScen) : Prop := a.loaderFail = false ∧ a.scanFail = false ∧ (final a.sc).status = .done

instance (a : AppScen) : Decidable (Ready a) := by unfold Ready; infer_instance

theorem appRun_ready (a : AppScen) (h : Ready a) :
    (appRun a).outcome = (if (callRunners (sortOrdered (runnersOf a (final a.sc)))).2 then .ok else .errRunners) ∧
    (appRun a).invoked = (callRunners (sortOrdered (runnersOf a (final a.sc)))).1 ∧
    (appRun a).st = final a.sc := by
  obtain ⟨h1, h2, h3⟩ := h
  unfold appRun
  simp only [h1, h2, Bool.false_eq_true, if_false]
  split <;> simp_all

theorem appRun_not_ready (a : AppScen) (h : ¬ Ready a) :
    (appRun a).invoked = [] ∧ (appRun a).outcome ≠ .ok ∧ (appRun a).outcome ≠ .errRunners := by
  unfold appRun
  cases h1 : a.loaderFail with
  | true => simp
  | false =>
    cases h2 : a.scanFail with
    | true => simp
    | false =>
      simp only [Bool.false_eq_true, if_false]
      split
      · simp
      · simp
      · simp
      · rename_i h3; exact absurd ⟨h1, h2, h3⟩ h

/-- which stage failed, read off the outcome -/
theorem appRun_outcome (a : AppScen) :
    ((appRun a).outcome = .errConfig ↔ a.loaderFail = true) ∧
    ((appRun a).outcome = .errFactory ↔
      a.loaderFail = false ∧ (a.scanFail = true ∨ ∃ x, (final a.sc).status = .failed x .factory)) ∧
    ((appRun a).outcome = .errRefresh ↔
      a.loaderFail = false ∧ a.scanFail = false ∧
        ((∃ x, (final a.sc).status = .failed x .refresh) ∨ (final a.sc).status = .running)) := by
  unfold appRun
  cases h1 : a.loaderFail with
  | true => simp
  | false =>
    cases h2 : a.scanFail with
    | true => simp
    | false =>
      simp only [Bool.false_eq_true, if_false]
      split
      · rename_i x h3; simp [h3]
      · rename_i x h3; simp [h3]
      · rename_i h3; simp [h3]
      · rename_i h3
        simp only [h3]
        cases (callRunners (sortOrdered (runnersOf a (final a.sc)))).2 <;> simp

end Ioc.App
