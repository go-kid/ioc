/-
  Lemmas for C14 (Ioc.Conc section 8): which registered closers are in the registry of the App that `ioc.Run` returns (the option
  list `append(ops, registerHandlers...)`, `Ioc.Conc.applyOpts`), and which registered components get a definition in the
  tag scan (`Ioc.Conc.scanDefined`).
-/
import Ioc.Conc

namespace Ioc.Conc

/-- options that only register components add their components to whatever registry is there -/
theorem foldl_applyOpt_components (hs : List ROpt) :
    ∀ reg : List Nat, (∀ o, o ∈ hs → o.isComponents = true) → hs.foldl applyOpt reg = reg ++ hs.flatMap ROpt.ids := by
  induction hs with
  | nil => intro reg _; simp
  | cons o hs ih =>
    intro reg h
    have ho := h o List.mem_cons_self
    cases o with
    | setRegistry => cases ho
    | setComponents ids =>
      simp only [List.foldl_cons, applyOpt, List.flatMap_cons, ROpt.ids]
      rw [ih (reg ++ ids) (fun o' ho' => h o' (List.mem_cons_of_mem _ ho')), List.append_assoc]

/-- options that only install fresh registries leave an empty registry -/
theorem applyOpts_registries (pre : List ROpt) (h : ∀ o, o ∈ pre → o = .setRegistry) : applyOpts pre = [] := by
  unfold applyOpts
  induction pre with
  | nil => rfl
  | cons o pre ih =>
    rw [List.foldl_cons, h o List.mem_cons_self]
    exact ih (fun o ho => h o (List.mem_cons_of_mem _ ho))

theorem applyOpts_append (a b : List ROpt) : applyOpts (a ++ b) = b.foldl applyOpt (applyOpts a) := by
  unfold applyOpts; rw [List.foldl_append]

/-- every handler `ioc.Register` stores is a SetComponents option -/
theorem iocRegister_components (hs : List ROpt) (ids : List Nat) (h : ∀ o, o ∈ hs → o.isComponents = true) :
    ∀ o, o ∈ iocRegister hs ids → o.isComponents = true := by
  intro o ho
  unfold iocRegister at ho
  rcases List.mem_append.mp ho with h1 | h1
  · exact h o h1
  · rw [List.mem_singleton.mp h1]; rfl

/-- whatever the options of the call are: everything handed to ioc.Register is added to the registry the call's options leave -/
theorem iocRunRegistry_eq (ops handlers : List ROpt) (hh : ∀ o, o ∈ handlers → o.isComponents = true) :
    iocRunRegistry ops handlers = applyOpts ops ++ handlers.flatMap ROpt.ids := by
  unfold iocRunRegistry iocRunOptions
  rw [applyOpts_append, foldl_applyOpt_components handlers _ hh]

theorem scanDefined_all {α : Type} (comps : List (α × CKind)) : scanDefined codeScanGuard comps = comps.map (·.1) := by
  unfold scanDefined
  have h : comps.filter (fun c => codeScanGuard c.2) = comps := List.filter_eq_self.mpr (fun _ _ => rfl)
  rw [h]

theorem scanDefined_drops {α : Type} (guard : CKind → Bool) (comps : List (α × CKind)) (c : α × CKind) (hc : c ∈ comps)
    (hk : guard c.2 = false) : (scanDefined guard comps).length < comps.length := by
  unfold scanDefined
  rw [List.length_map]
  exact List.length_filter_lt_length_iff_exists.mpr ⟨c, hc, by simp [hk]⟩

end Ioc.Conc
