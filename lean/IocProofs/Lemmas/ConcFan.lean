/-
  Invariants of the fork/join transition system of Ioc.Conc (used by C14 and C20), over all schedules:
  what holds under every configuration (`FInv`: the loop index against the workers' states, every call begun at most
  once), the counting invariant of the WaitGroup under fork/join (`wg_reach`) with "past the Wait every worker is
  finished" (`joined_finished`), and the critical section (`CritOk`): mutual exclusion under the mutex, nobody inside
  where there is no shared variable.
-/
import Ioc.Conc

namespace Ioc.Conc
open WPc

/-- the configuration in which fork/join is complete: Add before the loop, a goroutine per item,
    Done deferred, Wait before main continues -/
def FanCfg.Joined (cfg : FanCfg) : Prop :=
  cfg.addFirst = true ∧ cfg.spawn = true ∧ cfg.doneDeferred = true ∧ cfg.wait = true

def preCall : WPc → Bool
  | .idle | .ready | .started => true
  | _ => false

def inCrit : WPc → Bool
  | .locked | .inAcc | .accDone => true
  | _ => false

theorem upd_same {β : Type} (f : Nat → β) (k : Nat) (v : β) : upd f k v k = v := if_pos rfl

theorem upd_ne {β : Type} (f : Nat → β) (k : Nat) (v : β) {x : Nat} (h : x ≠ k) : upd f k v x = f x := if_neg h

def cntFin (w : Nat → WPc) : Nat → Nat
  | 0 => 0
  | k+1 => cntFin w k + (if w k = .finished then 1 else 0)

/-- a worker that was not finished moves to `v` -/
theorem cntFin_upd (w : Nat → WPc) (i : Nat) (v : WPc) (hw : w i ≠ .finished) (k : Nat) :
    cntFin (upd w i v) k = cntFin w k + (if i < k ∧ v = .finished then 1 else 0) := by
  induction k with
  | zero => simp [cntFin]
  | succ k ih =>
    rw [cntFin, cntFin, ih]
    by_cases hk : k = i
    · subst hk; simp [upd, hw]
    · have : i < k + 1 ↔ i < k := by omega
      simp [upd, hk, this]; omega

theorem cntFin_le (w : Nat → WPc) (k : Nat) : cntFin w k ≤ k := by
  induction k with
  | zero => exact Nat.le_refl 0
  | succ k ih => rw [cntFin]; split <;> omega

theorem cntFin_full (w : Nat → WPc) (k : Nat) (h : cntFin w k = k) : ∀ i < k, w i = .finished := by
  induction k with
  | zero => intro i hi; omega
  | succ k ih =>
    have hle := cntFin_le w k
    rw [cntFin] at h
    split at h
    · intro i hi
      by_cases hik : i = k
      · rwa [hik]
      · exact ih (by omega) i (by omega)
    · omega

theorem cntFin_all (w : Nat → WPc) (k : Nat) (h : ∀ i < k, w i = .finished) : cntFin w k = k := by
  induction k with
  | zero => rfl
  | succ k ih => rw [cntFin, ih (fun i hi => h i (by omega)), h k (by omega), if_pos rfl]

theorem cntFin_idle (k : Nat) : cntFin (fun _ => WPc.idle) k = 0 := by
  induction k with
  | zero => rfl
  | succ k ih => rw [cntFin, ih]; rfl

theorem WStep.facts {cfg : FanCfg} {fail : Bool} {i : Nat} {p q : WPc} {mu mu' : Option Nat}
    (h : WStep cfg fail i p mu q mu') :
    p ≠ .idle ∧ p ≠ .finished ∧ q ≠ .idle ∧
    (q = .calling → preCall p = true) ∧ (q ≠ .calling → preCall q = preCall p) := by
  cases h <;> simp [preCall]

/-- worker i at `p` keeps to the critical section: it is inside only where there is a shared variable, and then it
    holds the mutex if there is one -/
def CritOk (cfg : FanCfg) (mu : Option Nat) (i : Nat) (p : WPc) : Prop :=
  inCrit p = true → cfg.crit = true ∧ (cfg.guarded = true → mu = some i)

/-- a step of worker i keeps worker i to the critical section and takes the mutex from nobody else -/
theorem WStep.crit {cfg : FanCfg} {fail : Bool} {i : Nat} {p q : WPc} {mu mu' : Option Nat}
    (h : WStep cfg fail i p mu q mu') (hp : CritOk cfg mu i p) :
    CritOk cfg mu' i q ∧ ∀ j, j ≠ i → cfg.guarded = true → mu = some j → mu' = some j := by
  cases h with
  | lock hf hc hg => exact ⟨fun _ => ⟨hc, fun _ => rfl⟩, fun _ _ _ => nofun⟩
  | accBeginG => exact ⟨fun _ => hp rfl, fun _ _ _ h => h⟩
  | accBeginU _ hf hc hg => exact ⟨fun _ => ⟨hc, fun h => nomatch hg.symm.trans h⟩, fun _ _ _ h => h⟩
  | accEnd => exact ⟨fun _ => hp rfl, fun _ _ _ h => h⟩
  | unlock _ hg =>
    exact ⟨nofun, fun j hj _ h => absurd (Option.some.inj (((hp rfl).2 hg).symm.trans h)) (Ne.symm hj)⟩
  | _ => exact ⟨nofun, fun _ _ _ h => h⟩

theorem wgDelta_joined {cfg : FanCfg} (hj : cfg.Joined) (q : WPc) :
    wgDelta cfg q = if q = .finished then -1 else 0 := by
  obtain ⟨h1, _, h3, _⟩ := hj
  cases q <;> simp [wgDelta, h1, h3]

/-- what main's loop index says about the workers, and how often each was called: true under every configuration -/
structure FInv (n : Nat) (s : St) : Prop where
  sp_le : s.spawned ≤ n
  spn : 2 ≤ s.mainPc → s.spawned = n
  unsp : ∀ i, s.spawned ≤ i → s.wpc i = .idle
  spw : ∀ i, i < s.spawned → s.wpc i ≠ .idle
  calls_eq : ∀ i, s.calls i = if preCall (s.wpc i) then 0 else 1

theorem finv_step {cfg : FanCfg} {n : Nat} {fails : Nat → Bool} {s s' : St}
    (hi : FInv n s) (hs : Step cfg n fails s s') : FInv n s' := by
  cases hs with
  | add h => exact { hi with spn := by simp }
  | spawn h hk hseq =>
    have hidle := hi.unsp s.spawned (Nat.le_refl _)
    refine { sp_le := hk, spn := by simp [h], unsp := fun i hle => ?_, spw := fun i hlt => ?_, calls_eq := fun i => ?_ }
    · exact (upd_ne _ _ _ (Nat.ne_of_gt hle)).trans (hi.unsp i (Nat.le_of_succ_le hle))
    · show upd s.wpc s.spawned .ready i ≠ .idle
      by_cases e : i = s.spawned
      · rw [e, upd_same]; nofun
      · rw [upd_ne _ _ _ e]; exact hi.spw i (by simp only at hlt; omega)
    · show s.calls i = if preCall (upd s.wpc s.spawned .ready i) then 0 else 1
      by_cases e : i = s.spawned
      · rw [e, upd_same, hi.calls_eq, hidle]; rfl
      · rw [upd_ne _ _ _ e]; exact hi.calls_eq i
  | spawned h hk => exact { hi with spn := fun _ => hk }
  | wait h hw => exact { hi with spn := fun _ => hi.spn (by omega) }
  | worker i q mu' h =>
    obtain ⟨hp0, -, hq0, hqc, hqn⟩ := h.facts
    have hsp : i < s.spawned := Nat.lt_of_not_le fun hc => hp0 (hi.unsp i hc)
    refine { hi with unsp := fun j hle => ?_, spw := fun j hlt => ?_, calls_eq := fun j => ?_ }
    · exact (upd_ne _ _ _ (Nat.ne_of_gt (Nat.lt_of_lt_of_le hsp hle))).trans (hi.unsp j hle)
    · show upd s.wpc i q j ≠ .idle
      by_cases e : j = i
      · rw [e, upd_same]; exact hq0
      · rw [upd_ne _ _ _ e]; exact hi.spw j hlt
    · show upd s.calls i _ j = if preCall (upd s.wpc i q j) then 0 else 1
      by_cases e : j = i
      · rw [e, upd_same, upd_same, hi.calls_eq]
        by_cases hcal : q = .calling
        · rw [if_pos hcal, hqc hcal, hcal]; rfl
        · rw [if_neg hcal, hqn hcal]; rfl
      · rw [upd_ne _ _ _ e, upd_ne _ _ _ e]; exact hi.calls_eq j

theorem finv_reach {cfg : FanCfg} {n : Nat} {fails : Nat → Bool} {s : St} (h : Reach cfg n fails s) : FInv n s := by
  induction h with
  | refl => constructor <;> simp [init, preCall]
  | tail t u _ hs ih => exact finv_step ih hs

/-- nobody is ever called twice, at any point of any schedule, whatever the configuration -/
theorem calls_le_one {cfg : FanCfg} {n : Nat} {fails : Nat → Bool} {s : St} (h : Reach cfg n fails s) (i : Nat) :
    s.calls i ≤ 1 := by
  rw [(finv_reach h).calls_eq i]; split <;> omega

theorem FInv.lt_of_step {cfg : FanCfg} {fail : Bool} {n i : Nat} {s : St} {q : WPc} {mu' : Option Nat} (hi : FInv n s)
    (h : WStep cfg fail i (s.wpc i) s.mu q mu') : i < n :=
  Nat.lt_of_lt_of_le (Nat.lt_of_not_le fun hc => h.facts.1 (hi.unsp i hc)) hi.sp_le

/-- the counting invariant of the WaitGroup under fork/join -/
theorem wg_reach {cfg : FanCfg} (hj : cfg.Joined) {n : Nat} {fails : Nat → Bool} {s : St} (h : Reach cfg n fails s) :
    s.wg = (if s.mainPc = 0 then 0 else (n : Int)) - (cntFin s.wpc n : Int) := by
  induction h with
  | refl => simp [init, cntFin_idle]
  | tail t u ht hs ih =>
    have hi := finv_reach ht
    cases hs with
    | add h => simp [h, hj.1] at ih ⊢; omega
    | spawn h hk hseq =>
      simpa [cntFin_upd _ _ _ (hi.unsp _ (Nat.le_refl _) ▸ nofun : t.wpc t.spawned ≠ .finished)] using ih
    | spawned h hk => simpa [h] using ih
    | wait h hw => simpa [h] using ih
    | worker i q mu' h =>
      simp only [wgDelta_joined hj, cntFin_upd _ _ _ h.facts.2.1, ih]
      by_cases hf : q = .finished <;> simp [hf, hi.lt_of_step h] <;> omega

/-- fork/join: once main is past the Wait every worker is finished; no later step can change that -/
theorem joined_finished {cfg : FanCfg} (hj : cfg.Joined) {n : Nat} {fails : Nat → Bool} {s : St}
    (h : Reach cfg n fails s) : s.mainPc = 3 → ∀ i, i < n → s.wpc i = .finished := by
  induction h with
  | refl => exact nofun
  | tail t u ht hs ih =>
    have hi := finv_reach ht
    cases hs with
    | add h => exact nofun
    | spawn h hk hseq => intro h'; simp only at h'; omega
    | spawned h hk => exact nofun
    | wait h hw =>
      have := wg_reach hj ht
      simp [h, hw hj.2.2.2] at this
      exact fun _ => cntFin_full t.wpc n (by omega)
    | worker i q mu' h =>
      -- past the Wait every worker is finished, and a finished worker has no step
      exact fun h3 => absurd (ih h3 i (hi.lt_of_step h)) h.facts.2.1

/-- fork/join, for every n, every failing subset and every schedule: once main is past the Wait, every worker's
    call was begun exactly once, every worker is finished, the counter is back to 0 -/
theorem joined_all_once {cfg : FanCfg} (hj : cfg.Joined) (n : Nat) (fails : Nat → Bool) (s : St)
    (h : Reach cfg n fails s) (hret : s.mainPc = 3) :
    (∀ i, i < n → s.calls i = 1 ∧ s.wpc i = .finished) ∧ s.wg = 0 := by
  have hfin := joined_finished hj h hret
  refine ⟨fun i hin => ⟨by rw [(finv_reach h).calls_eq, hfin i hin]; rfl, hfin i hin⟩, ?_⟩
  rw [wg_reach hj h, cntFin_all _ n hfin, hret]
  simp

theorem crit_reach {cfg : FanCfg} {n : Nat} {fails : Nat → Bool} {s : St} (h : Reach cfg n fails s) (i : Nat) :
    CritOk cfg s.mu i (s.wpc i) := by
  induction h generalizing i with
  | refl => exact nofun
  | tail t u _ hs ih =>
    cases hs with
    | spawn =>
      show CritOk cfg t.mu i (upd t.wpc t.spawned .ready i)
      by_cases e : i = t.spawned
      · rw [e, upd_same]; exact nofun
      · rw [upd_ne _ _ _ e]; exact ih i
    | worker k q mu' hw =>
      obtain ⟨h1, h2⟩ := hw.crit (ih k)
      show CritOk cfg mu' i (upd t.wpc k q i)
      by_cases e : i = k
      · rw [e, upd_same]; exact h1
      · rw [upd_ne _ _ _ e]
        exact fun hc => ⟨(ih i hc).1, fun hg => h2 i e hg ((ih i hc).2 hg)⟩
    | _ => exact ih i

/-- mutual exclusion under the mutex -/
def MInv (s : St) : Prop := ∀ i, inCrit (s.wpc i) = true → s.mu = some i

theorem minv_reach {cfg : FanCfg} (hg : cfg.guarded = true) {n : Nat} {fails : Nat → Bool} {s : St}
    (h : Reach cfg n fails s) : MInv s :=
  fun i hc => (crit_reach h i hc).2 hg

/-- without a shared variable no worker is ever inside an access -/
theorem nocrit_reach {cfg : FanCfg} (hc : cfg.crit = false) {n : Nat} {fails : Nat → Bool} {s : St}
    (h : Reach cfg n fails s) : ∀ i, inCrit (s.wpc i) = false :=
  fun i => Bool.eq_false_iff.mpr fun hi => nomatch hc.symm.trans (crit_reach h i hi).1

end Ioc.Conc
