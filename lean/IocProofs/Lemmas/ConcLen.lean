/-
  Lemmas about `Length()` of the set utilities (Ioc.Conc: HOp, linSearchH, seqFinal):
    * the history checker with `Length` calls is a conservative extension of `linSearch`;
    * `Length` counts the keys present;
    * a list of Put / Remove calls in which no key is both put and removed leaves a set that depends only on WHICH keys
      are removed and put — not on the order of the calls (so every schedule of the goroutines of a `setlen` scenario,
      read through its linearization, ends in the same set, and the quiescent Length is determined).
-/
import Ioc.Conc

namespace Ioc.Conc

theorem snapshot_length (m : MapSt) (ks : List Nat) : (snapshot m ks).length = (presentKeys m ks).length := by
  induction ks with
  | nil => rfl
  | cons k r ih =>
    simp only [snapshot, presentKeys] at ih ⊢
    cases hm : m k with
    | none => simp [hm, ih]
    | some v => simp [hm, ih]

theorem eraseIdx'_map {α β : Type} (f : α → β) : ∀ (l : List α) (i : Nat), eraseIdx' (l.map f) i = (eraseIdx' l i).map f
  | [], _ => rfl
  | _ :: _, 0 => rfl
  | a :: r, i + 1 => by simp [eraseIdx', eraseIdx'_map f r i]

theorem linSearchH_lift : ∀ (fuel : Nat) (m : MapSt) (pending : List Rec),
    linSearchH fuel m (pending.map Rec.lift) = linSearch fuel m pending
  | 0, _, pending => by cases pending <;> rfl
  | fuel + 1, m, pending => by
    simp only [linSearchH, linSearch, List.length_map]
    congr 1
    · cases pending <;> rfl
    · congr 1
      funext i
      rw [List.getElem?_map]
      cases hi : pending[i]? with
      | none => rfl
      | some c =>
        simp only [Option.map_some, List.all_map]
        rw [eraseIdx'_map, linSearchH_lift fuel]
        rfl

theorem linearizableHB_lift (m0 : MapSt) (h : List Rec) : linearizableHB m0 (h.map Rec.lift) = linearizableB m0 h := by
  simp only [linearizableHB, linearizableB, List.length_map, linSearchH_lift]

def Op.setOnly : Op → Bool
  | .put _ | .remove _ => true
  | _ => false

theorem setFold_final : ∀ (l : List Op) (m0 : MapSt),
    (∀ op, op ∈ l → op.setOnly = true) → (∀ k, k ∈ removedKeys l → k ∉ putKeys l) →
    ∀ k, (l.foldl (fun m op => (op.spec m).1) m0) k =
      if k ∈ removedKeys l then none else if k ∈ putKeys l then some 0 else m0 k := by
  intro l
  induction l with
  | nil => intros; rfl
  | cons op l ih =>
    intro m0 hset hdisj k
    have ih := ih (op.spec m0).1 (fun o ho => hset o (List.mem_cons_of_mem _ ho))
    rw [List.foldl_cons]
    cases op with
    | remove j =>
      have hd : ∀ i, i ∈ j :: removedKeys l → i ∉ putKeys l := hdisj
      rw [ih (fun i hi => hd i (List.mem_cons_of_mem _ hi)) k]
      show _ = if k ∈ j :: removedKeys l then none else if k ∈ putKeys l then some 0 else m0 k
      by_cases hkj : k = j
      · simp [hkj, hd j List.mem_cons_self, Op.spec, upd]
      · simp [hkj, Op.spec, upd]
    | put j =>
      have hd : ∀ i, i ∈ removedKeys l → i ∉ j :: putKeys l := hdisj
      rw [ih (fun i hi hp => hd i hi (List.mem_cons_of_mem _ hp)) k]
      show _ = if k ∈ removedKeys l then none else if k ∈ j :: putKeys l then some 0 else m0 k
      by_cases hkj : k = j <;> simp [hkj, Op.spec, upd]
    | _ => cases hset _ List.mem_cons_self

/-- any two orders of the same calls (in particular the linearization of any schedule and the thread-by-thread order
    of `seqFinal`) leave the same set -/
theorem setFold_perm (l1 l2 : List Op) (m0 : MapSt) (hp : l1.Perm l2)
    (hset : ∀ op, op ∈ l1 → op.setOnly = true) (hdisj : ∀ k, k ∈ removedKeys l1 → k ∉ putKeys l1) :
    l1.foldl (fun m op => (op.spec m).1) m0 = l2.foldl (fun m op => (op.spec m).1) m0 := by
  have hr : ∀ k, k ∈ removedKeys l1 ↔ k ∈ removedKeys l2 := fun k => (hp.filterMap _).mem_iff
  have hpk : ∀ k, k ∈ putKeys l1 ↔ k ∈ putKeys l2 := fun k => (hp.filterMap _).mem_iff
  funext k
  rw [setFold_final l1 m0 hset hdisj k,
      setFold_final l2 m0 (fun op h => hset op (hp.mem_iff.2 h))
        (fun j hj hq => hdisj j ((hr j).2 hj) ((hpk j).2 hq)) k]
  simp only [hr k, hpk k]

end Ioc.Conc
