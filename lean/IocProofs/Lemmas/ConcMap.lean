/-
  Lemmas about the sync2.Map / ConcurrentSets model of Ioc.Conc: the case rule for a step of a thread
  (`tstep_cases`) through which the invariants of runs are proved, the linearization-point criterion `Good`
  (every step of a call is silent, except one that takes the whole effect of the specification and fixes
  the result), its consequence for every concurrent history (`run_explained`), induction over sequential
  LoadOrStoreFn histories on one key (`lofn_hist_ind`) and their one-winner property, regularity of Range, and a
  replay function for counterexamples.
-/
import Ioc.Conc

namespace Ioc.Conc

/-- a property of `tstep progs s t` follows from the four things the step can be: nothing to do, the next call is
    invoked, the pending call returns, the pending call goes on -/
theorem tstep_cases {progs : Op → List Instr} {P : Sys → Prop} (s : Sys) (t : Nat)
    (idle : s.cur t = none → s.queue t = [] → P s)
    (call : ∀ op r, s.cur t = none → s.queue t = op :: r →
      P { s with cur := upd s.cur t (some (invoke op)), queue := upd s.queue t r })
    (ret : ∀ c res, s.cur t = some c → (stepCall progs s.map c).2.res = some res →
      P { s with map := (stepCall progs s.map c).1, cur := upd s.cur t none, hist := (t, c.op, res) :: s.hist })
    (go : ∀ c, s.cur t = some c → (stepCall progs s.map c).2.res = none →
      P { s with map := (stepCall progs s.map c).1, cur := upd s.cur t (some (stepCall progs s.map c).2) }) :
    P (tstep progs s t) := by
  unfold tstep
  split
  · split
    · exact idle ‹_› ‹_›
    · exact call _ _ ‹_› ‹_›
  · dsimp only
    split
    · exact ret _ _ ‹_› ‹_›
    · exact go _ ‹_› ‹_›

theorem upd_some {α : Type} {f : Nat → Option α} {t : Nat} {v : Option α} {Q : Nat → α → Prop}
    (hv : ∀ c, v = some c → Q t c) (hf : ∀ t' c, f t' = some c → Q t' c) :
    ∀ t' c, upd f t v t' = some c → Q t' c := by
  intro t' c hc
  unfold upd at hc
  split at hc
  · next e => exact e ▸ hv c hc
  · exact hf t' c hc

theorem run_inv {progs : Op → List Instr} {I : Sys → Prop} (step : ∀ s t, I s → I (tstep progs s t))
    (sched : List Nat) : ∀ {s : Sys}, I s → I (run progs s sched) := by
  induction sched with
  | nil => exact id
  | cons t r ih => exact fun h => ih (step _ t h)

theorem exec1_op (ins : Instr) (m : MapSt) (c : CallSt) : (exec1 ins m c).2.op = c.op := by
  unfold exec1
  repeat' split
  all_goals rfl

theorem stepCall_op (progs : Op → List Instr) (m : MapSt) (c : CallSt) : (stepCall progs m c).2.op = c.op := by
  unfold stepCall
  split
  · rfl
  · dsimp only
    split <;> simp [CallSt.ret, exec1_op]

/-- Linearization-point criterion for a method under the programs `progs`: from every position of its program a step
    either leaves the map untouched and stays inside the program, or returns — and then map and result are exactly
    what the sequential specification gives on the map at that very step. -/
def Good (progs : Op → List Instr) (op : Op) : Prop :=
  0 < (progs op).length ∧
  ∀ (m : MapSt) (c : CallSt), c.op = op → c.res = none → c.pc < (progs op).length →
    match (stepCall progs m c).2.res with
    | some r => op.spec m = ((stepCall progs m c).1, r)
    | none => (stepCall progs m c).1 = m ∧ (stepCall progs m c).2.pc < (progs op).length

/-- methods that are a single sync.Map primitive -/
def Op.single : Op → Bool
  | .load _ | .store _ _ | .loadOrStore _ _ | .delete _ | .put _ | .exists_ _ | .remove _ => true
  | _ => false

theorem good_single (op : Op) (h : op.single = true) : Good expectedProgs op := by
  have hlen : (expectedProgs op).length = 1 := by cases op <;> first | rfl | cases h
  refine ⟨by omega, fun m c hop hres hpc => ?_⟩
  obtain ⟨cop, pc, seen, todo, res⟩ := c
  obtain rfl : pc = 0 := by simp only at hpc; omega
  subst hop hres
  cases cop with
  | loadOrStoreFn | range => cases h
  | loadOrStore k v => cases hm : m k <;> simp [stepCall, expectedProgs, exec1, CallSt.ret, Op.spec, Op.key, Op.val, hm]
  | _ => exact rfl

/-- the repaired LoadOrStoreFn [Load, f, LoadOrStore]: linearization point = the Load when it hits, else the LoadOrStore -/
theorem good_lofn (k v : Nat) : Good expectedProgs (.loadOrStoreFn k v) := by
  refine ⟨Nat.succ_pos 2, fun m c hop hres hpc => ?_⟩
  obtain ⟨cop, pc, seen, todo, res⟩ := c
  subst hop hres
  have : pc = 0 ∨ pc = 1 ∨ pc = 2 := by simp [expectedProgs] at hpc; omega
  rcases this with rfl | rfl | rfl
  · cases hm : m k <;> simp [stepCall, expectedProgs, exec1, CallSt.ret, CallSt.next, Op.spec, hm]
  · exact ⟨rfl, Nat.lt_succ_self 2⟩
  · cases hm : m k <;> simp [stepCall, expectedProgs, exec1, CallSt.ret, Op.spec, Op.key, Op.val, hm]

structure LInv (progs : Op → List Instr) (m0 : MapSt) (s : Sys) : Prop where
  expl : Explains m0 s.hist s.map
  pend : ∀ t c, s.cur t = some c → Good progs c.op ∧ c.res = none ∧ c.pc < (progs c.op).length
  que : ∀ t op, op ∈ s.queue t → Good progs op

theorem linv_tstep {progs : Op → List Instr} {m0 : MapSt} (s : Sys) (t : Nat) (h : LInv progs m0 s) :
    LInv progs m0 (tstep progs s t) := by
  refine tstep_cases s t (fun _ _ => h) (fun op r _ hq => ?_) (fun c res hc hr => ?_) (fun c hc hr => ?_)
  · have hmem : ∀ o, o ∈ op :: r → Good progs o := hq ▸ h.que t
    refine ⟨h.expl, upd_some (fun c hc => ?_) h.pend, fun t' o (ho : o ∈ upd s.queue t r t') => ?_⟩
    · cases hc; exact ⟨hmem op List.mem_cons_self, rfl, (hmem op List.mem_cons_self).1⟩
    · unfold upd at ho
      split at ho
      · exact hmem o (List.mem_cons_of_mem _ ho)
      · exact h.que t' o ho
  all_goals
    obtain ⟨hgood, hres, hpc⟩ := h.pend t c hc
    have hmatch := hgood.2 s.map c rfl hres hpc
    rw [hr] at hmatch
  · exact ⟨⟨s.map, h.expl, hmatch⟩, upd_some (fun _ hn => nomatch hn) h.pend, h.que⟩
  · refine ⟨hmatch.1.symm ▸ h.expl, upd_some (fun c' hc' => ?_) h.pend, h.que⟩
    cases hc'
    rw [stepCall_op]; exact ⟨hgood, hr, hmatch.2⟩

/-- For every number of threads, every queue of Good calls per thread, every schedule: the completed calls, in the
    order of their linearization points, are a legal sequential history that ends in the current map. -/
theorem run_explained (progs : Op → List Instr) (m0 : MapSt) (queue : Nat → List Op)
    (hq : ∀ t op, op ∈ queue t → Good progs op) (sched : List Nat) :
    Explains m0 (run progs (Sys.start m0 queue) sched).hist (run progs (Sys.start m0 queue) sched).map :=
  (run_inv linv_tstep sched (s := Sys.start m0 queue) ⟨rfl, fun _ _ hc => (nomatch hc), hq⟩).expl

/-- Induction over the legal sequential histories of LoadOrStoreFn calls on the key `k`: a call either finds the key
    (returns what is there, changes nothing) or stores its own value. -/
theorem lofn_hist_ind {k : Nat} {m0 : MapSt} {C : List (Nat × Op × Res) → MapSt → Prop} (nil : C [] m0)
    (hit : ∀ t v w older m, m k = some w → C older m → C ((t, .loadOrStoreFn k v, .got (some w) true) :: older) m)
    (miss : ∀ t v older m, m k = none → C older m →
      C ((t, .loadOrStoreFn k v, .got (some v) false) :: older) (upd m k (some v))) :
    ∀ (h : List (Nat × Op × Res)) (m : MapSt), Explains m0 h m →
      (∀ e, e ∈ h → ∃ v, e.2.1 = .loadOrStoreFn k v) → C h m := by
  intro h
  induction h with
  | nil => intro m he _; cases he; exact nil
  | cons e older ih =>
    intro m he hall
    obtain ⟨t, op, r⟩ := e
    obtain ⟨m1, hold, hspec⟩ := he
    obtain ⟨v, rfl⟩ : ∃ v, op = .loadOrStoreFn k v := hall _ List.mem_cons_self
    have ih := ih m1 hold (fun e he => hall e (List.mem_cons_of_mem _ he))
    simp only [Op.spec] at hspec
    split at hspec <;> cases hspec
    · exact hit t v _ older _ ‹_› ih
    · exact miss t v older _ ‹_› ih

/-- at most one call wins (returns loaded = false), and only when the key was absent -/
theorem seq_one_winner (k : Nat) (m0 : MapSt) :
    ∀ (h : List (Nat × Op × Res)) (m : MapSt), Explains m0 h m →
      (∀ e, e ∈ h → ∃ v, e.2.1 = .loadOrStoreFn k v) →
      (h.filter isWin).length ≤ 1 ∧ ((h.filter isWin).length = 1 → m k ≠ none) ∧ (m0 k ≠ none → m k ≠ none) := by
  refine lofn_hist_ind (by simp) (fun t v w older m hm ih => ?_) (fun t v older m hm ih => ?_)
  · exact ⟨ih.1, fun _ => by simp [hm], fun _ => by simp [hm]⟩
  · have h0 : (older.filter isWin).length = 0 := by
      have := ih.1; have := mt ih.2.1 (fun hne => hne hm); omega
    exact ⟨by simp [List.filter, isWin, h0], fun _ => by simp [upd], fun _ => by simp [upd]⟩

structure RInv (H : List MapSt) (s : Sys) : Prop where
  cur : s.map ∈ H
  pend : ∀ t c, s.cur t = some c → c.res = none ∧ ∀ kv, kv ∈ c.seen → ∃ m, m ∈ H ∧ m kv.1 = some kv.2
  done : ∀ e, e ∈ s.hist → ∀ l, e.2.2 = .seen l → ∀ kv, kv ∈ l → ∃ m, m ∈ H ∧ m kv.1 = some kv.2

theorem exec1_seen (ins : Instr) (m : MapSt) (c : CallSt) (hres : c.res = none) :
    (∀ kv, kv ∈ (exec1 ins m c).2.seen → kv ∈ c.seen ∨ m kv.1 = some kv.2) ∧
    (∀ l, (exec1 ins m c).2.res = some (.seen l) → l = (exec1 ins m c).2.seen) := by
  cases ins with
  | pRange =>
    -- one more key is visited: what is appended to `seen` is that key's binding in `m`, if it has one
    have hextra : ∀ k kv, kv ∈ (match m k with | some w => [(k, w)] | none => []) → m kv.1 = some kv.2 := by
      intro k kv hkv
      split at hkv
      · next w hm => cases List.mem_singleton.mp hkv; exact hm
      · cases hkv
    have happ : ∀ k kv, kv ∈ c.seen ++ (match m k with | some w => [(k, w)] | none => []) →
        kv ∈ c.seen ∨ m kv.1 = some kv.2 :=
      fun k kv h => (List.mem_append.mp h).imp_right (hextra k kv)
    simp only [exec1]
    split
    · exact ⟨fun kv h => Or.inl h, fun l hl => by cases hl; rfl⟩
    · split
      · exact ⟨happ _, fun l hl => by cases hl; rfl⟩
      · exact ⟨happ _, fun l hl => nomatch hres.symm.trans hl⟩
  | _ =>
    -- the other primitives leave `seen` alone and return no enumeration
    simp only [exec1]
    repeat' split
    all_goals exact ⟨fun _ h => Or.inl h, fun l hl => by first | cases hl | cases hres.symm.trans hl⟩

theorem stepCall_seen (progs : Op → List Instr) (m : MapSt) (c : CallSt) (hres : c.res = none) :
    (∀ kv, kv ∈ (stepCall progs m c).2.seen → kv ∈ c.seen ∨ m kv.1 = some kv.2) ∧
    (∀ l, (stepCall progs m c).2.res = some (.seen l) → l = (stepCall progs m c).2.seen) := by
  unfold stepCall
  split
  · exact ⟨fun kv h => Or.inl h, fun l hl => by cases hl⟩
  · next ins _ =>
    obtain ⟨h1, h2⟩ := exec1_seen ins m c hres
    dsimp only
    split
    · exact ⟨h1, fun l hl => by cases hl⟩
    · exact ⟨h1, h2⟩

theorem rinv_tstep {progs : Op → List Instr} {H : List MapSt} {s : Sys} (h : RInv H s) (t : Nat)
    (hm : (tstep progs s t).map ∈ H) : RInv H (tstep progs s t) := by
  -- what the pending call of `t` has seen after its step was in some map of `H` or is in the current map
  have seen : ∀ c, s.cur t = some c → ∀ kv, kv ∈ (stepCall progs s.map c).2.seen → ∃ m, m ∈ H ∧ m kv.1 = some kv.2 := by
    intro c hc kv hkv
    obtain ⟨hres, hseen⟩ := h.pend t c hc
    exact ((stepCall_seen progs s.map c hres).1 kv hkv).elim (hseen kv) fun hnew => ⟨s.map, h.cur, hnew⟩
  revert hm
  refine tstep_cases (P := fun s' => s'.map ∈ H → RInv H s') s t (fun _ _ _ => h)
    (fun op r _ _ hm => ?_) (fun c res hc hr hm => ?_) (fun c hc hr hm => ?_)
  · exact ⟨hm, upd_some (fun c hc => by cases hc; exact ⟨rfl, fun _ hn => nomatch hn⟩) h.pend, h.done⟩
  · refine ⟨hm, upd_some (fun _ hn => nomatch hn) h.pend, fun e he l hl kv hkv => ?_⟩
    rcases List.mem_cons.mp he with rfl | he
    · cases hl
      rw [(stepCall_seen progs s.map c (h.pend t c hc).1).2 l hr] at hkv
      exact seen c hc kv hkv
    · exact h.done e he l hl kv hkv
  · exact ⟨hm, upd_some (fun c' hc' => by cases hc'; exact ⟨hr, seen c hc⟩) h.pend, h.done⟩

theorem head_mem_mapsAlong (progs : Op → List Instr) (s : Sys) (sched : List Nat) : s.map ∈ mapsAlong progs s sched := by
  cases sched <;> exact List.mem_cons_self

theorem rinv_run (progs : Op → List Instr) (H : List MapSt) : ∀ (sched : List Nat) (s : Sys),
    (∀ m, m ∈ mapsAlong progs s sched → m ∈ H) → RInv H s → RInv H (run progs s sched) := by
  intro sched
  induction sched with
  | nil => exact fun _ _ h => h
  | cons t r ih =>
    intro s hm h
    have hr := fun m hm' => hm m (List.mem_cons_of_mem _ hm')
    exact ih _ hr (rinv_tstep h t (hr _ (head_mem_mapsAlong progs _ r)))

/-- Range is regular: in every run (any threads, any calls, any schedule, any programs) every pair a completed Range
    reports was the key's value in the map at some point of the run -/
theorem range_regular (progs : Op → List Instr) (s0 : Sys) (h0 : s0.hist = [])
    (hp : ∀ t c, s0.cur t = some c → c.res = none ∧ c.seen = []) (sched : List Nat) (t : Nat) (ks : List Nat)
    (l : List (Nat × Nat)) (hmem : (t, Op.range ks, Res.seen l) ∈ (run progs s0 sched).hist) (k v : Nat) (hkv : (k, v) ∈ l) :
    ∃ m, m ∈ mapsAlong progs s0 sched ∧ m k = some v :=
  (rinv_run progs _ sched s0 (fun _ h => h) ⟨head_mem_mapsAlong progs s0 sched,
    fun t c hc => ⟨(hp t c hc).1, (hp t c hc).2 ▸ nofun⟩, h0 ▸ nofun⟩).done _ hmem l rfl (k, v) hkv

/-- the map after the history (newest first), or none when a recorded result is not the specification's -/
def replay (m0 : MapSt) : List (Nat × Op × Res) → Option MapSt
  | [] => some m0
  | (_, op, r) :: older =>
    match replay m0 older with
    | some m1 => if (op.spec m1).2 = r then some (op.spec m1).1 else none
    | none => none

theorem replay_of_explains (m0 : MapSt) : ∀ (h : List (Nat × Op × Res)) (m : MapSt), Explains m0 h m → replay m0 h = some m := by
  intro h
  induction h with
  | nil => intro m he; simp only [Explains] at he; subst he; rfl
  | cons e older ih =>
    intro m he
    obtain ⟨t, op, r⟩ := e
    obtain ⟨m1, hold, hspec⟩ := he
    simp only [replay, ih m1 hold, hspec, if_true]

end Ioc.Conc
