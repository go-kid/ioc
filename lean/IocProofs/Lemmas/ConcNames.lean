/-
  Lemmas for C14 (Ioc.Conc section 6): which registered names get a definition of their own when the definition registry's map is
  keyed by `key name` (`Ioc.Conc.definedFrom` / `definedNames`).
-/
import Ioc.Conc

namespace Ioc.Conc

theorem definedFrom_length_le {α κ : Type} [DecidableEq κ] (key : α → κ) :
    ∀ (xs : List α) (seen : List κ), (definedFrom key seen xs).length ≤ xs.length := by
  intro xs
  induction xs with
  | nil => intro seen; simp [definedFrom]
  | cons x xs ih =>
    intro seen
    unfold definedFrom
    split
    · have := ih seen; simp only [List.length_cons]; omega
    · have := ih (key x :: seen); simp only [List.length_cons]; omega

/-- a key that is injective on the registered names keeps every one of them -/
theorem definedFrom_all {α κ : Type} [DecidableEq κ] (key : α → κ) :
    ∀ (xs : List α) (seen : List κ), xs.Nodup → (∀ a, a ∈ xs → ∀ b, b ∈ xs → key a = key b → a = b) →
      (∀ a, a ∈ xs → key a ∉ seen) → definedFrom key seen xs = xs := by
  intro xs
  induction xs with
  | nil => intro seen _ _ _; rfl
  | cons x xs ih =>
    intro seen hnd hinj hseen
    have hx : key x ∉ seen := hseen x (List.mem_cons_self)
    unfold definedFrom
    rw [if_neg hx]
    have hnd' := List.nodup_cons.mp hnd
    congr 1
    refine ih (key x :: seen) hnd'.2 (fun a ha b hb => hinj a (List.mem_cons_of_mem _ ha) b (List.mem_cons_of_mem _ hb)) ?_
    intro a ha hmem
    rcases List.mem_cons.mp hmem with h | h
    · have : a = x := hinj a (List.mem_cons_of_mem _ ha) x List.mem_cons_self h
      exact hnd'.1 (this ▸ ha)
    · exact hseen a (List.mem_cons_of_mem _ ha) h

/-- a name whose key is taken, or two different names with one key: somebody is left without a definition -/
theorem definedFrom_drops {α κ : Type} [DecidableEq κ] (key : α → κ) :
    ∀ (xs : List α) (seen : List κ),
      ((∃ a, a ∈ xs ∧ key a ∈ seen) ∨ (∃ a, a ∈ xs ∧ ∃ b, b ∈ xs ∧ a ≠ b ∧ key a = key b)) →
      (definedFrom key seen xs).length < xs.length := by
  intro xs
  induction xs with
  | nil =>
    intro seen h
    rcases h with ⟨a, ha, _⟩ | ⟨a, ha, _⟩ <;> cases ha
  | cons x xs ih =>
    intro seen h
    unfold definedFrom
    split
    · have := definedFrom_length_le key xs seen
      simp only [List.length_cons]; omega
    · rename_i hx
      have hlt : (definedFrom key (key x :: seen) xs).length < xs.length := by
        apply ih
        rcases h with ⟨a, ha, hk⟩ | ⟨a, ha, b, hb, hne, hk⟩
        · rcases List.mem_cons.mp ha with rfl | ha'
          · exact absurd hk hx
          · exact Or.inl ⟨a, ha', List.mem_cons_of_mem _ hk⟩
        · rcases List.mem_cons.mp ha with rfl | ha'
          · rcases List.mem_cons.mp hb with rfl | hb'
            · exact absurd rfl hne
            · exact Or.inl ⟨b, hb', by rw [← hk]; exact List.mem_cons_self⟩
          · rcases List.mem_cons.mp hb with rfl | hb'
            · exact Or.inl ⟨a, ha', by rw [hk]; exact List.mem_cons_self⟩
            · exact Or.inr ⟨a, ha', b, hb', hne, hk⟩
      simp only [List.length_cons]; omega

end Ioc.Conc
