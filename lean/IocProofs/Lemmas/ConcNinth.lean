/-
  Lemmas for section 9 of Ioc.Conc (who else takes part in the start of an App that is closed; the factory driven directly):
  * `resolveAfter_mem`: a processor that answers true has its PostProcessProperties applied whatever the others answer;
    `resolveAfterBreak_stops`: the loop that ends at the first `false` applies nothing behind that processor;
  * `scanStores_mem`: a definition stored in registry r is in registry r after all the stores, in every order;
  * `seq_loads_same`: a sequential history of reads of one key returns what was there and changes nothing.
-/
import Ioc.Conc
import IocProofs.Lemmas.ConcMap

namespace Ioc.Conc

theorem resolveAfter_mem (ps : List IProc) (p : IProc) (hp : p ∈ ps) (ha : p.aware = true) (hpop : p.populate = true) :
    p.id ∈ resolveAfter ps := by
  induction ps with
  | nil => cases hp
  | cons q rest ih =>
    unfold resolveAfter
    rcases List.mem_cons.mp hp with h | h
    · subst h; simp [ha, hpop]
    · split
      · exact List.mem_cons_of_mem _ (ih h)
      · exact ih h

theorem resolveAfterBreak_stops (pre post : List IProc) (v : IProc) (ha : v.aware = true) (hv : v.populate = false) :
    ∀ x, x ∈ resolveAfterBreak (pre ++ v :: post) → x ∈ pre.map (·.id) := by
  induction pre with
  | nil =>
    intro x hx
    simp [resolveAfterBreak, ha, hv] at hx
  | cons q rest ih =>
    intro x hx
    simp only [List.cons_append, resolveAfterBreak] at hx
    split at hx
    · exact List.mem_cons_of_mem _ (ih x hx)
    · split at hx
      · rcases List.mem_cons.mp hx with h | h
        · subst h; simp
        · exact List.mem_cons_of_mem _ (ih x h)
      · cases hx

theorem scanStores_mono (acts : List (Nat × Nat)) : ∀ (regs : Nat → List Nat) (r name : Nat),
    name ∈ regs r → name ∈ scanStores regs acts r := by
  induction acts with
  | nil => intro regs r name h; exact h
  | cons a rest ih =>
    intro regs r name h
    unfold scanStores
    rw [List.foldl_cons]
    refine ih _ r name ?_
    unfold upd
    split
    · rename_i heq; subst heq; exact List.mem_cons_of_mem _ h
    · exact h

theorem scanStores_mem (acts : List (Nat × Nat)) : ∀ (regs : Nat → List Nat) (a : Nat × Nat),
    a ∈ acts → a.2 ∈ scanStores regs acts a.1 := by
  induction acts with
  | nil => intro _ a h; cases h
  | cons b rest ih =>
    intro regs a h
    rcases List.mem_cons.mp h with h | h
    · subst h
      unfold scanStores
      rw [List.foldl_cons]
      refine scanStores_mono rest _ a.1 a.2 ?_
      simp [upd]
    · unfold scanStores
      rw [List.foldl_cons]
      exact ih _ a h

/-- a legal sequential history of `load k` calls: nothing is written, every call returns what the map held at the start -/
theorem seq_loads_same (k : Nat) (m0 : MapSt) :
    ∀ (h : List (Nat × Op × Res)) (m : MapSt), Explains m0 h m → (∀ e, e ∈ h → e.2.1 = .load k) →
      m = m0 ∧ ∀ e, e ∈ h → e.2.2 = .got (m0 k) (m0 k).isSome := by
  intro h
  induction h with
  | nil => intro m hex _; exact ⟨hex, fun e he => nomatch he⟩
  | cons e0 older ih =>
    intro m hex hall
    obtain ⟨t, op, r⟩ := e0
    obtain ⟨m1, hold, hspec⟩ := hex
    obtain rfl : op = .load k := hall _ List.mem_cons_self
    obtain ⟨rfl, hres⟩ := ih m1 hold (fun e he => hall e (List.mem_cons_of_mem _ he))
    cases hspec
    refine ⟨rfl, fun e he => ?_⟩
    rcases List.mem_cons.mp he with rfl | he
    · rfl
    · exact hres e he

end Ioc.Conc
