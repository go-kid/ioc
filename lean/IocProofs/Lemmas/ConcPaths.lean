/-
  Constructing schedules of the fork/join system: frame lemmas ("only worker i moved"), a worker that owes
  nothing to its siblings runs to completion on its own, main spawns up to any index, and soundness of the
  executable scheduler of Ioc.Conc (`fire`, `schedule`) with respect to `Step`.
-/
import IocProofs.Lemmas.ConcFan

namespace Ioc.Conc
open WPc

/-- between s and s' nothing but worker i's own state (and the counters it owns) changed -/
structure OnlyW (i : Nat) (s s' : St) : Prop where
  pc : s'.mainPc = s.mainPc
  sp : s'.spawned = s.spawned
  wpc : ∀ j, j ≠ i → s'.wpc j = s.wpc j
  calls : ∀ j, j ≠ i → s'.calls j = s.calls j

theorem OnlyW.refl (i : Nat) (s : St) : OnlyW i s s := ⟨rfl, rfl, fun _ _ => rfl, fun _ _ => rfl⟩

theorem OnlyW.trans {i : Nat} {a b c : St} (h1 : OnlyW i a b) (h2 : OnlyW i b c) : OnlyW i a c :=
  ⟨h2.pc.trans h1.pc, h2.sp.trans h1.sp, fun j hj => (h2.wpc j hj).trans (h1.wpc j hj),
   fun j hj => (h2.calls j hj).trans (h1.calls j hj)⟩

theorem Steps.single {cfg : FanCfg} {n : Nat} {fails : Nat → Bool} {s t : St} (h : Step cfg n fails s t) :
    Steps cfg n fails s t :=
  Steps.tail s s t (Steps.refl s) h

theorem Step.head {cfg : FanCfg} {n : Nat} {fails : Nat → Bool} {s t u : St} (h : Step cfg n fails s t)
    (h' : Steps cfg n fails t u) : Steps cfg n fails s u :=
  (Steps.single h).trans h'

theorem worker_step_frame (cfg : FanCfg) (n : Nat) (fails : Nat → Bool) (s : St) (i : Nat) (q : WPc) (mu' : Option Nat)
    (h : WStep cfg (fails i) i (s.wpc i) s.mu q mu') :
    ∃ s', Step cfg n fails s s' ∧ s'.wpc i = q ∧ s'.mu = mu' ∧ OnlyW i s s' :=
  ⟨_, Step.worker s i q mu' h, by simp [upd], rfl,
   ⟨rfl, rfl, fun j hj => by simp [upd, hj], fun j hj => by simp [upd, hj]⟩⟩

/-- number of own steps a worker still has to take -/
def rank : WPc → Nat
  | .idle => 0 | .finished => 0 | .post => 1 | .accDone => 2 | .inAcc => 3 | .locked => 4
  | .called => 5 | .calling => 6 | .started => 7 | .ready => 8

/-- without a critical section (Close) every unfinished worker has an enabled step, whatever the others do -/
theorem worker_progress_nocrit (cfg : FanCfg) (hc : cfg.crit = false) (fail : Bool) (i : Nat) (p : WPc)
    (hp : p ≠ .idle) (hpf : p ≠ .finished) (mu : Option Nat) :
    ∃ q mu', WStep cfg fail i p mu q mu' ∧ rank q < rank p := by
  cases p with
  | idle => exact absurd rfl hp
  | finished => exact absurd rfl hpf
  | ready => exact ⟨_, _, WStep.start mu, by decide⟩
  | started => exact ⟨_, _, WStep.callBegin mu, by decide⟩
  | calling => exact ⟨_, _, WStep.callEnd mu, by decide⟩
  | called => exact ⟨_, _, WStep.skip mu (Or.inr hc), by decide⟩
  | locked => exact ⟨_, _, WStep.accBeginG mu, by decide⟩
  | inAcc => exact ⟨_, _, WStep.accEnd mu, by decide⟩
  | accDone =>
    cases hg : cfg.guarded with
    | true => exact ⟨_, _, WStep.unlock mu hg, by decide⟩
    | false => exact ⟨_, _, WStep.leave mu hg, by decide⟩
  | post => exact ⟨_, _, WStep.done mu, by decide⟩

theorem worker_runs (cfg : FanCfg) (hc : cfg.crit = false) (n : Nat) (fails : Nat → Bool) (i : Nat) (s : St)
    (hne : s.wpc i ≠ .idle) : ∃ s', Steps cfg n fails s s' ∧ s'.wpc i = .finished ∧ OnlyW i s s' := by
  generalize hr : rank (s.wpc i) = r
  induction r using Nat.strongRecOn generalizing s with | _ r ih => ?_
  by_cases hf : s.wpc i = .finished
  · exact ⟨s, Steps.refl s, hf, OnlyW.refl i s⟩
  · obtain ⟨q, mu', hw, hlt⟩ := worker_progress_nocrit cfg hc (fails i) i (s.wpc i) hne hf s.mu
    obtain ⟨s1, hs1, hq, _, ho⟩ := worker_step_frame cfg n fails s i q mu' hw
    obtain ⟨s2, hs2, hfin, ho2⟩ := ih _ (hr ▸ hlt) s1 (hq ▸ hw.facts.2.2.1) (by rw [hq])
    exact ⟨s2, hs1.head hs2, hfin, ho.trans ho2⟩

/-- main executes `Add` if it has not yet, and d iterations of the loop -/
theorem main_spawns (cfg : FanCfg) (hsp : cfg.spawn = true) (n : Nat) (fails : Nat → Bool) :
    ∀ (d : Nat) (s : St), s.mainPc ≤ 1 → s.spawned + d ≤ n →
      ∃ s', Steps cfg n fails s s' ∧ s'.mainPc = 1 ∧ s'.spawned = s.spawned + d ∧
        (∀ j, s'.wpc j = if s.spawned ≤ j ∧ j < s.spawned + d then .ready else s.wpc j) ∧ s'.calls = s.calls ∧
        s'.wg = s.wg + (if s.mainPc = 0 ∧ cfg.addFirst = true then (n : Int) else 0) ∧ s'.mu = s.mu := by
  intro d
  induction d with
  | zero =>
    intro s h1 _
    by_cases h0 : s.mainPc = 0
    · exact ⟨_, .single (Step.add s h0), rfl, rfl, fun j => (if_neg (by omega)).symm, rfl, by simp [h0], rfl⟩
    · exact ⟨s, Steps.refl s, by omega, rfl, fun j => (if_neg (by omega)).symm, rfl, by simp [h0], rfl⟩
  | succ d ih =>
    intro s h1 hle
    obtain ⟨s1, hs1, hpc, hspw, hw, hc, hwg, hmu⟩ := ih s h1 (by omega)
    refine ⟨_, Steps.tail s s1 _ hs1 (Step.spawn s1 hpc (by omega) (by rw [hsp]; exact nofun)),
      hpc, by simp only; omega, fun j => ?_, hc, hwg, hmu⟩
    show upd s1.wpc s1.spawned .ready j = _
    by_cases hj : j = s1.spawned
    · rw [hj, upd_same, if_pos (by omega)]
    · have : (s.spawned ≤ j ∧ j < s.spawned + (d + 1)) ↔ (s.spawned ≤ j ∧ j < s.spawned + d) := by omega
      simp only [upd_ne _ _ _ hj, hw j, this]

/-- main executes `Add` and d iterations of the loop before any goroutine is scheduled -/
theorem main_spawned (cfg : FanCfg) (hsp : cfg.spawn = true) (n : Nat) (fails : Nat → Bool) (d : Nat) (hd : d ≤ n) :
    ∃ s, Reach cfg n fails s ∧ s.mainPc = 1 ∧ s.spawned = d ∧ (∀ j, s.wpc j = if j < d then .ready else .idle) ∧
      (∀ j, s.calls j = 0) ∧ s.wg = (if cfg.addFirst then (n : Int) else 0) ∧ s.mu = none := by
  obtain ⟨s, hs, hpc, hspw, hw, hc, hwg, hmu⟩ := main_spawns cfg hsp n fails d init (Nat.zero_le 1) (by simpa [init] using hd)
  exact ⟨s, hs, hpc, by simpa [init] using hspw, fun j => by simpa [init] using hw j,
    fun j => by rw [hc]; rfl, by simpa [init] using hwg, hmu⟩

/-- the loop is over and the Wait can be passed: main returns, nothing else moves -/
theorem main_returns (cfg : FanCfg) (n : Nat) (fails : Nat → Bool) (s : St) (hpc : s.mainPc = 1) (hsp : s.spawned = n)
    (hw : cfg.wait = true → s.wg = 0) : Steps cfg n fails s { s with mainPc := 3 } :=
  (Step.spawned s hpc hsp).head (.single (Step.wait _ rfl hw))

/-- the workers 0 … k-1 take their turns one after the other: when every worker can get from `P` to `Q` on its own,
    all of them can, and nothing else moves -/
theorem workers_in_turn {cfg : FanCfg} {n : Nat} {fails : Nat → Bool} (P Q : WPc → Prop) (k : Nat)
    (turn : ∀ i, i < k → ∀ s, P (s.wpc i) → ∃ s', Steps cfg n fails s s' ∧ Q (s'.wpc i) ∧ OnlyW i s s')
    (s : St) (hp : ∀ j, j < k → P (s.wpc j)) :
    ∃ s', Steps cfg n fails s s' ∧ (∀ j, j < k → Q (s'.wpc j)) ∧ (∀ j, k ≤ j → s'.wpc j = s.wpc j) ∧
      s'.mainPc = s.mainPc ∧ s'.spawned = s.spawned := by
  induction k with
  | zero => exact ⟨s, Steps.refl s, fun j hj => by omega, fun _ _ => rfl, rfl, rfl⟩
  | succ k ih =>
    obtain ⟨s1, hs1, hq1, hrest1, hpc1, hsp1⟩ := ih (fun i hi => turn i (by omega)) (fun j hj => hp j (by omega))
    obtain ⟨s2, hs2, hq2, o⟩ := turn k (by omega) s1 (hrest1 k (Nat.le_refl _) ▸ hp k (by omega))
    refine ⟨s2, hs1.trans hs2, fun j hj => ?_, fun j hj => ?_, o.pc.trans hpc1, o.sp.trans hsp1⟩
    · by_cases hjk : j = k
      · exact hjk ▸ hq2
      · rw [o.wpc j hjk]; exact hq1 j (by omega)
    · rw [o.wpc j (by omega)]; exact hrest1 j (by omega)

/-- a spawned worker walks into its call; it does not return, nothing else moves -/
theorem worker_enters (cfg : FanCfg) (n : Nat) (fails : Nat → Bool) (s : St) (i : Nat) (hr : s.wpc i = .ready) :
    ∃ s', Steps cfg n fails s s' ∧ s'.wpc i = .calling ∧ OnlyW i s s' := by
  obtain ⟨s1, h1, q1, _, o1⟩ := worker_step_frame cfg n fails s i .started s.mu (hr ▸ WStep.start s.mu)
  obtain ⟨s2, h2, q2, _, o2⟩ := worker_step_frame cfg n fails s1 i .calling s1.mu (q1 ▸ WStep.callBegin s1.mu)
  exact ⟨s2, h1.head (.single h2), q2, o1.trans o2⟩

/-- without the mutex a failing worker walks from `ready` into the access, whatever the others are doing -/
theorem worker_to_inAcc_unguarded (cfg : FanCfg) (hc : cfg.crit = true) (hg : cfg.guarded = false) (n : Nat)
    (fails : Nat → Bool) (s : St) (i : Nat) (hf : fails i = true) (hr : s.wpc i = .ready) :
    ∃ s', Steps cfg n fails s s' ∧ s'.wpc i = .inAcc ∧ OnlyW i s s' := by
  obtain ⟨s2, h2, q2, o2⟩ := worker_enters cfg n fails s i hr
  obtain ⟨s3, h3, q3, _, o3⟩ := worker_step_frame cfg n fails s2 i .called s2.mu (q2 ▸ WStep.callEnd s2.mu)
  obtain ⟨s4, h4, q4, _, o4⟩ := worker_step_frame cfg n fails s3 i .inAcc s3.mu (q3 ▸ WStep.accBeginU s3.mu hf hc hg)
  exact ⟨s4, h2.trans (h3.head (.single h4)), q4, (o2.trans o3).trans o4⟩

/-- a shared variable without a mutex: for every n ≥ 2 and every failing subset that contains workers 0 and 1 there is
    a schedule in which both are inside their access at the same time -/
theorem two_inAcc_unguarded (cfg : FanCfg) (hsp : cfg.spawn = true) (hc : cfg.crit = true) (hg : cfg.guarded = false)
    (n : Nat) (hn : 2 ≤ n) (fails : Nat → Bool) (h0 : fails 0 = true) (h1 : fails 1 = true) :
    ∃ s, Reach cfg n fails s ∧ inErrs s 0 ∧ inErrs s 1 := by
  obtain ⟨s1, hs1, -, -, hw1, -⟩ := main_spawned cfg hsp n fails 2 hn
  have hf : ∀ i, i < 2 → fails i = true := fun i hi => by
    obtain rfl | rfl : i = 0 ∨ i = 1 := by omega
    · exact h0
    · exact h1
  obtain ⟨s2, hs2, hin, -⟩ := workers_in_turn (· = .ready) (· = .inAcc) 2
    (fun i hi s hr => worker_to_inAcc_unguarded cfg hc hg n fails s i (hf i hi) hr) s1 (fun j hj => by rw [hw1 j, if_pos hj])
  exact ⟨s2, hs1.trans hs2, hin 0 (by decide), hin 1 (by decide)⟩

/-- fork/join without a critical section: main can return (when every worker returns), for every n -/
theorem joined_can_return {cfg : FanCfg} (hj : cfg.Joined) (hc : cfg.crit = false) (n : Nat) (fails : Nat → Bool) :
    ∃ s, Reach cfg n fails s ∧ s.mainPc = 3 := by
  obtain ⟨s1, hs1, hpc1, hsp1, hw1, -⟩ := main_spawned cfg hj.2.1 n fails n (Nat.le_refl n)
  obtain ⟨s2, hs2, hfin, -, hpc2, hsp2⟩ := workers_in_turn (· ≠ .idle) (· = .finished) n
    (fun i _ s => worker_runs cfg hc n fails i s) s1 (fun j hj => by rw [hw1 j, if_pos hj]; nofun)
  have hr2 : Reach cfg n fails s2 := hs1.trans hs2
  refine ⟨_, hr2.trans (main_returns cfg n fails s2 (hpc2.trans hpc1) (hsp2.trans hsp1) fun _ => ?_), rfl⟩
  rw [wg_reach hj hr2, cntFin_all _ n hfin, hpc2, hpc1]
  simp

/-- One goroutine per item and no shared variable: a failing or slow worker never keeps the others from being called.
    From EVERY reachable state there is a continuation in which worker i is called (exactly once) and finishes while
    every sibling stays where it is — the only thing that may happen to a sibling is that main spawns its goroutine. -/
theorem no_block (cfg : FanCfg) (hsp : cfg.spawn = true) (hc : cfg.crit = false) (n : Nat) (fails : Nat → Bool) (s : St)
    (h : Reach cfg n fails s) (i : Nat) (hi : i < n) :
    ∃ s', Steps cfg n fails s s' ∧ s'.wpc i = .finished ∧ s'.calls i = 1 ∧
      ∀ j, j ≠ i → (s'.wpc j = s.wpc j ∨ (s.wpc j = .idle ∧ s'.wpc j = .ready)) ∧ s'.calls j = s.calls j := by
  have hinv := finv_reach h
  -- main's loop reaches worker i, unless it already has
  obtain ⟨s1, hs1, hne, hc1, hfr1⟩ : ∃ s1, Steps cfg n fails s s1 ∧ s1.wpc i ≠ .idle ∧ s1.calls = s.calls ∧
      ∀ j, s1.wpc j = s.wpc j ∨ (s.wpc j = .idle ∧ s1.wpc j = .ready) := by
    by_cases hlt : i < s.spawned
    · exact ⟨s, Steps.refl s, hinv.spw i hlt, rfl, fun j => Or.inl rfl⟩
    · obtain ⟨s1, hs1, -, -, hw1, hc1, -⟩ := main_spawns cfg hsp n fails (i + 1 - s.spawned) s
        (Nat.le_of_not_lt fun hc => by have := hinv.spn hc; omega) (by omega)
      refine ⟨s1, hs1, by rw [hw1 i, if_pos (by omega)]; nofun, hc1, fun j => ?_⟩
      rw [hw1 j]
      split
      · next hr => exact Or.inr ⟨hinv.unsp j hr.1, rfl⟩
      · exact Or.inl rfl
  -- worker i runs on its own
  obtain ⟨s2, hs2, hfin, ho⟩ := worker_runs cfg hc n fails i s1 hne
  refine ⟨s2, hs1.trans hs2, hfin, by rw [(finv_reach (h.trans (hs1.trans hs2))).calls_eq, hfin]; rfl,
    fun j hj => ⟨?_, by rw [ho.calls j hj, hc1]⟩⟩
  rw [ho.wpc j hj]; exact hfr1 j

theorem wnext_sound (cfg : FanCfg) (fail : Bool) (i : Nat) (p : WPc) (mu : Option Nat) (q : WPc) (mu' : Option Nat)
    (h : wnext cfg fail i p mu = some (q, mu')) : WStep cfg fail i p mu q mu' := by
  cases p with
  | idle | finished => cases h
  | accDone =>
    cases hg : cfg.guarded <;> simp only [wnext, hg] at h <;> cases h
    · exact WStep.leave mu hg
    · exact WStep.unlock mu hg
  | called =>
    cases hf : fail with
    | false => simp [wnext, hf] at h; obtain ⟨rfl, rfl⟩ := h; exact WStep.skip mu (Or.inl rfl)
    | true =>
      cases hc : cfg.crit with
      | false => simp [wnext, hf, hc] at h; obtain ⟨rfl, rfl⟩ := h; exact WStep.skip mu (Or.inr hc)
      | true =>
        cases hg : cfg.guarded with
        | false => simp [wnext, hf, hc, hg] at h; obtain ⟨rfl, rfl⟩ := h; exact WStep.accBeginU mu rfl hc hg
        | true =>
          cases mu with
          | some o => simp [wnext, hf, hc, hg] at h
          | none => simp [wnext, hf, hc, hg] at h; obtain ⟨rfl, rfl⟩ := h; exact WStep.lock rfl hc hg
  | _ => cases h; constructor

theorem fire_sound (cfg : FanCfg) (n : Nat) (fails : Nat → Bool) (s s' : St) (a : Act)
    (h : fire cfg n fails s a = some s') : Step cfg n fails s s' := by
  cases a with
  | main =>
    -- `split` on these nested tests is slow to check: the cases are taken by hand
    unfold fire at h
    by_cases h0 : s.mainPc = 0
    · rw [if_pos h0] at h; cases h; exact Step.add s h0
    by_cases h1 : s.mainPc = 1
    · rw [if_neg h0, if_pos h1] at h
      by_cases hk : s.spawned < n
      · rw [if_pos hk, Option.ite_none_right_eq_some] at h
        obtain ⟨hseq, h⟩ := h; cases h; exact Step.spawn s h1 hk hseq
      · rw [if_neg hk, Option.ite_none_right_eq_some] at h
        obtain ⟨hn, h⟩ := h; cases h; exact Step.spawned s h1 hn
    by_cases h2 : s.mainPc = 2
    · rw [if_neg h0, if_neg h1, if_pos h2, Option.ite_none_right_eq_some] at h
      obtain ⟨hw, h⟩ := h; cases h; exact Step.wait s h2 hw
    · rw [if_neg h0, if_neg h1, if_neg h2] at h; cases h
  | w i =>
    simp only [fire] at h
    split at h
    · cases h
    · next q mu' hq => cases h; exact Step.worker s i q mu' (wnext_sound _ _ _ _ _ _ _ hq)

theorem schedule_sound (cfg : FanCfg) (n : Nat) (fails : Nat → Bool) :
    ∀ (fuel seed : Nat) (s : St), Steps cfg n fails s (schedule cfg n fails fuel seed s) := by
  intro fuel
  induction fuel with
  | zero => intro seed s; exact Steps.refl s
  | succ fuel ih =>
    intro seed s
    simp only [schedule]
    split
    · exact Steps.refl s
    · split
      · next s' hs' =>
        obtain ⟨a, _, ha⟩ := List.exists_of_findSome?_eq_some hs'
        exact (fire_sound cfg n fails s s' a ha).head (ih _ s')
      · exact Steps.refl s

/-- a list of actions, each of which must be enabled -/
def runActs (cfg : FanCfg) (n : Nat) (fails : Nat → Bool) : List Act → St → Option St
  | [], s => some s
  | a :: r, s => match fire cfg n fails s a with | some s' => runActs cfg n fails r s' | none => none

theorem runActs_sound (cfg : FanCfg) (n : Nat) (fails : Nat → Bool) :
    ∀ (acts : List Act) (s s' : St), runActs cfg n fails acts s = some s' → Steps cfg n fails s s' := by
  intro acts
  induction acts with
  | nil => intro s s' h; cases h; exact Steps.refl s
  | cons a r ih =>
    intro s s' h
    simp only [runActs] at h
    split at h
    · next s1 h1 => exact (fire_sound cfg n fails s s1 a h1).head (ih s1 s' h)
    · cases h

end Ioc.Conc
