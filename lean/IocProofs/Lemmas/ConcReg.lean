/-
  Lemmas for section 5 of Ioc.Conc (what the user's logger holds when Close returns; load-or-store of a definition):
  * every completed call of a run was taken from a queue (`hist_ops_from_queue`);
  * in a sequential history of LoadOrStoreFn calls on one key every call returns the value the map holds for that key at
    the end (`seq_all_kept`): all callers of one load-or-store hold the SAME value, the stored one;
  * `reported` counts every failing closer once all workers have finished (`reported_all_finished`).
-/
import IocProofs.Lemmas.ConcMap

namespace Ioc.Conc

/-- every completed call of a run was taken from a queue (or was pending / complete at the start): a property `P` of
    operations that holds for all queued, pending and completed calls of `s` holds for every completed call of the run -/
theorem hist_ops_from_queue (progs : Op → List Instr) (P : Op → Prop) :
    ∀ (sched : List Nat) (s : Sys),
      (∀ t op, op ∈ s.queue t → P op) → (∀ t c, s.cur t = some c → P c.op) → (∀ e, e ∈ s.hist → P e.2.1) →
      ∀ e, e ∈ (run progs s sched).hist → P e.2.1 := by
  intro sched s h1 h2 h3
  let I : Sys → Prop := fun s =>
    (∀ t op, op ∈ s.queue t → P op) ∧ (∀ t c, s.cur t = some c → P c.op) ∧ ∀ e, e ∈ s.hist → P e.2.1
  refine (run_inv (I := I) (fun s t ⟨h1, h2, h3⟩ => ?_) sched ⟨h1, h2, h3⟩).2.2
  refine tstep_cases (P := I) s t (fun _ _ => ⟨h1, h2, h3⟩) (fun op r _ hq => ?_) (fun c res hc _ => ?_) (fun c hc _ => ?_)
  · have hmem : ∀ o, o ∈ op :: r → P o := hq ▸ h1 t
    refine ⟨fun t' o (ho : o ∈ upd s.queue t r t') => ?_,
      upd_some (fun c hc => by cases hc; exact hmem op List.mem_cons_self) h2, h3⟩
    unfold upd at ho
    split at ho
    · exact hmem o (List.mem_cons_of_mem _ ho)
    · exact h1 t' o ho
  · refine ⟨h1, upd_some (fun _ hn => nomatch hn) h2, fun e he => ?_⟩
    rcases List.mem_cons.mp he with rfl | he
    · exact h2 t c hc
    · exact h3 e he
  · exact ⟨h1, upd_some (fun c' hc' => by cases hc'; rw [stepCall_op]; exact h2 t c hc) h2, h3⟩

/-- from a fresh start every completed call of a run was taken from a queue -/
theorem hist_ops_start (progs : Op → List Instr) (P : Op → Prop) (m0 : MapSt) (queue : Nat → List Op)
    (hq : ∀ t op, op ∈ queue t → P op) (sched : List Nat) :
    ∀ e, e ∈ (run progs (Sys.start m0 queue) sched).hist → P e.2.1 :=
  hist_ops_from_queue progs P sched _ hq (fun _ _ hc => nomatch hc) (fun _ he => nomatch he)

/-- any number of callers of LoadOrStoreFn on ONE key, any values, any initial map, any schedule: the completed calls form
    a legal sequential history of LoadOrStoreFn calls on that key -/
theorem lofn_run {progs : Op → List Instr} (hp : progs = expectedProgs) (k : Nat) (m0 : MapSt) (queue : Nat → List Op)
    (hq : ∀ t op, op ∈ queue t → ∃ v, op = .loadOrStoreFn k v) (sched : List Nat) :
    Explains m0 (run progs (Sys.start m0 queue) sched).hist (run progs (Sys.start m0 queue) sched).map ∧
    ∀ e, e ∈ (run progs (Sys.start m0 queue) sched).hist → ∃ v, e.2.1 = .loadOrStoreFn k v :=
  ⟨hp ▸ run_explained expectedProgs m0 queue (fun t op h => let ⟨v, hv⟩ := hq t op h; hv ▸ good_lofn k v) sched,
   hist_ops_start progs _ m0 queue hq sched⟩

theorem mem_ite_singleton {α : Type} {c : Prop} [Decidable c] {a x : α} (h : x ∈ if c then [a] else []) : x = a := by
  split at h
  · exact List.mem_singleton.mp h
  · cases h

/-- sequential histories of LoadOrStoreFn on one key: every call returns the value the map holds for the key at the end -/
theorem seq_all_kept (k : Nat) (m0 : MapSt) :
    ∀ (h : List (Nat × Op × Res)) (m : MapSt), Explains m0 h m →
      (∀ e, e ∈ h → ∃ v, e.2.1 = .loadOrStoreFn k v) →
      ∀ e, e ∈ h → ∃ w l, e.2.2 = .got (some w) l ∧ m k = some w := by
  refine lofn_hist_ind (fun _ he => nomatch he) (fun t v w older m hm ih e he => ?_) (fun t v older m hm ih e he => ?_)
  · rcases List.mem_cons.mp he with rfl | he
    · exact ⟨w, true, rfl, hm⟩
    · exact ih e he
  · rcases List.mem_cons.mp he with rfl | he
    · exact ⟨v, false, rfl, if_pos rfl⟩
    · obtain ⟨w, _, _, hw⟩ := ih e he
      cases hm.symm.trans hw

/-- when every one of the first n workers has finished, every failing one's report is complete -/
theorem reported_all_finished (n : Nat) (fails : Nat → Bool) (s : St) (h : ∀ i, i < n → s.wpc i = .finished) :
    reported n fails s = failing n fails := by
  unfold reported failing
  congr 1
  apply List.filter_congr
  intro i hi
  have hlt : i < n := List.mem_range.mp hi
  simp [h i hlt]

end Ioc.Conc
