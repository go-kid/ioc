/-
  Concurrent starts of different Apps (Ioc.Conc section 4): the invariant of `append(ops, globalOptions...)` over a
  heap of backing arrays. With the callee's own variadic slice (cap = len) as the FIRST argument of append, no step of any
  App ever writes into an array another App reads: the backing arrays that exist at the beginning are never written, and
  every array created later is written once, by its creator, before anybody can read it.
-/
import Ioc.Conc

namespace Ioc.Conc

theorem StartSteps.trans {c : StartCfg} {a b d : StartSt} (h1 : StartSteps c a b) (h2 : StartSteps c b d) :
    StartSteps c a d := by
  induction h2 with
  | refl => exact h1
  | tail t u _ hs ih => exact StartSteps.tail _ t u ih hs

theorem readSlice_length (h : Heap) (s : Slice) : (readSlice h s).length = s.len := by
  simp [readSlice]

theorem readSlice_getD (h : Heap) (s : Slice) (k : Nat) (hk : k < s.len) : (readSlice h s).getD k .other = h s.arr k := by
  simp [readSlice, List.getD_eq_getElem?_getD, hk]

theorem writeAt_outside (h : Heap) (arr off : Nat) (l : List SOpt) (a k : Nat)
    (ho : ¬ (a = arr ∧ off ≤ k ∧ k < off + l.length)) : writeAt h arr off l a k = h a k :=
  if_neg ho

theorem writeAt_inside (h : Heap) (arr off : Nat) (l : List SOpt) (k : Nat) (h1 : off ≤ k) (h2 : k < off + l.length) :
    writeAt h arr off l arr k = l.getD (k - off) .other :=
  if_pos ⟨rfl, h1, h2⟩

/-- `append(a, b...)` onto a slice that is full (cap = len): the result holds the elements of `a`, then those of `b`,
    and no array that existed before is written — with nothing to append nothing is written at all, otherwise the
    elements go into a fresh array. -/
theorem goAppend_full (h : Heap) (next : Nat) (a b : Slice) (hcap : a.cap = a.len) (ha : a.arr < next) :
    (goAppend h next a b).2.2.len = a.len + b.len ∧ next ≤ (goAppend h next a b).2.1 ∧
    (goAppend h next a b).2.2.arr < (goAppend h next a b).2.1 ∧
    (∀ k, k < a.len + b.len → (goAppend h next a b).1 (goAppend h next a b).2.2.arr k =
      if k < a.len then h a.arr k else h b.arr (k - a.len)) ∧
    ∀ x, x < next → ∀ k, (goAppend h next a b).1 x k = h x k := by
  unfold goAppend
  split
  · have hb : (readSlice h b).length = 0 := by rw [readSlice_length]; omega
    refine ⟨rfl, Nat.le_refl _, ha, fun k hk => ?_, fun x _ k => ?_⟩
    · dsimp only
      rw [writeAt_outside _ _ _ _ _ _ (by omega), if_pos (by omega)]
    · exact writeAt_outside _ _ _ _ _ _ (by omega)
  · refine ⟨rfl, Nat.le_succ _, Nat.lt_succ_self _, fun k hk => ?_, fun x hx k => ?_⟩
    · dsimp only
      by_cases hk' : k < a.len
      · rw [if_pos hk', writeAt_outside _ _ _ _ _ _ (by omega),
          writeAt_inside _ _ _ _ _ (Nat.zero_le _) (by rw [readSlice_length]; omega), Nat.sub_zero,
          readSlice_getD _ _ _ hk']
      · rw [if_neg hk', writeAt_inside _ _ _ _ _ (by omega) (by rw [readSlice_length]; omega),
          readSlice_getD _ _ _ (by omega)]
    · dsimp only
      rw [writeAt_outside _ _ _ _ _ _ (by omega), writeAt_outside _ _ _ _ _ _ (by omega)]

/-- element k of `ops_i ++ globalOptions`, read from the heap of the beginning -/
def wantAt (c : StartCfg) (h0 : Heap) (i k : Nat) : SOpt :=
  if k < (c.ops i).len then h0 (c.ops i).arr k else h0 c.g.arr (k - (c.ops i).len)

def wantLen (c : StartCfg) (i : Nat) : Nat := (c.ops i).len + c.g.len

theorem want_eq (c : StartCfg) (h0 : Heap) (i : Nat) :
    (List.range (wantLen c i)).map (wantAt c h0 i) = readSlice h0 (c.ops i) ++ readSlice h0 c.g := by
  simp only [wantLen, List.range_add, List.map_append, List.map_map, readSlice]
  congr 1
  · apply List.map_congr_left
    intro k hk
    have : k < (c.ops i).len := by simpa using hk
    simp [wantAt, this]
  · apply List.map_congr_left
    intro k _
    have hn : ¬ ((c.ops i).len + k < (c.ops i).len) := by omega
    simp [wantAt, hn]

/-- the process at the beginning: the code that exists (own options first), globalOptions in array 0, App i's variadic
    slice in array i+1 with cap = len, every later array fresh -/
structure StartWF (c : StartCfg) (next0 : Nat) : Prop where
  own_first : c.globalsFirst = false
  garr : c.g.arr = 0
  oarr : ∀ i, i < c.napps → (c.ops i).arr = i + 1
  ocap : ∀ i, i < c.napps → (c.ops i).cap = (c.ops i).len
  fresh : c.napps + 1 ≤ next0

structure SInv (c : StartCfg) (h0 : Heap) (s : StartSt) : Prop where
  nx : c.napps + 1 ≤ s.next
  static : ∀ a, a ≤ c.napps → ∀ k, s.heap a k = h0 a k
  built : ∀ i sl, i < c.napps → s.sl i = some sl →
    sl.len = wantLen c i ∧ sl.arr < s.next ∧ ∀ k, k < sl.len → s.heap sl.arr k = wantAt c h0 i k
  fresh0 : ∀ i, s.sl i = none → s.pos i = 0
  app : ∀ i, s.applied i = (List.range (s.pos i)).map (wantAt c h0 i)

theorem sinv_init (c : StartCfg) (h0 : Heap) (next0 : Nat) (wf : StartWF c next0) : SInv c h0 (startInit h0 next0) :=
  ⟨wf.fresh, fun _ _ _ => rfl, fun i sl _ h => by simp [startInit] at h, fun _ _ => rfl, fun _ => by simp [startInit]⟩

theorem sinv_step {c : StartCfg} {h0 : Heap} {next0 : Nat} (wf : StartWF c next0) {s s' : StartSt}
    (hi : SInv c h0 s) (hs : StartStep c s s') : SInv c h0 s' := by
  have hnx := hi.nx
  cases hs with
  | build j hj hnone =>
    have harr := wf.oarr j hj
    obtain ⟨hlen, hle, hlt, hcont, hframe⟩ :=
      goAppend_full s.heap s.next (c.ops j) c.g (wf.ocap j hj) (by omega)
    simp only [buildSt, wf.own_first, Bool.false_eq_true, if_false]
    refine ⟨Nat.le_trans hnx hle, fun a ha k => (hframe a (by omega) k).trans (hi.static a ha k), ?_, ?_, hi.app⟩
    · intro i sl hilt hsome
      by_cases hij : i = j
      · subst hij
        simp only [upd, if_true, Option.some.injEq] at hsome
        subst hsome
        refine ⟨hlen, hlt, fun k hk => ?_⟩
        -- what this App reads, its own options and the global ones, is what was there at the beginning
        show (goAppend s.heap s.next (c.ops i) c.g).1 _ k = _
        rw [hcont k (hlen ▸ hk), wantAt, hi.static _ (by omega), hi.static _ (by rw [wf.garr]; omega)]
      · simp only [upd, if_neg hij] at hsome
        obtain ⟨h1, h2, h3⟩ := hi.built i sl hilt hsome
        exact ⟨h1, Nat.lt_of_lt_of_le h2 hle, fun k hk => (hframe _ h2 k).trans (h3 k hk)⟩
    · intro i hn
      by_cases hij : i = j
      · simp [upd, hij] at hn
      · simp only [upd, if_neg hij] at hn
        exact hi.fresh0 i hn
  | apply j sl hj hsome hp =>
    refine ⟨hnx, hi.static, hi.built, fun i hn => ?_, fun i => ?_⟩
    · have hij : i ≠ j := fun e => nomatch (e ▸ hn : s.sl j = none).symm.trans hsome
      simp only [applySt, upd, if_neg hij]
      exact hi.fresh0 i hn
    · by_cases hij : i = j
      · subst hij
        simp only [applySt, upd, if_true]
        rw [List.range_succ, List.map_append, hi.app i, (hi.built i sl hj hsome).2.2 _ hp]
        rfl
      · simp only [applySt, upd, if_neg hij]
        exact hi.app i

/-- whatever the other Apps do in between: an App that has left its option loop applied its own options, then the
    global ones — nothing else, nothing twice -/
theorem starts_isolated (c : StartCfg) (h0 : Heap) (next0 : Nat) (wf : StartWF c next0) (s : StartSt)
    (hr : StartSteps c (startInit h0 next0) s) (i : Nat) (hi : i < c.napps) (hd : startDone s i) :
    s.applied i = readSlice h0 (c.ops i) ++ readSlice h0 c.g := by
  have inv : SInv c h0 s := by
    clear hd
    induction hr with
    | refl => exact sinv_init c h0 next0 wf
    | tail t u _ hstep ih => exact sinv_step wf ih hstep
  obtain ⟨sl, hsl, hpos⟩ := hd
  rw [inv.app i, hpos, (inv.built i sl hi hsl).1]
  exact want_eq c h0 i

theorem applyAll_sound (c : StartCfg) (i : Nat) (hi : i < c.napps) :
    ∀ (fuel : Nat) (s : StartSt), StartSteps c s (applyAll s i fuel) := by
  intro fuel
  induction fuel with
  | zero => intro s; exact StartSteps.refl s
  | succ fuel ih =>
    intro s
    simp only [applyAll]
    split
    · rename_i sl hsl
      split
      · rename_i hp
        exact StartSteps.trans (StartSteps.tail _ _ _ (StartSteps.refl s) (StartStep.apply s i sl hi hsl hp)) (ih _)
      · exact StartSteps.refl s
    · exact StartSteps.refl s

theorem foldl_steps (c : StartCfg) (f : StartSt → Nat → StartSt)
    (hf : ∀ s i, i < c.napps → StartSteps c s (f s i)) :
    ∀ (l : List Nat), (∀ i, i ∈ l → i < c.napps) → ∀ s, StartSteps c s (l.foldl f s) := by
  intro l
  induction l with
  | nil => intro _ s; exact StartSteps.refl s
  | cons a r ih =>
    intro hl s
    simp only [List.foldl_cons]
    exact StartSteps.trans (hf s a (hl a (by simp))) (ih (fun i hi => hl i (by simp [hi])) _)

theorem startRendezvous_sound (c : StartCfg) (s0 : StartSt) : StartSteps c s0 (startRendezvous c s0) := by
  have hr : ∀ i, i ∈ List.range c.napps → i < c.napps := fun i hi => by simpa using hi
  unfold startRendezvous
  refine StartSteps.trans (foldl_steps c _ ?_ _ hr s0) (foldl_steps c _ ?_ _ hr _)
  · intro s i hi
    by_cases hn : s.sl i = none
    · simp only [if_pos hn]
      exact StartSteps.tail _ _ _ (StartSteps.refl s) (StartStep.build s i hi hn)
    · simp only [if_neg hn]
      exact StartSteps.refl s
  · intro s i hi
    exact applyAll_sound c i hi _ s

theorem stdCfg_wf (glen gcap nops napps : Nat) : StartWF (stdCfg false glen gcap nops napps) (napps + 1) :=
  ⟨rfl, rfl, fun _ _ => rfl, fun _ _ => rfl, Nat.le_refl _⟩

theorem mem_readSlice (h : Heap) (s : Slice) (x : SOpt) : x ∈ readSlice h s ↔ ∃ k, k < s.len ∧ h s.arr k = x := by
  simp [readSlice]

/-- in the standard layout App i's own options hold the SetComponents of App i and of nobody else, and the global options
    hold none -/
theorem std_comps_mem (glen gcap nops napps : Nat) (hn : 1 ≤ nops) (i j : Nat) :
    SOpt.comps j ∈ readSlice stdHeap ((stdCfg false glen gcap nops napps).ops i) ++
        readSlice stdHeap (stdCfg false glen gcap nops napps).g ↔ j = i := by
  simp only [List.mem_append, mem_readSlice, stdCfg, stdHeap]
  constructor
  · rintro (⟨k, _, hk⟩ | ⟨k, _, hk⟩)
    · simp only [Nat.add_one_ne_zero, if_false] at hk
      split at hk
      · simp only [Nat.add_sub_cancel] at hk
        exact (SOpt.comps.inj hk).symm
      · cases hk
    · simp at hk
  · intro h
    subst h
    exact Or.inl ⟨0, by omega, by simp⟩

end Ioc.Conc
