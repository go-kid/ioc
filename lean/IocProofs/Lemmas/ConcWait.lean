/-
  Closers that wait for each other (scenario `closew`): the scheduler under that environment (`fireW`, `scheduleW`) only
  takes steps of the fork/join system, and — one goroutine per closer — all workers can be inside their call at the
  same moment: after main has spawned everybody, the workers walk into their call one after the other and nobody has to
  return first.
-/
import IocProofs.Lemmas.ConcPaths

namespace Ioc.Conc
open WPc

theorem fireW_sound (cfg : FanCfg) (n : Nat) (fails fast : Nat → Bool) (s s' : St) (a : Act)
    (h : fireW cfg n fails fast s a = some s') : Step cfg n fails s s' := by
  cases a with
  | main => exact fire_sound cfg n fails s s' .main h
  | w i =>
    simp only [fireW] at h
    split at h
    · cases h
    · exact fire_sound cfg n fails s s' (.w i) h

theorem scheduleW_sound (cfg : FanCfg) (n : Nat) (fails fast : Nat → Bool) :
    ∀ (fuel seed : Nat) (s : St), Steps cfg n fails s (scheduleW cfg n fails fast fuel seed s) := by
  intro fuel
  induction fuel with
  | zero => intro seed s; exact Steps.refl s
  | succ fuel ih =>
    intro seed s
    simp only [scheduleW]
    split
    · exact Steps.refl s
    · split
      · next s' hs' =>
        obtain ⟨a, _, ha⟩ := List.exists_of_findSome?_eq_some hs'
        exact (fireW_sound cfg n fails fast s s' a ha).head (ih _ s')
      · exact Steps.refl s

/-- one goroutine per item: for every n there is a schedule that brings ALL n workers inside their call at the same
    moment — each called exactly once, none of them returned yet -/
theorem all_inside_together (cfg : FanCfg) (hsp : cfg.spawn = true) (n : Nat) (fails : Nat → Bool) :
    ∃ s, Reach cfg n fails s ∧ ∀ i, i < n → s.wpc i = .calling ∧ s.calls i = 1 := by
  obtain ⟨s1, hs1, -, -, hw1, -⟩ := main_spawned cfg hsp n fails n (Nat.le_refl n)
  obtain ⟨s2, hs2, hin, -⟩ := workers_in_turn (· = .ready) (· = .calling) n
    (fun i _ s => worker_enters cfg n fails s i) s1 (fun j hj => by rw [hw1 j, if_pos hj])
  have hr2 : Reach cfg n fails s2 := hs1.trans hs2
  exact ⟨s2, hr2, fun i hi => ⟨hin i hi, by rw [(finv_reach hr2).calls_eq, hin i hi]; rfl⟩⟩

end Ioc.Conc
