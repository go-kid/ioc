/-
  Lemmas about Ioc.Config.merge / get / mergeAll (C15).
  `t` is always the target (what is already loaded), `s` the source (the later document).
  Only the SOURCE needs unique keys (`wf`): the target is consulted through first-match lookups only.
-/
import Ioc.Config
namespace Ioc.Config

theorem lookup_updKv_same (f : Cfg → Cfg) (k : Key) (dflt : Cfg) (a : Kvs) :
    lookup k (updKv f k dflt a) = some (match lookup k a with | some x => f x | none => dflt) := by
  induction a with
  | nil => simp [updKv, lookup]
  | cons e rest ih => by_cases h : e.1 = k <;> simp [updKv, lookup, h, ih]

theorem lookup_updKv_other (f : Cfg → Cfg) (k k2 : Key) (dflt : Cfg) (a : Kvs) (h : k ≠ k2) :
    lookup k2 (updKv f k dflt a) = lookup k2 a := by
  induction a with
  | nil => simp [updKv, lookup, h]
  | cons e rest ih => by_cases h1 : e.1 = k <;> by_cases h2 : e.1 = k2 <;> simp_all [updKv, lookup]

theorem lookup_none_of_not_mem (k : Key) (b : Kvs) (h : k ∉ keysOf b) : lookup k b = none := by
  induction b with
  | nil => rfl
  | cons e rest ih =>
    rw [keysOf, List.map_cons, List.mem_cons, not_or] at h
    rw [lookup, if_neg (Ne.symm h.1), ih h.2]

theorem wfKvs_cons (k : Key) (v : Cfg) (rest : Kvs) (h : wfKvs ((k, v) :: rest) = true) :
    k ∉ keysOf rest ∧ v.wf = true ∧ wfKvs rest = true := by
  simpa [wfKvs, and_assoc] using h

theorem wf_of_lookup (k : Key) (b : Kvs) (y : Cfg) (hb : wfKvs b = true) (h : lookup k b = some y) : y.wf = true := by
  induction b with
  | nil => cases h
  | cons e rest ih =>
    obtain ⟨_, hv, hr⟩ := wfKvs_cons e.1 e.2 rest hb
    unfold lookup at h
    split at h
    · cases h; exact hv
    · exact ih hr h

theorem wf_map (b : Kvs) : (Cfg.map b).wf = wfKvs b := by simp [Cfg.wf]

/-- one key of a merged map: the four cases of viper's mergeMaps loop body -/
theorem lookup_mergeKvs (a b : Kvs) (k : Key) (hb : wfKvs b = true) :
    lookup k (mergeKvs a b) =
      match lookup k a, lookup k b with
      | some x, some y => some (merge x y)
      | some x, none => some x
      | none, some y => some y
      | none, none => none := by
  induction b generalizing a with
  | nil => simp only [mergeKvs, lookup]; cases lookup k a <;> rfl
  | cons e rest ih =>
    obtain ⟨k1, v1⟩ := e
    obtain ⟨hnc, _, hr⟩ := wfKvs_cons k1 v1 rest hb
    simp only [mergeKvs]
    rw [ih _ hr]
    by_cases hk : k1 = k
    · subst hk
      rw [lookup_updKv_same, lookup_none_of_not_mem _ _ hnc]
      simp only [lookup, if_true]
      cases lookup k1 a <;> rfl
    · rw [lookup_updKv_other _ _ _ _ _ hk]
      simp only [lookup, hk, if_false]

theorem merge_map_nonmap (a : Kvs) (s : Cfg) (h : s.isMap = false) : merge (.map a) s = .map a := by
  cases s with
  | map b => cases h
  | _ => simp [merge]

theorem merge_nonmap (t s : Cfg) (h : t.isMap = false) : merge t s = s := by
  cases t with
  | map a => cases h
  | _ => simp [merge]

theorem get_nil (c : Cfg) : c.get [] = some c := by cases c <;> rfl

theorem get_cons_map (kvs : Kvs) (k : Key) (p : Path) :
    (Cfg.map kvs).get (k :: p) = match lookup k kvs with | some v => v.get p | none => none := by
  cases h : lookup k kvs <;> simp [Cfg.get, h]

theorem get_empty_map (p : Path) (hp : p ≠ []) : (Cfg.map []).get p = none := by
  cases p with
  | nil => exact absurd rfl hp
  | cons k p' => rfl

/-- does the value hold a map at the path? -/
def mapAt (c : Cfg) (p : Path) : Bool :=
  match c.get p with
  | some x => x.isMap
  | none => false

/-- one path of a merged tree: the four cases of `lookup_mergeKvs`, at any depth -/
theorem get_merge (t s : Cfg) (p : Path) (hs : s.wf = true) :
    (merge t s).get p =
      match t.get p, s.get p with
      | some x, some y => some (merge x y)
      | some x, none => some x
      | none, some y => some y
      | none, none => none := by
  induction p generalizing t s with
  | nil => simp only [get_nil]
  | cons k p ih =>
    cases t with
    | map a =>
      cases s with
      | map b =>
        rw [wf_map] at hs
        rw [merge, get_cons_map, get_cons_map, get_cons_map, lookup_mergeKvs a b k hs]
        cases hb : lookup k b with
        | none => cases lookup k a with
          | none => rfl
          | some x => dsimp only; cases x.get p <;> rfl
        | some y => cases lookup k a with
          | none => dsimp only; cases y.get p <;> rfl
          | some x => exact ih x y (wf_of_lookup k b y hs hb)
      | _ => rw [merge_map_nonmap a _ rfl]; cases (Cfg.map a).get (k :: p) <;> rfl
    | _ => rw [merge_nonmap _ s rfl]; cases s.get (k :: p) <;> rfl

/-- FRAME: a source that does not define `p` leaves `p` exactly as it was (whatever the target holds). -/
theorem get_merge_src_none (t s : Cfg) (p : Path) (hs : s.wf = true) (h : s.get p = none) :
    (merge t s).get p = t.get p := by
  rw [get_merge t s p hs, h]; cases t.get p <;> rfl

/-- LAST WINS, one step: a source holding a leaf at `p` puts that leaf there, provided the target does not
    hold a MAP at `p` (that is the viper rule behind KF-C15-1). -/
theorem get_merge_src_leaf (t s : Cfg) (p : Path) (v : Cfg) (hs : s.wf = true)
    (h : s.get p = some v) (ht : mapAt t p = false) : (merge t s).get p = some v := by
  rw [get_merge t s p hs, h]
  unfold mapAt at ht
  cases hx : t.get p with
  | none => rfl
  | some x => rw [hx] at ht; simp only [merge_nonmap x v ht]

/-- a source that defines `p` where the target does not: the source's value appears (no condition). -/
theorem get_merge_tgt_none (t s : Cfg) (p : Path) (v : Cfg) (hs : s.wf = true)
    (ht : t.get p = none) (h : s.get p = some v) : (merge t s).get p = some v :=
  get_merge_src_leaf t s p v hs h (by rw [mapAt, ht])

theorem mapAt_merge (t s : Cfg) (p : Path) (hs : s.wf = true) (h : mapAt (merge t s) p = true) :
    mapAt t p = true ∨ mapAt s p = true := by
  unfold mapAt at *
  rw [get_merge t s p hs] at h
  cases hx : t.get p with
  | none => rw [hx] at h; cases hy : s.get p <;> simp_all
  | some x =>
    cases hm : x.isMap with
    | true => exact .inl hm
    | false => rw [hx] at h; cases hy : s.get p <;> simp_all [merge_nonmap x _ hm]

theorem isSome_get_merge_of_src (t s : Cfg) (p : Path) (hs : s.wf = true) (h : (s.get p).isSome = true) :
    ((merge t s).get p).isSome = true := by
  rw [get_merge t s p hs]; cases t.get p <;> cases hy : s.get p <;> simp_all

theorem isSome_get_merge_of_tgt (t s : Cfg) (p : Path) (hs : s.wf = true) (h : (t.get p).isSome = true) :
    ((merge t s).get p).isSome = true := by
  rw [get_merge t s p hs]; cases hx : t.get p <;> cases s.get p <;> simp_all

theorem isSome_get_merge_inv (t s : Cfg) (p : Path) (hs : s.wf = true) (h : ((merge t s).get p).isSome = true) :
    (t.get p).isSome = true ∨ (s.get p).isSome = true := by
  rw [get_merge t s p hs] at h; cases hx : t.get p <;> cases hy : s.get p <;> simp_all

theorem fold_get_none (docs : List Cfg) (acc : Cfg) (p : Path)
    (hwf : ∀ d ∈ docs, d.wf = true) (h : ∀ d ∈ docs, d.get p = none) :
    (docs.foldl merge acc).get p = acc.get p := by
  induction docs generalizing acc with
  | nil => rfl
  | cons d rest ih =>
    simp only [List.foldl_cons]
    rw [ih _ (fun e he => hwf e (List.mem_cons_of_mem _ he)) (fun e he => h e (List.mem_cons_of_mem _ he))]
    exact get_merge_src_none acc d p (hwf d List.mem_cons_self) (h d List.mem_cons_self)

theorem mapAt_fold (docs : List Cfg) (acc : Cfg) (p : Path) (hwf : ∀ d ∈ docs, d.wf = true)
    (h : mapAt (docs.foldl merge acc) p = true) : mapAt acc p = true ∨ ∃ d ∈ docs, mapAt d p = true := by
  induction docs generalizing acc with
  | nil => exact Or.inl h
  | cons d rest ih =>
    simp only [List.foldl_cons] at h
    rcases ih _ (fun e he => hwf e (List.mem_cons_of_mem _ he)) h with h1 | ⟨e, he, h2⟩
    · rcases mapAt_merge acc d p (hwf d List.mem_cons_self) h1 with h3 | h3
      · exact Or.inl h3
      · exact Or.inr ⟨d, List.mem_cons_self, h3⟩
    · exact Or.inr ⟨e, List.mem_cons_of_mem _ he, h2⟩

theorem isSome_fold_of_acc (docs : List Cfg) (acc : Cfg) (p : Path) (hwf : ∀ d ∈ docs, d.wf = true)
    (h : (acc.get p).isSome = true) : ((docs.foldl merge acc).get p).isSome = true := by
  induction docs generalizing acc with
  | nil => exact h
  | cons e rest ih =>
    simp only [List.foldl_cons]
    exact ih _ (fun d hd => hwf d (List.mem_cons_of_mem _ hd))
      (isSome_get_merge_of_tgt acc e p (hwf e List.mem_cons_self) h)

theorem isSome_fold_of_mem (docs : List Cfg) (acc : Cfg) (p : Path) (hwf : ∀ d ∈ docs, d.wf = true)
    (d : Cfg) (hd : d ∈ docs) (h : (d.get p).isSome = true) : ((docs.foldl merge acc).get p).isSome = true := by
  induction docs generalizing acc with
  | nil => cases hd
  | cons e rest ih =>
    simp only [List.foldl_cons]
    have hr := fun x hx => hwf x (List.mem_cons_of_mem _ hx)
    rcases List.mem_cons.mp hd with rfl | hd'
    · exact isSome_fold_of_acc rest _ p hr (isSome_get_merge_of_src acc d p (hwf d List.mem_cons_self) h)
    · exact ih _ hr hd'

theorem mapAt_empty (p : Path) (hp : p ≠ []) : mapAt (.map []) p = false := by
  simp [mapAt, get_empty_map p hp]

/-- LAST WINS in split form: `d` holds a leaf at `p`, nothing after `d` defines `p`, nothing before `d`
    holds a map at `p`. -/
theorem last_wins_split (pre post : List Cfg) (d : Cfg) (p : Path) (v : Cfg)
    (hwf : ∀ e ∈ pre ++ d :: post, e.wf = true) (hp : p ≠ [])
    (hd : d.get p = some v) (hpre : ∀ e ∈ pre, mapAt e p = false) (hpost : ∀ e ∈ post, e.get p = none) :
    (mergeAll (pre ++ d :: post)).get p = some v := by
  simp only [mergeAll, List.foldl_append, List.foldl_cons]
  rw [fold_get_none post _ p (fun e he => hwf e (by simp [he])) hpost]
  apply get_merge_src_leaf _ d p v (hwf d (by simp)) hd
  cases hm : mapAt (pre.foldl merge (.map [])) p with
  | false => rfl
  | true =>
    rcases mapAt_fold pre _ p (fun e he => hwf e (by simp [he])) hm with h1 | ⟨e, he, h2⟩
    · rw [mapAt_empty p hp] at h1; exact absurd h1 (by simp)
    · rw [hpre e he] at h2; exact absurd h2 (by simp)

/-- LAST WINS in index form, on top of whatever earlier documents `docs0` were merged: document `i` of `docs` holds a leaf
    at `p`, no later one defines `p`, nothing before it holds a map at `p`. -/
theorem last_wins_index (docs0 docs : List Cfg) (p : Path) (i : Nat) (hi : i < docs.length)
    (hwf : ∀ d ∈ docs0 ++ docs, d.wf = true) (hp : p ≠ []) (v : Cfg) (hdef : docs[i].get p = some v)
    (h0 : ∀ e ∈ docs0, mapAt e p = false) (hpre : ∀ j (hj : j < docs.length), j < i → mapAt docs[j] p = false)
    (hpost : ∀ j (hj : j < docs.length), i < j → docs[j].get p = none) :
    (mergeAll (docs0 ++ docs)).get p = some v := by
  have e : docs0 ++ docs = (docs0 ++ docs.take i) ++ docs[i] :: docs.drop (i + 1) := by
    rw [List.append_assoc, ← List.drop_eq_getElem_cons hi, List.take_append_drop]
  rw [e]
  refine last_wins_split _ _ _ p v (fun d hd => hwf d (e ▸ hd)) hp hdef (fun d hd => ?_) (fun d hd => ?_)
  · rcases List.mem_append.mp hd with h | h
    · exact h0 d h
    · obtain ⟨j, hj, rfl⟩ := List.mem_take_iff_getElem.mp h
      exact hpre j (by omega) (by omega)
  · obtain ⟨j, hj, rfl⟩ := List.mem_drop_iff_getElem.mp hd
    exact hpost (i + 1 + j) (by omega) (by omega)

/-- `t2` shows at least the paths `t1` shows -/
def Covers (t1 t2 : Cfg) : Prop := ∀ p, (t1.get p).isSome = true → (t2.get p).isSome = true

theorem covers_merge (t1 t2 s : Cfg) (hs : s.wf = true) (h : Covers t1 t2) : Covers (merge t1 s) (merge t2 s) := by
  intro p hp
  rcases isSome_get_merge_inv t1 s p hs hp with h1 | h1
  · exact isSome_get_merge_of_tgt t2 s p hs (h p h1)
  · exact isSome_get_merge_of_src t2 s p hs h1

theorem covers_fold (docs : List Cfg) (t1 t2 : Cfg) (hwf : ∀ d ∈ docs, d.wf = true) (h : Covers t1 t2) :
    Covers (docs.foldl merge t1) (docs.foldl merge t2) := by
  induction docs generalizing t1 t2 with
  | nil => exact h
  | cons d rest ih =>
    simp only [List.foldl_cons]
    exact ih _ _ (fun e he => hwf e (List.mem_cons_of_mem _ he)) (covers_merge t1 t2 d (hwf d List.mem_cons_self) h)

/-- NOTHING IS DROPPED: a further document, wherever it lands in the sequence, hides no path. -/
theorem insert_doc_covers (pre post : List Cfg) (d : Cfg) (hwf : ∀ e ∈ pre ++ d :: post, e.wf = true) :
    Covers (mergeAll (pre ++ post)) (mergeAll (pre ++ d :: post)) := by
  simp only [mergeAll, List.foldl_append, List.foldl_cons]
  apply covers_fold post _ _ (fun e he => hwf e (by simp [he]))
  intro p hp
  exact isSome_get_merge_of_tgt _ d p (hwf d (by simp)) hp

end Ioc.Config
