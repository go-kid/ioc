/-
  Lemmas about several Initialize calls on one live Configure (C15): `Config.St`, `stepOpt`, `initOnce`, `runPhase`.
-/
import IocProofs.Lemmas.ConfigSeq
namespace Ioc.Config

theorem filter_loaderSeq (ls : List Loader) :
    (loaderSeq ls).filter (·.cls.isPrio) = sortByKey (ls.filter (·.cls.isPrio)) ∧
    (loaderSeq ls).filter (·.cls.isOrd) = sortByKey (ls.filter (·.cls.isOrd)) ∧
    (loaderSeq ls).filter (·.cls.isPlain) = ls.filter (·.cls.isPlain) :=
  cls_split3.filter_blocks _ _ _ (fun _ hx => (List.mem_filter.mp ((sortByKey_perm _).subset hx)).2)
    (fun _ hx => (List.mem_filter.mp ((sortByKey_perm _).subset hx)).2) fun _ hx => (List.mem_filter.mp hx).2

/-- loadConfigure stores the SORTED list back (configure.go:55); loaders appended to it later and sorted again end up
    where they would be had the list been kept in the order of addition -/
theorem loaderSeq_stored (ls new : List Loader) : loaderSeq (loaderSeq ls ++ new) = loaderSeq (ls ++ new) := by
  have e : ∀ l, loaderSeq l =
      sortByKey (l.filter (·.cls.isPrio)) ++ sortByKey (l.filter (·.cls.isOrd)) ++ l.filter (·.cls.isPlain) := fun _ => rfl
  rw [e (loaderSeq ls ++ new), e (ls ++ new)]
  obtain ⟨f1, f2, f3⟩ := filter_loaderSeq ls
  simp only [List.filter_append, f1, f2, f3, sortByKey_sorted_append]

/-- one Initialize = all current documents merged on top of what the binder holds -/
theorem initOnce_good (s : St) (h : ∀ l ∈ s.loaders, l.good = true) :
    initOnce s = .ok ⟨loaderSeq s.loaders, (docsOf s.loaders).foldl merge s.acc⟩ := by
  unfold initOnce
  split
  · next he =>
    obtain ⟨ls, acc⟩ := s
    obtain rfl : ls = [] := by simpa using he
    rfl
  · rw [loadLoop_good _ _ (good_of_perm (loaderSeq_perm s.loaders) h)]
    rfl

theorem foldl_stepOpt_fresh (init : List Loader) (opts : List Opt) :
    opts.foldl stepOpt ⟨init, .map []⟩ = ⟨applyFrom init opts, .map []⟩ := by
  induction opts generalizing init with
  | nil => rfl
  | cons o rest ih =>
    simp only [List.foldl_cons, applyFrom]
    cases o <;> simp only [stepOpt, applyStep] <;> exact ih _

/-- the first Initialize of a Configure born with the loaders `init` and an empty binder is the one-shot model
    `loadAll` on the option fold from `init` -/
theorem runPhase_fresh (init : List Loader) (opts : List Opt) :
    (runPhase ⟨init, .map []⟩ opts).map (·.acc) = loadAll (applyFrom init opts) := by
  simp only [runPhase, foldl_stepOpt_fresh, initOnce, loadAll]
  split
  · next he => rw [List.isEmpty_iff.mp he]; rfl
  · split <;> next h => rw [h]; rfl

end Ioc.Config
