/-
  Lemmas about the loader sequence (SortOrderedComponents on loaders), the option fold and the
  loadConfigure loop (C15).
-/
import IocProofs.Lemmas.Config
import IocProofs.Lemmas.Order
namespace Ioc.Config

theorem insertByKey_eq (x : Loader) (l : List Loader) :
    insertByKey x l = insertSorted (fun a b => decide (a.cls.key < b.cls.key)) x l := by
  induction l with
  | nil => rfl
  | cons y ys ih => simp [insertByKey, insertSorted, ih]

theorem insertByKey_split (x : Loader) (l : List Loader) :
    ∃ pre post, l = pre ++ post ∧ insertByKey x l = pre ++ x :: post :=
  insertByKey_eq x l ▸ Order.insertSorted_split _ x l

theorem insertByKey_perm (x : Loader) (l : List Loader) : (insertByKey x l).Perm (x :: l) :=
  insertByKey_eq x l ▸ Order.insertSorted_perm _ x l

theorem mem_insertByKey (x y : Loader) (l : List Loader) : y ∈ insertByKey x l ↔ y = x ∨ y ∈ l := by
  rw [(insertByKey_perm x l).mem_iff, List.mem_cons]

theorem foldl_insert_perm (l acc : List Loader) :
    (l.foldl (fun acc x => insertByKey x acc) acc).Perm (acc ++ l) := by
  induction l generalizing acc with
  | nil => simp
  | cons x rest ih => exact (ih _).trans (((insertByKey_perm x acc).append_right rest).trans List.perm_middle.symm)

theorem sortByKey_perm (l : List Loader) : (sortByKey l).Perm l := by
  simpa [sortByKey] using foldl_insert_perm l []

def KeyLe (x y : Loader) : Prop := x.cls.key ≤ y.cls.key

theorem insertByKey_sorted (x : Loader) (l : List Loader) (h : l.Pairwise KeyLe) : (insertByKey x l).Pairwise KeyLe :=
  insertByKey_eq x l ▸ Order.insertSorted_sorted (·.cls.key) x l h

theorem sortByKey_sorted (l : List Loader) : (sortByKey l).Pairwise KeyLe :=
  List.foldlRecOn (motive := (·.Pairwise KeyLe)) l _ .nil fun acc h x _ => insertByKey_sorted x acc h

/-- nothing larger in front: the element goes to the end (stability of the insertion step) -/
theorem insertByKey_ge_all (x : Loader) (l : List Loader) (h : ∀ y ∈ l, y.cls.key ≤ x.cls.key) :
    insertByKey x l = l ++ [x] := by
  induction l with
  | nil => rfl
  | cons y ys ih =>
    have hy : ¬ x.cls.key < y.cls.key := Int.not_lt.mpr (h y List.mem_cons_self)
    simp only [insertByKey, hy, if_false, List.cons_append]
    rw [ih (fun z hz => h z (List.mem_cons_of_mem _ hz))]

theorem foldl_insert_of_sorted (l acc : List Loader) (h : (acc ++ l).Pairwise KeyLe) :
    l.foldl (fun acc x => insertByKey x acc) acc = acc ++ l := by
  induction l generalizing acc with
  | nil => simp
  | cons x rest ih =>
    rw [List.foldl_cons, insertByKey_ge_all x acc fun y hy => (List.pairwise_append.mp h).2.2 y hy x List.mem_cons_self,
      ih _ (by simpa using h), List.append_assoc]
    rfl

theorem sortByKey_of_sorted (l : List Loader) (h : l.Pairwise KeyLe) : sortByKey l = l := by
  simpa [sortByKey] using foldl_insert_of_sorted l [] (by simpa using h)

/-- loaders with one and the same Order() keep the order in which they were added -/
theorem sortByKey_const (l : List Loader) (k : Int) (h : ∀ y ∈ l, y.cls.key = k) : sortByKey l = l :=
  sortByKey_of_sorted l (List.pairwise_of_forall_mem_list fun a ha b hb => by
    rw [KeyLe, h a ha, h b hb]; exact Int.le_refl k)

theorem sortByKey_append (a b : List Loader) :
    sortByKey (a ++ b) = b.foldl (fun acc x => insertByKey x acc) (sortByKey a) := by
  simp [sortByKey, List.foldl_append]

/-- the insertion sort is stable under appending: sorting (sorted a) ++ b = sorting a ++ b -/
theorem sortByKey_sorted_append (a b : List Loader) : sortByKey (sortByKey a ++ b) = sortByKey (a ++ b) := by
  rw [sortByKey_append, sortByKey_append, sortByKey_of_sorted _ (sortByKey_sorted a)]

theorem sortByKey_snoc (l : List Loader) (x : Loader) : sortByKey (l ++ [x]) = insertByKey x (sortByKey l) :=
  sortByKey_append l [x]

/-- whatever algorithm sorts the class (Go's sort.Slice is an insertion sort up to 12 elements and pdqsort beyond,
    which does not keep equal elements in place): when no two members have the same Order(), every arrangement that
    is a permutation of the class and ascending by Order() IS the model's `sortByKey` -/
theorem sortByKey_unique (l l' : List Loader) (hd : l.Pairwise (fun x y => x.cls.key ≠ y.cls.key))
    (hp : l'.Perm l) (hs : l'.Pairwise KeyLe) : l' = sortByKey l := by
  refine List.Perm.eq_of_pairwise (le := KeyLe) ?_ hs (sortByKey_sorted l) (hp.trans (sortByKey_perm l).symm)
  intro a b ha hb h1 h2
  exact List.Pairwise.forall_of_forall_of_flip (R := fun x y : Loader => x.cls.key = y.cls.key → x = y)
    (fun _ _ _ => rfl) (hd.imp fun h e => absurd e h) (hd.imp fun h e => absurd e.symm h)
    (hp.subset ha) ((sortByKey_perm l).subset hb) (Int.le_antisymm h1 h2)

theorem cls_split3 : Order.Split3 (fun l : Loader => l.cls.isPrio) (·.cls.isOrd) (·.cls.isPlain) := fun l => by
  cases h : l.cls <;> simp [Cls.isPrio, Cls.isOrd, Cls.isPlain, h]

theorem loaderSeq_perm (ls : List Loader) : (loaderSeq ls).Perm ls :=
  (((sortByKey_perm _).append (sortByKey_perm _)).append_right _).trans (cls_split3.perm ls)

/-- adding one loader at the end of the configured list = putting it somewhere into the old sequence;
    everybody else keeps their relative position -/
theorem loaderSeq_snoc (ls : List Loader) (x : Loader) :
    ∃ pre post, loaderSeq ls = pre ++ post ∧ loaderSeq (ls ++ [x]) = pre ++ x :: post := by
  rcases cls_split3 x with ⟨h1, h2, h3⟩ | ⟨h1, h2, h3⟩ | ⟨h1, h2, h3⟩
  · obtain ⟨pre, post, e1, e2⟩ := insertByKey_split x (sortByKey (ls.filter (·.cls.isPrio)))
    refine ⟨pre, post ++ sortByKey (ls.filter (·.cls.isOrd)) ++ ls.filter (·.cls.isPlain), ?_, ?_⟩
    · simp [loaderSeq, e1]
    · simp [loaderSeq, List.filter_append, h1, h2, h3, sortByKey_snoc, e2]
  · obtain ⟨pre, post, e1, e2⟩ := insertByKey_split x (sortByKey (ls.filter (·.cls.isOrd)))
    refine ⟨sortByKey (ls.filter (·.cls.isPrio)) ++ pre, post ++ ls.filter (·.cls.isPlain), ?_, ?_⟩
    · simp [loaderSeq, e1]
    · simp [loaderSeq, List.filter_append, h1, h2, h3, sortByKey_snoc, e2]
  · refine ⟨loaderSeq ls, [], by simp, ?_⟩
    simp [loaderSeq, List.filter_append, h1, h2, h3]

theorem applyFrom_snoc (init : List Loader) (opts : List Opt) (o : Opt) :
    applyFrom init (opts ++ [o]) = applyStep (applyFrom init opts) o := by
  simp [applyFrom, List.foldl_append]

/-- options each of which only appends (`add o`) leave the starting list followed by everything they add, in their order -/
theorem applyFrom_append_of (add : Opt → List Loader) (opts : List Opt)
    (h : ∀ o ∈ opts, ∀ cur, applyStep cur o = cur ++ add o) (init : List Loader) :
    applyFrom init opts = init ++ opts.flatMap add := by
  induction opts generalizing init with
  | nil => exact (List.append_nil init).symm
  | cons o rest ih =>
    rw [List.flatMap_cons, ← List.append_assoc, ← h o List.mem_cons_self]
    exact ih (fun x hx => h x (List.mem_cons_of_mem _ hx)) _

/-- a loader that neither fails nor panics and whose document (if any) is a YAML mapping -/
def Loader.good (l : Loader) : Bool :=
  match l.out with
  | .empty => true
  | .doc d => d.isMap
  | _ => false

theorem loadLoop_good (seq : List Loader) (acc : Cfg) (h : ∀ l ∈ seq, l.good = true) :
    loadLoop seq acc = .ok ((seq.filterMap docOf).foldl merge acc) := by
  induction seq generalizing acc with
  | nil => rfl
  | cons l rest ih =>
    have hl := h l List.mem_cons_self
    have hr := fun acc => ih acc fun x hx => h x (List.mem_cons_of_mem _ hx)
    unfold loadLoop
    cases ho : l.out <;> simp [Loader.good, ho] at hl <;> simp [docOf, ho, hr, *]

theorem good_of_perm {l1 l2 : List Loader} (hp : l1.Perm l2) (h : ∀ l ∈ l2, l.good = true) : ∀ l ∈ l1, l.good = true :=
  fun l hl => h l (hp.mem_iff.mp hl)

/-- the documents of a loader list, in loader sequence, as viper sees them -/
def docsOf (ls : List Loader) : List Cfg := (loaderSeq ls).filterMap docOf

theorem mem_docsOf {ls : List Loader} {l : Loader} {d : Cfg} (hl : l ∈ ls) (hd : docOf l = some d) : d ∈ docsOf ls :=
  List.mem_filterMap.mpr ⟨l, (loaderSeq_perm ls).mem_iff.mpr hl, hd⟩

theorem loadAll_good (ls : List Loader) (h : ∀ l ∈ ls, l.good = true) : loadAll ls = .ok (mergeAll (docsOf ls)) := by
  simp only [loadAll, mergeAll, docsOf]
  exact loadLoop_good _ _ (good_of_perm (loaderSeq_perm ls) h)

end Ioc.Config
