import Lean.Meta.Tactic.Simp.RegisterCommand
/-- Equations by which `simp` runs the MiniGo interpreter (`Ioc.GoSem`) on a concrete program: the interpreter's clauses in
    the form of `IocProofs.Lemmas.GoEval`, and the equations of the primitives of an interpretation. -/
register_simp_attr go_eval
