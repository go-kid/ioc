/-
  Running a regenerated MiniGo program (`Ioc.GoSem`) by `simp`, ONCE, whatever the number of paths through it.

  The interpreter's own clauses `match` on the result of a sub-evaluation; a result that is known only symbolically (the
  boolean `(r.l1? n).isSome`, an `if` that a primitive returns) leaves such a `match` stuck, and the proof has to split into
  cases BEFORE evaluating, running the program once per path.  Here the clauses are restated through a few sequencing
  functions (`onVal`, `onBool`, `onVals`, `next`, `onNorm`, `leaveTo`, `finish`) that compute on `some _` / `none` and COMMUTE WITH
  `if`: a condition stays an `if`, the rest of the block is carried into both branches, and one `simp [go_eval, …]` turns
  `run P prog args w` into a decision tree over the model's own conditions — to be compared with the model function.

  A file that runs programs under an interpretation `xPrims` adds the primitives' equations to `go_eval` locally, by their
  own names (`attribute [local go_eval] xFn.eq_1 xFn.eq_2 …`): `simp` then indexes them by the primitive's name, a string
  literal; given as `xFn` it tries the clauses one after the other at every call.
-/
import Ioc.GoSem
import IocProofs.Lemmas.GoAttr
import IocProofs.Lemmas.GoTactics
namespace Ioc.Go

variable {σ β : Type}

/-! ### Sequencing functions -/

def onVal (r : Option (Val × σ)) (k : Val → σ → Option β) : Option β :=
  match r with
  | some (v, w) => k v w
  | none => none

/-- as `onVal`, for a result that must be a Go `bool` -/
def onBool (r : Option (Val × σ)) (k : Bool → σ → Option β) : Option β :=
  match r with
  | some (.bool b, w) => k b w
  | _ => none

def onVals (r : Option (List Val × σ)) (k : List Val → σ → Option β) : Option β :=
  match r with
  | some (vs, w) => k vs w
  | none => none

/-- go on with `k` after a statement that ended normally; `break`, `continue`, `return` and stuck end the block -/
def next (r : Out σ) (k : Env → σ → Out σ) : Out σ :=
  match r with
  | some (e, w, .norm) => k e w
  | other => other

/-- as `next`, where only a normal end is possible (the init statement of an `if` or `for`) -/
def onNorm (r : Out σ) (k : Env → σ → Out σ) : Out σ :=
  match r with
  | some (e, w, .norm) => k e w
  | _ => none

/-- leave a block that was entered with `n` variables in scope -/
def leaveTo (n : Nat) (r : Out σ) : Out σ := r.map fun (e, w, c) => (Env.leave e n, w, c)

/-- what a function call makes of its body's outcome -/
def finish (r : Out σ) : Option (Val × σ) :=
  match r with
  | some (_, w, .ret v) => some (v, w)
  | some (_, w, .norm) => some (.tuple [], w)
  | _ => none

/-! How they compute. Proved by `unfold …; rfl`, NOT by `rfl` alone: a lemma proved by `rfl` is used by `simp` as a definitional
    step that leaves no proof term, and the kernel then checks the step by running the interpreter itself. -/
section computing
variable (k : Val → σ → Option β) (kb : Bool → σ → Option β) (ks : List Val → σ → Option β) (kn : Env → σ → Out σ)
  (c : Prop) [Decidable c]

@[go_eval] theorem onVal_some (v : Val) (w : σ) : onVal (some (v, w)) k = k v w := by unfold onVal; rfl
@[go_eval] theorem onVal_none : onVal (none : Option (Val × σ)) k = none := by unfold onVal; rfl
@[go_eval] theorem onVal_ite (a b : Option (Val × σ)) : onVal (if c then a else b) k = if c then onVal a k else onVal b k := by
  split <;> rfl
@[go_eval] theorem onBool_some (b : Bool) (w : σ) : onBool (some (.bool b, w)) kb = kb b w := by unfold onBool; rfl
@[go_eval] theorem onBool_none : onBool (none : Option (Val × σ)) kb = none := by unfold onBool; rfl
@[go_eval] theorem onBool_ite (a b : Option (Val × σ)) : onBool (if c then a else b) kb = if c then onBool a kb else onBool b kb := by
  split <;> rfl
@[go_eval] theorem onVals_some (vs : List Val) (w : σ) : onVals (some (vs, w)) ks = ks vs w := by unfold onVals; rfl
@[go_eval] theorem onVals_none : onVals (none : Option (List Val × σ)) ks = none := by unfold onVals; rfl
@[go_eval] theorem onVals_ite (a b : Option (List Val × σ)) : onVals (if c then a else b) ks = if c then onVals a ks else onVals b ks := by
  split <;> rfl
@[go_eval] theorem next_norm (e : Env) (w : σ) : next (some (e, w, .norm)) kn = kn e w := by unfold next; rfl
@[go_eval] theorem next_brk (e : Env) (w : σ) : next (some (e, w, .brk)) kn = some (e, w, .brk) := by unfold next; rfl
@[go_eval] theorem next_cont (e : Env) (w : σ) : next (some (e, w, .cont)) kn = some (e, w, .cont) := by unfold next; rfl
@[go_eval] theorem next_ret (e : Env) (w : σ) (v : Val) : next (some (e, w, .ret v)) kn = some (e, w, .ret v) := by unfold next; rfl
@[go_eval] theorem next_none : next (none : Out σ) kn = none := by unfold next; rfl
@[go_eval] theorem next_ite (a b : Out σ) : next (if c then a else b) kn = if c then next a kn else next b kn := by
  split <;> rfl
@[go_eval] theorem onNorm_norm (e : Env) (w : σ) : onNorm (some (e, w, .norm)) kn = kn e w := by unfold onNorm; rfl
@[go_eval] theorem onNorm_none : onNorm (none : Out σ) kn = none := by unfold onNorm; rfl
@[go_eval] theorem onNorm_ite (a b : Out σ) : onNorm (if c then a else b) kn = if c then onNorm a kn else onNorm b kn := by
  split <;> rfl
@[go_eval] theorem leaveTo_some (n : Nat) (e : Env) (w : σ) (x : Ctl) : leaveTo n (some (e, w, x)) = some (Env.leave e n, w, x) := by unfold leaveTo; rfl
@[go_eval] theorem leaveTo_none (n : Nat) : leaveTo n (none : Out σ) = none := by unfold leaveTo; rfl
@[go_eval] theorem leaveTo_ite (n : Nat) (a b : Out σ) : leaveTo n (if c then a else b) = if c then leaveTo n a else leaveTo n b := by
  split <;> rfl
@[go_eval] theorem finish_ret (e : Env) (w : σ) (v : Val) : finish (some (e, w, .ret v)) = some (v, w) := by unfold finish; rfl
@[go_eval] theorem finish_norm (e : Env) (w : σ) : finish (some (e, w, .norm)) = some (.tuple [], w) := by unfold finish; rfl
@[go_eval] theorem finish_none : finish (none : Out σ) = none := by unfold finish; rfl
@[go_eval] theorem finish_ite (a b : Out σ) : finish (if c then a else b) = if c then finish a else finish b := by
  split <;> rfl
end computing

/-! ### Evaluation order

    `simp` is to work on the result that is passed on, never inside the continuation that waits for it
    (it would run the rest of the program on bound variables first, and again after the result has arrived), and never inside
    the primitives or the syntax tree. -/
section order
variable {k : Val → σ → Option β} {kb : Bool → σ → Option β} {ks : List Val → σ → Option β} {kn : Env → σ → Out σ}

@[congr] theorem onVal_congr {r r' : Option (Val × σ)} (h : r = r') : onVal r k = onVal r' k := by rw [h]
@[congr] theorem onBool_congr {r r' : Option (Val × σ)} (h : r = r') : onBool r kb = onBool r' kb := by rw [h]
@[congr] theorem onVals_congr {r r' : Option (List Val × σ)} (h : r = r') : onVals r ks = onVals r' ks := by rw [h]
@[congr] theorem next_congr {r r' : Out σ} (h : r = r') : next r kn = next r' kn := by rw [h]
@[congr] theorem onNorm_congr {r r' : Out σ} (h : r = r') : onNorm r kn = onNorm r' kn := by rw [h]
@[congr] theorem evalE_congr (P : Prims σ) {env env' : Env} {w w' : σ} (e : Expr) (h1 : env = env') (h2 : w = w') :
    evalE P env w e = evalE P env' w' e := by rw [h1, h2]
@[congr] theorem evalEs_congr (P : Prims σ) {env env' : Env} {w w' : σ} (es : List Expr) (h1 : env = env') (h2 : w = w') :
    evalEs P env w es = evalEs P env' w' es := by rw [h1, h2]
@[congr] theorem evalS_congr (P : Prims σ) {env env' : Env} {w w' : σ} (s : Stmt) (h1 : env = env') (h2 : w = w') :
    evalS P env w s = evalS P env' w' s := by rw [h1, h2]
@[congr] theorem evalB_congr (P : Prims σ) {env env' : Env} {w w' : σ} (b : List Stmt) (h1 : env = env') (h2 : w = w') :
    evalB P env w b = evalB P env' w' b := by rw [h1, h2]
@[congr] theorem run_congr (P : Prims σ) (f : Func) {a a' : List Val} {w w' : σ} (h1 : a = a') (h2 : w = w') :
    run P f a w = run P f a' w' := by rw [h1, h2]
@[congr] theorem afterBody_congr (post : Env → σ → Out σ) {r r' : Out σ} (h : r = r') : afterBody post r = afterBody post r' := by
  rw [h]
end order

/-! ### The interpreter's clauses

    Where a clause inspects the value it has evaluated, the inspection is a function of its own (`lenOf`, `idxOf`, `filterVal`,
    `retVal`, `rangeOver`), unfolded once the value is there. -/

def lenOf (P : Prims σ) : Val → σ → Option (Val × σ)
  | .list vs, w => some (.int vs.length, w)
  | .nil, w => some (.int 0, w)
  | .tuple (.str "$map" :: ps), w => some (.int ps.length, w)
  | v, w => P.fn "len" [v] w

def idxOf : Val → Val → σ → Option (Val × σ)
  | .list vs, .int n, w => if 0 ≤ n then (vs[n.toNat]?).map (·, w) else none
  | _, _, _ => none

def filterVal (P : Prims σ) (env : Env) (param : String) (body : List Stmt) : Val → σ → Option (Val × σ)
  | .list vs, w1 =>
    (filterM (fun v w' =>
      match evalB P (Env.def env param v) w' body with
      | some (_, w'', .ret (.bool b)) => some (b, w'')
      | _ => none) vs w1).map (fun (r, w2) => (.list r, w2))
  | .nil, w1 => some (.list [], w1)
  | _, _ => none

def retVal : List Val → Val
  | [v] => v
  | vs => .tuple vs

/-- one round of `for k, v := range` over a slice -/
def rangeIter (P : Prims σ) (k v : String) (body : List Stmt) (i : Nat) (x : Val) (e : Env) (w : σ) : Out σ :=
  leaveTo e.length (evalB P (Env.def (Env.def e k (.int i)) v x) w body)

/-- one round over a map given as its entries -/
def rangeIterMap (P : Prims σ) (k v : String) (body : List Stmt) (_ : Nat) (x : Val) (e : Env) (w : σ) : Out σ :=
  match x with
  | .tuple [kk, vv] => leaveTo e.length (evalB P (Env.def (Env.def e k kk) v vv) w body)
  | _ => none

def rangeOver (P : Prims σ) (k v : String) (body : List Stmt) (env : Env) : Val → σ → Out σ
  | .list vs, w1 => loopM (rangeIter P k v body) 0 vs env w1
  | .nil, w1 => some (env, w1, .norm)
  | .tuple (.str "$map" :: ps), w1 => loopM (rangeIterMap P k v body) 0 ps env w1
  | _, _ => none

section clauses
variable (P : Prims σ) (env : Env) (w : σ)

@[go_eval] theorem evalE_var (x : String) : evalE P env w (.var x) = (env.get x).map (·, w) := by rw [evalE]
@[go_eval] theorem evalE_nil : evalE P env w .nil = some (.nil, w) := by rw [evalE]
@[go_eval] theorem evalE_bool (b : Bool) : evalE P env w (.bool b) = some (.bool b, w) := by rw [evalE]
@[go_eval] theorem evalE_int (i : Int) : evalE P env w (.int i) = some (.int i, w) := by rw [evalE]
@[go_eval] theorem evalE_str (s : String) : evalE P env w (.str s) = some (.str s, w) := by rw [evalE]
@[go_eval] theorem evalE_len (e : Expr) : evalE P env w (.call "len" [e]) = onVal (evalE P env w e) (lenOf P) := by
  rw [evalE]
  unfold onVal lenOf
  split <;> simp_all
@[go_eval] theorem evalE_call (f : String) (args : List Expr) (h : f ≠ "len") :
    evalE P env w (.call f args) = onVals (evalEs P env w args) (P.fn f) := by
  rw [evalE]
  · rfl
  · intro e hf; exact absurd hf h
@[go_eval] theorem evalE_mcall (recv : Expr) (m : String) (args : List Expr) :
    evalE P env w (.mcall recv m args) =
      onVal (evalE P env w recv) fun r w1 => onVals (evalEs P env w1 args) fun vs w2 => P.fn ("." ++ m) (r :: vs) w2 := by
  rw [evalE]; rfl
@[go_eval] theorem evalE_glob (name : String) : evalE P env w (.glob name) = P.fn ("$" ++ name) [] w := by rw [evalE]
@[go_eval] theorem evalE_assert2 (e : Expr) (ty : String) :
    evalE P env w (.assert2 e ty) = onVal (evalE P env w e) fun v w1 => P.fn ("assert2:" ++ ty) [v] w1 := by
  rw [evalE]; rfl
@[go_eval] theorem evalE_assert1 (e : Expr) (ty : String) :
    evalE P env w (.assert1 e ty) = onVal (evalE P env w e) fun v w1 => P.fn ("assert1:" ++ ty) [v] w1 := by
  rw [evalE]; rfl
@[go_eval] theorem evalE_filter (xs : Expr) (param : String) (body : List Stmt) :
    evalE P env w (.filter xs param body) = onVal (evalE P env w xs) (filterVal P env param body) := by
  rw [evalE]
  generalize evalE P env w xs = r
  rcases r with _ | ⟨v, w1⟩
  · rfl
  · cases v <;> rfl
@[go_eval] theorem evalE_not (e : Expr) :
    evalE P env w (.not e) = onBool (evalE P env w e) fun b w' => some (.bool (!b), w') := by
  rw [evalE]; rfl
@[go_eval] theorem evalE_and (a b : Expr) :
    evalE P env w (.bin "&&" a b) = onBool (evalE P env w a) fun x w' => if x then evalE P env w' b else some (.bool false, w') := by
  rw [evalE]
  unfold onBool
  split <;> simp_all
@[go_eval] theorem evalE_or (a b : Expr) :
    evalE P env w (.bin "||" a b) = onBool (evalE P env w a) fun x w' => if x then some (.bool true, w') else evalE P env w' b := by
  rw [evalE]
  unfold onBool
  split <;> simp_all
@[go_eval] theorem evalE_bin (op : String) (a b : Expr) (h1 : op ≠ "&&") (h2 : op ≠ "||") :
    evalE P env w (.bin op a b) =
      onVal (evalE P env w a) fun x w1 => onVal (evalE P env w1 b) fun y w2 => (binOp op x y).map (·, w2) := by
  rw [evalE]
  · rfl
  · exact h1
  · exact h2
@[go_eval] theorem evalE_idx (e i : Expr) :
    evalE P env w (.idx e i) = onVal (evalE P env w e) fun l w1 => onVal (evalE P env w1 i) fun n w2 => idxOf l n w2 := by
  rw [evalE]
  generalize evalE P env w e = r
  rcases r with _ | ⟨l, w1⟩
  · rfl
  · cases l <;> simp only [onVal] <;> generalize evalE P env w1 i = r2 <;> rcases r2 with _ | ⟨n, w2⟩ <;>
      first | rfl | (cases n <;> rfl)
@[go_eval] theorem evalE_sel (e : Expr) (f : String) :
    evalE P env w (.sel e f) = onVal (evalE P env w e) fun v w1 => P.fn ("." ++ f) [v] w1 := by
  rw [evalE]; rfl
@[go_eval] theorem evalE_sliceLit (es : List Expr) :
    evalE P env w (.sliceLit es) = onVals (evalEs P env w es) fun vs w' => some (.list vs, w') := by
  rw [evalE]; rfl
@[go_eval] theorem evalE_unsupported (s : String) : evalE P env w (.unsupported s) = none := by rw [evalE]

@[go_eval] theorem evalEs_nil : evalEs P env w [] = some ([], w) := by rw [evalEs]
@[go_eval] theorem evalEs_cons (e : Expr) (es : List Expr) :
    evalEs P env w (e :: es) =
      onVal (evalE P env w e) fun v w1 => onVals (evalEs P env w1 es) fun vs w2 => some (v :: vs, w2) := by
  rw [evalEs]; rfl

@[go_eval] theorem evalS_define (lhs : List String) (rhs : Expr) :
    evalS P env w (.define lhs rhs) =
      onVal (evalE P env w rhs) fun v w' =>
        (bindVals lhs v).map fun bs => (bs.foldl (fun e (x, v) => Env.def e x v) env, w', .norm) := by
  rw [evalS]
  generalize evalE P env w rhs = r
  rcases r with _ | ⟨v, w'⟩
  · rfl
  · simp only [onVal]; cases bindVals lhs v <;> rfl
@[go_eval] theorem evalS_assign (lhs : List String) (rhs : Expr) :
    evalS P env w (.assign lhs rhs) =
      onVal (evalE P env w rhs) fun v w' =>
        (bindVals lhs v).bind fun bs =>
          (bs.foldl (fun (e : Option Env) (x, v) => e.bind (fun e => Env.set e x v)) (some env)).map (·, w', .norm) := by
  rw [evalS]
  generalize evalE P env w rhs = r
  rcases r with _ | ⟨v, w'⟩
  · rfl
  · simp only [onVal]; cases bindVals lhs v <;> rfl
@[go_eval] theorem evalS_store (target : Expr) (field : String) (rhs : Expr) :
    evalS P env w (.store target field rhs) =
      onVal (evalE P env w target) fun t w1 => onVal (evalE P env w1 rhs) fun v w2 =>
        onVal (P.fn (".set:" ++ field) [t, v] w2) fun _ w3 => some (env, w3, .norm) := by
  rw [evalS]
  generalize evalE P env w target = r
  rcases r with _ | ⟨t, w1⟩
  · rfl
  · simp only [onVal]
    generalize evalE P env w1 rhs = r2
    rcases r2 with _ | ⟨v, w2⟩
    · rfl
    · simp only []; cases P.fn (".set:" ++ field) [t, v] w2 <;> rfl
@[go_eval] theorem evalS_ifs (init : List Stmt) (cond : Expr) (thn els : List Stmt) :
    evalS P env w (.ifs init cond thn els) =
      onNorm (evalB P env w init) fun env1 w1 => onBool (evalE P env1 w1 cond) fun b w2 =>
        if b then leaveTo env.length (evalB P env1 w2 thn) else leaveTo env.length (evalB P env1 w2 els) := by
  rw [evalS]
  unfold onNorm onBool
  split <;> simp_all <;> split <;> simp_all [leaveTo]
@[go_eval] theorem evalS_range (k v : String) (coll : Expr) (body : List Stmt) :
    evalS P env w (.range k v coll body) = onVal (evalE P env w coll) (rangeOver P k v body env) := by
  rw [evalS]
  generalize evalE P env w coll = r
  rcases r with _ | ⟨c, w1⟩
  · rfl
  · cases c <;> first | rfl | (simp only [onVal, rangeOver]; split <;> simp_all <;> rfl)
@[go_eval] theorem evalS_ret (es : List Expr) :
    evalS P env w (.ret es) = onVals (evalEs P env w es) fun vs w' => some (env, w', .ret (retVal vs)) := by
  rw [evalS]
  unfold onVals retVal
  split <;> simp_all
@[go_eval] theorem evalS_brk : evalS P env w .brk = some (env, w, .brk) := by rw [evalS]
@[go_eval] theorem evalS_cont : evalS P env w .cont = some (env, w, .cont) := by rw [evalS]
@[go_eval] theorem evalS_expr (e : Expr) :
    evalS P env w (.expr e) = onVal (evalE P env w e) fun _ w' => some (env, w', .norm) := by
  rw [evalS]; cases evalE P env w e <;> rfl
@[go_eval] theorem evalS_forc' (init : List Stmt) (cond : Expr) (post body : List Stmt) :
    evalS P env w (.forc init cond post body) =
      onNorm (evalB P env w init) fun env1 w1 => leaveTo env.length (whileM (forcIter P cond post body) P.fuel env1 w1) := by
  rw [evalS_forc]
  unfold onNorm
  split <;> simp_all [leaveTo]
theorem forcIter_eq (cond : Expr) (post body : List Stmt) (e : Env) :
    forcIter P cond post body e w =
      onBool (evalE P e w cond) fun b w2 =>
        if b then afterBody (fun e' w3 => evalB P e' w3 post) (leaveTo e.length (evalB P e w2 body)) else some (e, w2, some .norm) := by
  unfold forcIter onBool
  split <;> simp_all [leaveTo]
@[go_eval] theorem evalS_unsupported (s : String) : evalS P env w (.unsupported s) = none := by rw [evalS]

@[go_eval] theorem evalB_cons' (s : Stmt) (rest : List Stmt) :
    evalB P env w (s :: rest) = next (evalS P env w s) fun env' w' => evalB P env' w' rest := by
  rw [evalB]; rfl

@[go_eval] theorem run_eq (f : Func) (args : List Val) :
    run P f args w = if f.params.length = args.length then finish (evalB P (f.params.zip args) w f.body) else none := by
  unfold run finish; rfl
end clauses

/-- `simp` folds `".set:" ++ "Injects"` to the literal without a proof; where the result has to be matched against a congruence
    lemma's hypothesis the unifier redoes it by unfolding `String.append`, which is very slow.  Given as
    `store_as "Injects" ".set:Injects" rfl` the name arrives as a literal. -/
theorem store_as (field name : String) (h : ".set:" ++ field = name) (P : Prims σ) (env : Env) (w : σ) (target rhs : Expr) :
    evalS P env w (.store target field rhs) =
      onVal (evalE P env w target) fun t w1 => onVal (evalE P env w1 rhs) fun v w2 =>
        onVal (P.fn name [t, v] w2) fun _ w3 => some (env, w3, .norm) := by
  rw [evalS_store, h]

/-- a round's environment written out: with `Env.def` left in `evalB`'s argument simp unfolds it THERE, and the congruence
    step pays a dear failed unification on the string comparison it leaves behind -/
@[go_eval] theorem rangeIter_blank (P : Prims σ) (v : String) (body : List Stmt) (i : Nat) (x : Val) (e : Env) (w : σ)
    (h : v ≠ "_") : rangeIter P "_" v body i x e w = leaveTo e.length (evalB P ((v, x) :: e) w body) := by
  simp [rangeIter, Env.def, h]
@[go_eval] theorem rangeIter_named (P : Prims σ) (k v : String) (body : List Stmt) (i : Nat) (x : Val) (e : Env) (w : σ)
    (hk : k ≠ "_") (hv : v ≠ "_") :
    rangeIter P k v body i x e w = leaveTo e.length (evalB P ((v, x) :: (k, .int i) :: e) w body) := by
  simp [rangeIter, Env.def, hk, hv]

@[go_eval] theorem retVal_nil : retVal [] = .tuple [] := by unfold retVal; rfl
@[go_eval] theorem retVal_one (v : Val) : retVal [v] = v := by unfold retVal; rfl
@[go_eval] theorem retVal_more (a b : Val) (l : List Val) : retVal (a :: b :: l) = .tuple (a :: b :: l) := by unfold retVal; rfl
@[go_eval] theorem bindVals_one (x : String) (v : Val) : bindVals [x] v = some [(x, v)] := by
  cases v <;> rfl
@[go_eval] theorem bindVals_more (x y : String) (xs : List String) (vs : List Val) :
    bindVals (x :: y :: xs) (.tuple vs) = if (x :: y :: xs).length = vs.length then some ((x :: y :: xs).zip vs) else none := by
  unfold bindVals; rfl

attribute [go_eval] afterBody.eq_1 afterBody.eq_2 afterBody.eq_3 afterBody.eq_4 afterBody.eq_5
  Env.get Env.set Env.def Env.leave binOp truthy lenOf idxOf rangeOver filterVal
  valEq.eq_1 valEq.eq_2 valEq.eq_3 valEq.eq_4 valEq.eq_5 valEq.eq_6 valEq.eq_7 valEq.eq_8 valEq.eq_9 valEq.eq_10 valEq.eq_11
  valEq.eq_12 valEq.eq_13

/-! ### Decisions inside values

    A value, a control outcome or an answer that is an `if` is taken apart so that the `if` comes to stand outside, where the
    sequencing functions carry the rest of the program into both branches. -/

@[go_eval] theorem out_ite (e : Env) (w : σ) (c : Prop) [Decidable c] (a b : Ctl) :
    (some (e, w, if c then a else b) : Out σ) = if c then some (e, w, a) else some (e, w, b) := by split <;> rfl
@[go_eval] theorem ret_ite (e : Env) (w : σ) (c : Prop) [Decidable c] (a b : Val) :
    (some (e, w, Ctl.ret (if c then a else b)) : Out σ) = if c then some (e, w, .ret a) else some (e, w, .ret b) := by
  split <;> rfl
@[go_eval] theorem bindVals_ite (xs : List String) (c : Prop) [Decidable c] (a b : Val) :
    bindVals xs (if c then a else b) = if c then bindVals xs a else bindVals xs b := by split <;> rfl

@[go_eval] theorem afterBody_ite (post : Env → σ → Out σ) (c : Prop) [Decidable c] (a b : Out σ) :
    afterBody post (if c then a else b) = if c then afterBody post a else afterBody post b := by split <;> rfl
/-- a VALUE that is a decision (`if failed then err else nil`) is compared, and mapped over, branch by branch -/
@[go_eval high] theorem valEq_ite (c : Prop) [Decidable c] (a b v : Val) :
    valEq (if c then a else b) v = if c then valEq a v else valEq b v := by split <;> rfl
@[go_eval] theorem map_ite {α γ : Type} (f : α → γ) (c : Prop) [Decidable c] (a b : Option α) :
    Option.map f (if c then a else b) = if c then Option.map f a else Option.map f b := by split <;> rfl

@[go_eval] theorem bind_ite {α γ : Type} (f : α → Option γ) (c : Prop) [Decidable c] (a b : Option α) :
    Option.bind (if c then a else b) f = if c then Option.bind a f else Option.bind b f := by split <;> rfl

theorem evalB_append_next (P : Prims σ) (xs ys : List Stmt) (env : Env) (w : σ) :
    evalB P env w (xs ++ ys) = next (evalB P env w xs) fun e w' => evalB P e w' ys := by
  rw [evalB_append]; rfl

/-- `a && b` where `b` leaves the world alone is one boolean, not a decision with the rest of the program in both branches -/
theorem and_val (c : Prop) [Decidable c] (y : Bool) (w : σ) :
    (if c then some (Val.bool y, w) else some (Val.bool false, w)) = some (Val.bool (decide c && y), w) := by
  split <;> simp [*]

/-- a primitive's answer whose VALUE is a decision: the rest of the program is carried into both branches -/
theorem answer_ite (c : Prop) [Decidable c] (a b : Val) (w : σ) :
    (some (if c then a else b, w) : Option (Val × σ)) = if c then some (a, w) else some (b, w) := by split <;> rfl
/-- a primitive's answer that is a decision between two strings -/
theorem str_ite (c : Prop) [Decidable c] (a b : String) :
    Val.str (if c then a else b) = if c then Val.str a else Val.str b := by split <;> rfl

/-- a primitive's answer that is not written as a pair (`some (rec e h)`) -/
theorem onVal_pair (p : Val × σ) (k : Val → σ → Option β) : onVal (some p) k = k p.1 p.2 := by
  cases p; rfl

/-- the two normal forms that let a decision tree of the program and one of the model meet -/
theorem ite_and_nest {α : Type} (p q : Prop) [Decidable p] [Decidable q] (a b : α) :
    (if p ∧ q then a else b) = if p then (if q then a else b) else b := by
  by_cases p <;> simp [*]
theorem ite_eq_false_swap {α : Type} (b : Bool) (x y : α) : (if b = false then x else y) = if b = true then y else x := by
  cases b <;> rfl

/-- `len(xs) == 0` of a list known to be `x :: xs` -/
@[go_eval] theorem natCast_succ_ne_zero (n : Nat) : ((n : Int) + 1 = 0) = False := by
  simp; omega

/-! ### Loops (`loopM_steps` and the three-clause loop lemmas are in `GoTactics`) -/

@[go_eval] theorem next_ctlOf (e : Env) (w : σ) (r : Option Val) (kn : Env → σ → Out σ) :
    next (some (e, w, ctlOf r)) kn = match r with | none => kn e w | some v => some (e, w, .ret v) := by cases r <;> rfl

/-- A `for range` whose rounds end normally, leave the environment as it was and take the world from `w` to `g w x`,
    provided the world satisfies `I`, which `g` preserves. -/
theorem loopM_foldl {α : Type} (enc : α → Val) (f : Nat → Val → Env → σ → Out σ) (env : Env) (g : σ → α → σ) (I : σ → Prop)
    (hI : ∀ w x, I w → I (g w x)) :
    ∀ (xs : List α) (i : Nat) (w : σ), I w →
      (∀ x ∈ xs, ∀ i w, I w → settle (f i (enc x) env w) = some (env, g w x, .norm)) →
      loopM f i (xs.map enc) env w = some (env, xs.foldl g w, .norm) := by
  intro xs
  induction xs with
  | nil => intro i w _ _; rfl
  | cons x xs ih =>
    intro i w hw hf
    have h := hf x (by simp) i w hw
    have hrest := ih (i + 1) (g w x) (hI w x hw) fun y hy => hf y (by simp [hy])
    simp only [List.map_cons, loopM, List.foldl_cons]
    rcases hfx : f i (enc x) env w with _ | ⟨e, w2, c⟩
    · rw [hfx] at h; cases h
    · rw [hfx] at h
      cases c <;> simp only [settle, Option.map_some, Option.some.injEq, Prod.mk.injEq, reduceCtorEq, and_false] at h <;>
        obtain ⟨rfl, rfl, -⟩ := h <;> exact hrest

/-- a search loop: every round leaves environment and world as they are and returns `v` on the first element with `p` -/
theorem loopM_any {α : Type} (enc : α → Val) (f : Nat → Val → Env → σ → Out σ) (e : Env) (p : α → Bool) (v : Val)
    (hf : ∀ i x w, f i (enc x) e w = some (e, w, if p x then .ret v else .norm)) :
    ∀ (xs : List α) (i : Nat) (w : σ), loopM f i (xs.map enc) e w = some (e, w, if xs.any p then .ret v else .norm) := by
  intro xs
  induction xs with
  | nil => intro i w; rfl
  | cons x xs ih =>
    intro i w
    simp only [List.map_cons, loopM, hf, List.any_cons]
    by_cases hp : p x = true <;> simp [hp, ih]

/-- `filter(xs, func(param) bool { body })` whose body answers `g` and leaves the world alone -/
theorem filterVal_pure {α : Type} (enc : α → Val) (g : α → Bool) (P : Prims σ) (env : Env) (param : String)
    (body : List Stmt) (xs : List α) (w : σ)
    (h : ∀ x ∈ xs, finish (evalB P (Env.def env param (enc x)) w body) = some (.bool (g x), w)) :
    filterVal P env param body (.list (xs.map enc)) w = some (.list ((xs.filter g).map enc), w) := by
  rw [filterVal, filterM_pure enc _ g w xs]
  · rfl
  · intro x hx
    have := h x hx
    revert this
    generalize evalB P (Env.def env param (enc x)) w body = r
    rcases r with _ | ⟨e, w', _ | _ | _ | v⟩ <;> simp [finish]
    rintro rfl rfl; rfl

/-! ### Function literals -/

/-- a function literal as the primitive that receives it sees it -/
def litHandler (P : Prims σ) (env : Env) (params : List String) (body : List Stmt) : Handler σ := fun as w =>
  if params.length = as.length then finish (evalB P ((params.zip as) ++ env) w body) else none

@[go_eval] theorem evalE_hcall (P : Prims σ) (env : Env) (w : σ) (f : String) (args : List Expr) (params : List String)
    (body : List Stmt) :
    evalE P env w (.hcall f args params body) =
      onVals (evalEs P env w args) fun vs w' => P.hfn f vs (litHandler P env params body) w' := by
  rw [evalE]; rfl

/-- what a function literal that assigns to captured variables makes of its body's outcome: its own variables leave the scope,
    what it assigned in the `n` variables of its caller stays -/
def finishE (n : Nat) (r : Out σ) : Option (Val × Env × σ) :=
  match r with
  | some (e, w, .ret v) => some (v, Env.leave e n, w)
  | some (e, w, .norm) => some (.tuple [], Env.leave e n, w)
  | _ => none

@[go_eval] theorem finishE_ret (n : Nat) (e : Env) (w : σ) (v : Val) : finishE n (some (e, w, .ret v)) = some (v, Env.leave e n, w) := by unfold finishE; rfl
@[go_eval] theorem finishE_norm (n : Nat) (e : Env) (w : σ) : finishE n (some (e, w, .norm)) = some (.tuple [], Env.leave e n, w) := by unfold finishE; rfl
@[go_eval] theorem finishE_ite (n : Nat) (c : Prop) [Decidable c] (a b : Out σ) :
    finishE n (if c then a else b) = if c then finishE n a else finishE n b := by split <;> rfl

/-- such a literal as the primitive that receives it sees it -/
def litHandlerE (P : Prims σ) (params : List String) (body : List Stmt) : HandlerE σ := fun as env w =>
  if params.length = as.length then finishE env.length (evalB P (params.zip as ++ env) w body) else none

@[go_eval] theorem evalS_hcallS (P : Prims σ) (env : Env) (w : σ) (lhs : List String) (f : String) (args : List Expr)
    (params : List String) (body : List Stmt) :
    evalS P env w (.hcallS lhs f args params body) =
      onVals (evalEs P env w args) fun vs w1 =>
        match P.hfnE f vs (litHandlerE P params body) env w1 with
        | some (v, env2, w2) =>
          if lhs.isEmpty then some (env2, w2, .norm)
          else (bindVals lhs v).map fun bs => (bs.foldl (fun e (x, v) => Env.def e x v) env2, w2, .norm)
        | none => none := by
  rw [evalS]
  rcases evalEs P env w args with _ | ⟨vs, w1⟩
  · rfl
  · -- the literal as the interpreter writes it out is `litHandlerE P params body` by unfolding
    show (match P.hfnE f vs (litHandlerE P params body) env w1 with | some (v, env2, w2) => _ | none => none) = _
    simp only [onVals]
    rcases P.hfnE f vs (litHandlerE P params body) env w1 with _ | ⟨v, env2, w2⟩
    · rfl
    · dsimp only
      cases lhs.isEmpty <;> cases bindVals lhs v <;> rfl

end Ioc.Go
