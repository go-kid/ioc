/-
  Lemmas about the MiniGo interpreter (`Ioc.GoSem`) that do not depend on the program: the statement-by-statement form of
  blocks and `if`, and the loop lemmas, which relate `loopM` / `whileM` to a model loop (`stepLoop` / `stepWhile`) on a model
  state once a single round has been described.
-/
import Ioc.GoSem
import IocProofs.Lemmas.GoAttr
namespace Ioc.Go

theorem natCast_succ_gt_one (n : Nat) : decide ((n : Int) + 1 + 1 > 1) = true := by
  have : (n : Int) + 1 + 1 > 1 := by omega
  simpa using this

theorem evalB_cons {σ : Type} (P : Prims σ) (env : Env) (w : σ) (s : Stmt) (rest : List Stmt) :
    evalB P env w (s :: rest) =
      match evalS P env w s with
      | some (env', w', .norm) => evalB P env' w' rest
      | other => other := by
  rw [evalB]
  cases evalS P env w s with
  | none => rfl
  | some x =>
    obtain ⟨e, w', c⟩ := x
    cases c <;> rfl

theorem evalS_ifs_true {σ : Type} (P : Prims σ) (env env1 : Env) (w w1 w2 : σ) (init : List Stmt) (cond : Expr)
    (thn els : List Stmt) (hinit : evalB P env w init = some (env1, w1, .norm))
    (hc : evalE P env1 w1 cond = some (.bool true, w2)) :
    evalS P env w (.ifs init cond thn els) =
      (evalB P env1 w2 thn).map (fun (e, w3, c) => (Env.leave e env.length, w3, c)) := by
  simp only [evalS, hinit, hc]

@[go_eval] theorem evalB_nil {σ : Type} (P : Prims σ) (env : Env) (w : σ) : evalB P env w [] = some (env, w, .norm) := by
  rw [evalB]

theorem evalB_append {σ : Type} (P : Prims σ) (xs ys : List Stmt) : ∀ (env : Env) (w : σ),
    evalB P env w (xs ++ ys) =
      match evalB P env w xs with
      | some (env', w', .norm) => evalB P env' w' ys
      | other => other := by
  induction xs with
  | nil => intro env w; simp [evalB_nil]
  | cons x rest ih =>
    intro env w
    rw [List.cons_append, evalB_cons, evalB_cons]
    cases h : evalS P env w x with
    | none => rfl
    | some r =>
      obtain ⟨e, w', c⟩ := r
      cases c with
      | norm => simp only []; exact ih e w'
      | brk => rfl
      | cont => rfl
      | ret v => rfl

/-- a filter whose predicate does not touch the world and is described by `g` -/
theorem filterM_pure {σ α : Type} (enc : α → Val) (f : Val → σ → Option (Bool × σ)) (g : α → Bool) (w : σ)
    (xs : List α) (hf : ∀ x ∈ xs, f (enc x) w = some (g x, w)) :
    filterM f (xs.map enc) w = some ((xs.filter g).map enc, w) := by
  induction xs with
  | nil => simp [filterM]
  | cons x rest ih =>
    have h1 := hf x (by simp)
    have h2 := ih (fun y hy => hf y (by simp [hy]))
    simp only [List.map_cons, filterM, h1, h2, List.filter_cons]
    cases g x <;> simp


/-! ### a generic loop lemma: iterations that leave the environment in a shape determined by a model state -/

/-- thread a state and the world through the elements, stop at the first element that returns -/
def stepLoop {σ α τ : Type} (step : α → τ → σ → τ × σ × Option Val) : List α → τ → σ → τ × σ × Option Val
  | [], t, w => (t, w, none)
  | x :: xs, t, w =>
    match step x t w with
    | (t', w', none) => stepLoop step xs t' w'
    | (t', w', some v) => (t', w', some v)

def ctlOf : Option Val → Ctl
  | none => .norm
  | some v => .ret v

/-- the outcome of a statement or block -/
abbrev Out (σ : Type) := Option (Env × σ × Ctl)

/-- the outcome of one round as `loopM` reads it: `continue` ends the round like a normal end -/
def settle {σ : Type} (r : Out σ) : Out σ := r.map fun (e, w, c) => (e, w, match c with | .cont => .norm | c => c)

section settle
variable {σ : Type}
@[go_eval] theorem settle_norm (e : Env) (w : σ) : settle (some (e, w, .norm)) = some (e, w, .norm) := by unfold settle; rfl
@[go_eval] theorem settle_cont (e : Env) (w : σ) : settle (some (e, w, .cont)) = some (e, w, .norm) := by unfold settle; rfl
@[go_eval] theorem settle_brk (e : Env) (w : σ) : settle (some (e, w, .brk)) = some (e, w, .brk) := by unfold settle; rfl
@[go_eval] theorem settle_ret (e : Env) (w : σ) (v : Val) : settle (some (e, w, .ret v)) = some (e, w, .ret v) := by unfold settle; rfl
@[go_eval] theorem settle_none : settle (none : Out σ) = none := by unfold settle; rfl
@[go_eval] theorem settle_ite (c : Prop) [Decidable c] (a b : Out σ) :
    settle (if c then a else b) = if c then settle a else settle b := by split <;> rfl
theorem settle_ctlOf (e : Env) (w : σ) (r : Option Val) : settle (some (e, w, ctlOf r)) = some (e, w, ctlOf r) := by
  cases r <;> rfl
end settle

/-- A `for range` whose rounds are described by a model step on a model state `t` (the environment between two rounds is
    `envOf t`), under an invariant of `t` that rounds which do not return preserve: the loop is `stepLoop step`. -/
theorem loopM_steps {σ α τ : Type} (enc : α → Val) (f : Nat → Val → Env → σ → Out σ) (envOf : τ → Env)
    (step : α → τ → σ → τ × σ × Option Val) (I : τ → Prop)
    (hf : ∀ i x t w, I t →
      settle (f i (enc x) (envOf t) w) = some (envOf (step x t w).1, (step x t w).2.1, ctlOf (step x t w).2.2))
    (hI : ∀ x t w, I t → (step x t w).2.2 = none → I (step x t w).1) :
    ∀ (xs : List α) (i : Nat) (t : τ) (w : σ), I t →
      loopM f i (xs.map enc) (envOf t) w =
        some (envOf (stepLoop step xs t w).1, (stepLoop step xs t w).2.1, ctlOf (stepLoop step xs t w).2.2) := by
  intro xs
  induction xs with
  | nil => intro i t w _; rfl
  | cons x xs ih =>
    intro i t w ht
    have h := hf i x t w ht
    have hI' := hI x t w ht
    simp only [List.map_cons, loopM, stepLoop]
    rcases hstep : step x t w with ⟨t', w', r⟩
    rw [hstep] at h hI'
    rcases hfx : f i (enc x) (envOf t) w with _ | ⟨e, w2, c⟩
    · rw [hfx] at h; cases h
    · rw [hfx] at h
      cases r <;> cases c <;> simp only [settle, Option.map_some, Option.some.injEq, Prod.mk.injEq, ctlOf] at h <;>
        obtain ⟨rfl, rfl, hc⟩ := h <;> first | cases hc | skip
      · exact ih (i + 1) t' w2 (hI' rfl)
      · exact ih (i + 1) t' w2 (hI' rfl)
      · rfl

/-- `loopM_steps` without an invariant -/
theorem loopM_rounds {σ α τ : Type} (enc : α → Val) (f : Nat → Val → Env → σ → Out σ) (envOf : τ → Env)
    (step : α → τ → σ → τ × σ × Option Val)
    (hf : ∀ i x t w, settle (f i (enc x) (envOf t) w) = some (envOf (step x t w).1, (step x t w).2.1, ctlOf (step x t w).2.2))
    (xs : List α) (i : Nat) (t : τ) (w : σ) :
    loopM f i (xs.map enc) (envOf t) w =
      some (envOf (stepLoop step xs t w).1, (stepLoop step xs t w).2.1, ctlOf (stepLoop step xs t w).2.2) :=
  loopM_steps enc f envOf step (fun _ => True) (fun i x t w _ => hf i x t w) (fun _ _ _ _ _ => trivial) xs i t w trivial

/-- the same for bodies without `continue`, stated on the round's own outcome -/
theorem loopM_state_inv {σ α τ : Type} (enc : α → Val) (f : Nat → Val → Env → σ → Option (Env × σ × Ctl)) (envOf : τ → Env)
    (step : α → τ → σ → τ × σ × Option Val) (I : τ → Prop)
    (hf : ∀ i x t w, I t → f i (enc x) (envOf t) w = some (envOf (step x t w).1, (step x t w).2.1, ctlOf (step x t w).2.2))
    (hI : ∀ x t w, I t → (step x t w).2.2 = none → I (step x t w).1) :
    ∀ (xs : List α) (i : Nat) (t : τ) (w : σ), I t →
      loopM f i (xs.map enc) (envOf t) w =
        some (envOf (stepLoop step xs t w).1, (stepLoop step xs t w).2.1, ctlOf (stepLoop step xs t w).2.2) :=
  loopM_steps enc f envOf step I (fun i x t w ht => by rw [hf i x t w ht, settle_ctlOf]) hI

theorem loopM_state {σ α τ : Type} (enc : α → Val) (f : Nat → Val → Env → σ → Option (Env × σ × Ctl)) (envOf : τ → Env)
    (step : α → τ → σ → τ × σ × Option Val)
    (hf : ∀ i x t w, f i (enc x) (envOf t) w = some (envOf (step x t w).1, (step x t w).2.1, ctlOf (step x t w).2.2)) :
    ∀ (xs : List α) (i : Nat) (t : τ) (w : σ),
      loopM f i (xs.map enc) (envOf t) w =
        some (envOf (stepLoop step xs t w).1, (stepLoop step xs t w).2.1, ctlOf (stepLoop step xs t w).2.2) :=
  loopM_rounds enc f envOf step fun i x t w => by rw [hf i x t w, settle_ctlOf]

/-- an iteration's control outcome against the model's: go on (normally or by `continue`) / return v -/
def CtlMatches (c : Ctl) (r : Option Val) : Prop :=
  (r = none ∧ (c = .norm ∨ c = .cont)) ∨ (∃ v, r = some v ∧ c = .ret v)

/-- `loopM_state` for bodies that may `continue` -/
theorem loopM_state_cont {σ α τ : Type} (enc : α → Val) (f : Nat → Val → Env → σ → Option (Env × σ × Ctl)) (envOf : τ → Env)
    (step : α → τ → σ → τ × σ × Option Val)
    (hf : ∀ i x t w, ∃ c, f i (enc x) (envOf t) w = some (envOf (step x t w).1, (step x t w).2.1, c) ∧
      CtlMatches c (step x t w).2.2) :
    ∀ (xs : List α) (i : Nat) (t : τ) (w : σ),
      loopM f i (xs.map enc) (envOf t) w =
        some (envOf (stepLoop step xs t w).1, (stepLoop step xs t w).2.1, ctlOf (stepLoop step xs t w).2.2) :=
  loopM_rounds enc f envOf step fun i x t w => by
    obtain ⟨c, hc, hm⟩ := hf i x t w
    rw [hc]
    rcases hm with ⟨hr, rfl | rfl⟩ | ⟨v, hr, rfl⟩ <;> rw [hr] <;> rfl


/-! ### three-clause loops -/

/-- the model side of `whileM`: the same fuel discipline over a model state -/
def stepWhile {σ τ : Type} (step : τ → σ → τ × σ × Option Ctl) : Nat → τ → σ → Option (τ × σ × Ctl)
  | 0, _, _ => none
  | n + 1, t, w =>
    match step t w with
    | (t', w', none) => stepWhile step n t' w'
    | (t', w', some c) => some (t', w', c)

theorem whileM_state {σ τ : Type} (iter : Env → σ → Option (Env × σ × Option Ctl)) (envOf : τ → Env)
    (step : τ → σ → τ × σ × Option Ctl)
    (hf : ∀ t w, iter (envOf t) w = some (envOf (step t w).1, (step t w).2.1, (step t w).2.2)) :
    ∀ (n : Nat) (t : τ) (w : σ),
      whileM iter n (envOf t) w = (stepWhile step n t w).map (fun r => (envOf r.1, r.2.1, r.2.2)) := by
  intro n
  induction n with
  | zero => intro t w; simp [whileM, stepWhile]
  | succ n ih =>
    intro t w
    simp only [whileM, hf, stepWhile]
    rcases hstep : step t w with ⟨t', w', r⟩
    cases r with
    | none => simp only []; exact ih t' w'
    | some c => simp


/-- one round of a three-clause loop from environment `e`: condition, body, post statement (what `evalS` hands to `whileM`) -/
def forcIter {σ : Type} (P : Prims σ) (cond : Expr) (post body : List Stmt) (e : Env) (w' : σ) : Option (Env × σ × Option Ctl) :=
  match evalE P e w' cond with
  | some (.bool true, w2) =>
    afterBody (fun e' w3 => evalB P e' w3 post)
      ((evalB P e w2 body).map (fun (e', w'', c) => (Env.leave e' e.length, w'', c)))
  | some (.bool false, w2) => some (e, w2, some Ctl.norm)
  | _ => none

theorem evalS_forc {σ : Type} (P : Prims σ) (env : Env) (w : σ) (init : List Stmt) (cond : Expr) (post body : List Stmt) :
    evalS P env w (.forc init cond post body) =
      match evalB P env w init with
      | some (env1, w1, .norm) =>
        (whileM (forcIter P cond post body) P.fuel env1 w1).map (fun (e, w', c) => (Env.leave e env.length, w', c))
      | _ => none := by
  rw [evalS]
  rfl

/-- a three-clause loop whose rounds are described by a model step on a model state -/
theorem evalS_forc_state {σ τ : Type} (P : Prims σ) (env : Env) (w w1 : σ) (init : List Stmt) (cond : Expr)
    (post body : List Stmt) (envOf : τ → Env) (step : τ → σ → τ × σ × Option Ctl) (t0 : τ)
    (hinit : evalB P env w init = some (envOf t0, w1, .norm))
    (hiter : ∀ t w', forcIter P cond post body (envOf t) w' = some (envOf (step t w').1, (step t w').2.1, (step t w').2.2)) :
    evalS P env w (.forc init cond post body) =
      (stepWhile step P.fuel t0 w1).map (fun r => (Env.leave (envOf r.1) env.length, r.2.1, r.2.2)) := by
  rw [evalS_forc, hinit]
  simp only []
  rw [whileM_state (forcIter P cond post body) envOf step hiter]
  cases stepWhile step P.fuel t0 w1 <;> rfl

end Ioc.Go
