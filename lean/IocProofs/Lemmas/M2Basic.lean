/-
  Frame lemmas for the factory machine (Ioc.Container): logging touches nothing but the log.
-/
import Ioc.Container
namespace Ioc.M2

structure SameButLog (a b : St) : Prop where
  l1 : a.l1 = b.l1
  l2 : a.l2 = b.l2
  l3 : a.l3 = b.l3
  stack : a.stack = b.stack
  fields : a.fields = b.fields
  todoBoot : a.todoBoot = b.todoBoot
  todo : a.todo = b.todo
  stage : a.stage = b.stage
  status : a.status = b.status

theorem SameButLog.refl (a : St) : SameButLog a a := ⟨rfl, rfl, rfl, rfl, rfl, rfl, rfl, rfl, rfl⟩

theorem SameButLog.trans {a b c : St} (h1 : SameButLog a b) (h2 : SameButLog b c) : SameButLog a c :=
  ⟨h1.l1.trans h2.l1, h1.l2.trans h2.l2, h1.l3.trans h2.l3, h1.stack.trans h2.stack, h1.fields.trans h2.fields,
   h1.todoBoot.trans h2.todoBoot, h1.todo.trans h2.todo, h1.stage.trans h2.stage, h1.status.trans h2.status⟩

theorem SameButLog.ite {c : Prop} [Decidable c] {a b st : St} (ha : SameButLog a st) (hb : SameButLog b st) :
    SameButLog (if c then a else b) st := by
  split <;> assumption

theorem addLog_same (sc : Scen) (st : St) (n : Nat) (e : Ev) : SameButLog (addLog sc st n e) st :=
  .ite ⟨rfl, rfl, rfl, rfl, rfl, rfl, rfl, rfl, rfl⟩ (.refl st)

@[simp] theorem addLog_l1 (sc : Scen) (st : St) (n : Nat) (e : Ev) : (addLog sc st n e).l1 = st.l1 :=
  (addLog_same sc st n e).l1
@[simp] theorem addLog_l2 (sc : Scen) (st : St) (n : Nat) (e : Ev) : (addLog sc st n e).l2 = st.l2 :=
  (addLog_same sc st n e).l2
@[simp] theorem addLog_l3 (sc : Scen) (st : St) (n : Nat) (e : Ev) : (addLog sc st n e).l3 = st.l3 :=
  (addLog_same sc st n e).l3
@[simp] theorem addLog_stack (sc : Scen) (st : St) (n : Nat) (e : Ev) : (addLog sc st n e).stack = st.stack :=
  (addLog_same sc st n e).stack
@[simp] theorem addLog_fields (sc : Scen) (st : St) (n : Nat) (e : Ev) : (addLog sc st n e).fields = st.fields :=
  (addLog_same sc st n e).fields
@[simp] theorem addLog_todoBoot (sc : Scen) (st : St) (n : Nat) (e : Ev) : (addLog sc st n e).todoBoot = st.todoBoot :=
  (addLog_same sc st n e).todoBoot
@[simp] theorem addLog_todo (sc : Scen) (st : St) (n : Nat) (e : Ev) : (addLog sc st n e).todo = st.todo :=
  (addLog_same sc st n e).todo
@[simp] theorem addLog_stage (sc : Scen) (st : St) (n : Nat) (e : Ev) : (addLog sc st n e).stage = st.stage :=
  (addLog_same sc st n e).stage
@[simp] theorem addLog_status (sc : Scen) (st : St) (n : Nat) (e : Ev) : (addLog sc st n e).status = st.status :=
  (addLog_same sc st n e).status

theorem addLog_log (sc : Scen) (st : St) (m : Nat) (e : Ev) :
    (addLog sc st m e).log = (if sc.logged m then [e] else []) ++ st.log := by
  unfold addLog; cases sc.logged m <;> rfl

@[simp] theorem onStack_addLog (sc : Scen) (st : St) (n : Nat) (e : Ev) (x : Nat) :
    onStack (addLog sc st n e) x = onStack st x := by
  simp [onStack]

theorem initCallbacks_same (sc : Scen) (st : St) (n : Nat) : SameButLog (initCallbacks sc st n).1 st := by
  simp only [initCallbacks, apply_ite Prod.fst]
  -- one to four events are logged, according to the callback that stops the chain
  have a1 := addLog_same sc st n
  have a2 := fun e1 e2 => (addLog_same sc _ n e2).trans (a1 e1)
  have a3 := fun e1 e2 e3 => (addLog_same sc _ n e3).trans (a2 e1 e2)
  have a4 := fun e1 e2 e3 e4 => (addLog_same sc _ n e4).trans (a3 e1 e2 e3)
  exact .ite (.ite (a1 _) (.ite (a2 _ _) (.ite (a3 _ _ _) (.ite (a4 _ _ _ _) (a4 _ _ _ _)))))
    (.ite (a1 _) (.ite (a2 _ _) (a2 _ _)))

@[simp] theorem initCallbacks_l1 (sc : Scen) (st : St) (n : Nat) : (initCallbacks sc st n).1.l1 = st.l1 :=
  (initCallbacks_same sc st n).l1
@[simp] theorem initCallbacks_l2 (sc : Scen) (st : St) (n : Nat) : (initCallbacks sc st n).1.l2 = st.l2 :=
  (initCallbacks_same sc st n).l2
@[simp] theorem initCallbacks_l3 (sc : Scen) (st : St) (n : Nat) : (initCallbacks sc st n).1.l3 = st.l3 :=
  (initCallbacks_same sc st n).l3
@[simp] theorem initCallbacks_stack (sc : Scen) (st : St) (n : Nat) : (initCallbacks sc st n).1.stack = st.stack :=
  (initCallbacks_same sc st n).stack
@[simp] theorem initCallbacks_fields (sc : Scen) (st : St) (n : Nat) : (initCallbacks sc st n).1.fields = st.fields :=
  (initCallbacks_same sc st n).fields
@[simp] theorem initCallbacks_todoBoot (sc : Scen) (st : St) (n : Nat) :
    (initCallbacks sc st n).1.todoBoot = st.todoBoot := (initCallbacks_same sc st n).todoBoot
@[simp] theorem initCallbacks_todo (sc : Scen) (st : St) (n : Nat) : (initCallbacks sc st n).1.todo = st.todo :=
  (initCallbacks_same sc st n).todo
@[simp] theorem initCallbacks_stage (sc : Scen) (st : St) (n : Nat) : (initCallbacks sc st n).1.stage = st.stage :=
  (initCallbacks_same sc st n).stage
@[simp] theorem initCallbacks_status (sc : Scen) (st : St) (n : Nat) : (initCallbacks sc st n).1.status = st.status :=
  (initCallbacks_same sc st n).status

theorem upd_forall {β} {f : Nat → Option β} {k : Nat} {v : Option β} {P : Nat → β → Prop}
    (hf : ∀ n o, f n = some o → P n o) (hv : ∀ o, v = some o → P k o) : ∀ n o, upd f k v n = some o → P n o := by
  intro n o h
  by_cases hn : n = k
  · subst hn; rw [upd_same] at h; exact hv o h
  · rw [upd_other _ _ _ _ hn] at h; exact hf n o h

theorem run_add (sc : Scen) (n m : Nat) (st : St) : run sc (n + m) st = run sc m (run sc n st) := by
  induction n generalizing st with
  | zero => simp [run]
  | succ n ih => rw [Nat.add_right_comm]; exact ih (step sc st)

end Ioc.M2
