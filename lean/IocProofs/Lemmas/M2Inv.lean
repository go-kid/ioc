/-
  The cache invariant of the factory machine (Ioc.Container) and its preservation by every step.
  Consequences used by C01 / C03: an object stored in a field of a holder is the published one (l1) or the single early
  version (l2) of its name; published entries never change; a publication leaves no other version behind.
-/
import IocProofs.Lemmas.M2Step
namespace Ioc.M2

/-- agreement on everything the cache invariant speaks about -/
structure Sim (a b : St) : Prop where
  l1 : a.l1 = b.l1
  l2 : a.l2 = b.l2
  l3 : a.l3 = b.l3
  stack : a.stack = b.stack
  fields : a.fields = b.fields
  status : a.status = b.status

theorem Sim.symm {a b : St} (h : Sim a b) : Sim b a :=
  ⟨h.l1.symm, h.l2.symm, h.l3.symm, h.stack.symm, h.fields.symm, h.status.symm⟩
theorem SameButLog.sim {a b : St} (h : SameButLog a b) : Sim a b := ⟨h.l1, h.l2, h.l3, h.stack, h.fields, h.status⟩

theorem enter_fields (sc : Scen) (st : St) (c : Nat) : (enter sc st c).fields = st.fields := by
  rcases Lc.enter_eq sc st c with ⟨_, e⟩ | ⟨_, _, e⟩ | ⟨_, _, _, e⟩ | ⟨_, _, _, _, e⟩ <;> rw [e]
  · rfl
  · rfl
  · exact addLog_fields ..
  · exact (addLog_fields ..).trans (addLog_fields ..)

def snames (st : St) : List Nat := st.stack.map (·.name)

/-- the part of the stack below the frame of `h` -/
def belowN : List Nat → Nat → List Nat
  | [], _ => []
  | x :: rest, h => if x = h then rest else belowN rest h

theorem belowN_sub (s : List Nat) (h x : Nat) (hx : x ∈ belowN s h) : x ∈ s := by
  induction s with
  | nil => simp [belowN] at hx
  | cons f rest ih =>
    simp only [belowN] at hx
    split at hx
    · simp [hx]
    · simp [ih hx]

theorem belowN_cons_ne (x : Nat) (s : List Nat) (h : Nat) (hne : x ≠ h) : belowN (x :: s) h = belowN s h := by
  simp [belowN, hne]

structure WF (sc : Scen) : Prop where
  early_name : ∀ n, (sc.earlyO n).name = n
  after_name : ∀ n, (sc.afterO n).name = n

theorem WF.init_name {sc : Scen} (wf : WF sc) (n : Nat) : (initResult sc n).name = n := by
  unfold initResult; split
  · exact wf.after_name n
  · rfl

/-- the start has not failed -/
def NF (st : St) : Prop := ∀ w s, st.status ≠ .failed w s

theorem NF_of_running {st : St} (h : st.status = .running) : NF st := by
  intro w s h'; rw [h] at h'; cases h'

theorem NF_of_done {st : St} (h : st.status = .done) : NF st := by
  intro w s h'; rw [h] at h'; cases h'

/-- stored-object condition: `o` is the published object of its name, or the one early version of a component still in
    creation — and if the holder is itself still in creation, that component lies below the holder on the stack
    (or is the holder: only possible for the not yet filtered `acc`) -/
def Ok (st : St) (o : Obj) (onSt : Prop) (bel : List Nat) (self : Option Nat) : Prop :=
  st.l1 o.name = some o ∨ (st.l2 o.name = some o ∧ (onSt → (o.name ∈ bel ∨ self = some o.name)))

structure Inv (sc : Scen) (st : St) : Prop where
  nodup : (snames st).Nodup
  l1_off : ∀ n ∈ snames st, st.l1 n = none
  on_has : ∀ n ∈ snames st, (st.l2 n).isSome ∨ st.l3 n = true
  off_clean : ∀ n, n ∉ snames st → st.l2 n = none ∧ st.l3 n = false
  l1_name : ∀ n o, st.l1 n = some o → o.name = n
  l2_name : ∀ n o, st.l2 n = some o → o.name = n
  l1_src : ∀ n o, st.l1 n = some o → o = sc.earlyO n ∨ o = initResult sc n
  l2_src : ∀ n o, st.l2 n = some o → o = sc.earlyO n
  stk_names : ∀ n ∈ snames st, n ∈ sc.names
  quiet : st.status ≠ .running → st.stack = []
  fld_dom : ∀ h i o, o ∈ st.fields h i → h ∈ sc.names ∧ i < (pts sc h).length ∧ o.name ≠ h
  one_ver : ∀ h i o h' i' o', o ∈ st.fields h i → o' ∈ st.fields h' i' → o.name = o'.name → o = o'
  fld_live : NF st → ∀ h i o, o ∈ st.fields h i → h ∈ snames st ∨ st.l1 h ≠ none
  fld : NF st → ∀ h i o, o ∈ st.fields h i → Ok st o (h ∈ snames st) (belowN (snames st) h) none
  acc : ∀ f ∈ st.stack, ∀ o ∈ f.acc, Ok st o True (belowN (snames st) f.name) (some f.name)

theorem inv_init (sc : Scen) : Inv sc (init sc) := by
  constructor <;> simp [init, snames]

/-- the invariant reads the caches, the stack and the fields; of the status only whether the start has stopped or failed -/
theorem Inv.congr {sc : Scen} {a b : St} (hi : Inv sc a) (h1 : a.l1 = b.l1) (h2 : a.l2 = b.l2) (h3 : a.l3 = b.l3)
    (hs : a.stack = b.stack) (hf : a.fields = b.fields) (hq : b.status ≠ .running → b.stack = [])
    (hnf : NF b → NF a) : Inv sc b := by
  cases a; cases b; cases h1; cases h2; cases h3; cases hs; cases hf
  exact { hi with quiet := hq, fld_live := fun h => hi.fld_live (hnf h), fld := fun h => hi.fld (hnf h) }

theorem Inv.of_sim {sc : Scen} {a b : St} (hi : Inv sc a) (h : Sim a b) : Inv sc b :=
  hi.congr h.l1 h.l2 h.l3 h.stack h.fields (fun hb => h.stack.symm.trans (hi.quiet fun e => hb (h.status.symm.trans e)))
    (fun hb w s e => hb w s (h.status.symm.trans e))

theorem Inv.shape {sc : Scen} {st : St} (hi : Inv sc st) : Lc.Shape st :=
  ⟨hi.nodup, hi.l1_off, fun n hn => (hi.on_has n hn).imp_left Option.isSome_iff_ne_none.mp, hi.off_clean⟩

theorem _root_.Ioc.M2.Lc.Shape.has {st : St} (sh : Lc.Shape st) : ∀ n ∈ snames st, (st.l2 n).isSome ∨ st.l3 n = true :=
  fun n hn => (sh.on_has n hn).imp_left Option.isSome_iff_ne_none.mpr

/-- being the current (published or early) version of one's name -/
def Cur (st : St) (o : Obj) : Prop := st.l1 o.name = some o ∨ st.l2 o.name = some o

theorem Ok.cur {st : St} {o : Obj} {P : Prop} {bel : List Nat} {self : Option Nat} (h : Ok st o P bel self) : Cur st o := by
  rcases h with h | ⟨h, _⟩
  · exact Or.inl h
  · exact Or.inr h

theorem Inv.l1_l2 {sc : Scen} {st : St} (hi : Inv sc st) (n : Nat) (o : Obj) (h : st.l1 n = some o) : st.l2 n = none := by
  apply (hi.off_clean n ?_).1
  intro hn
  rw [hi.l1_off n hn] at h; cases h

theorem Inv.cur_unique {sc : Scen} {st : St} (hi : Inv sc st) (o o' : Obj) (h : Cur st o) (h' : Cur st o')
    (hn : o.name = o'.name) : o = o' := by
  rcases h with h | h <;> rcases h' with h' | h'
  · rw [hn, h'] at h; cases h; rfl
  · rw [hn] at h; rw [hi.l1_l2 _ _ h] at h'; cases h'
  · rw [← hn] at h'; rw [hi.l1_l2 _ _ h'] at h; cases h
  · rw [hn, h'] at h; cases h; rfl

/-- with an empty stack (between two top-level creations, and at the end) every stored object is the published one -/
theorem Inv.quiescent {sc : Scen} {st : St} (hi : Inv sc st) (hnf : NF st) (he : st.stack = []) :
    ∀ h i o, o ∈ st.fields h i → st.l1 o.name = some o := by
  intro h i o ho
  rcases hi.fld hnf h i o ho with h1 | ⟨h2, _⟩
  · exact h1
  · have := (hi.off_clean o.name (by simp [snames, he])).1
    rw [this] at h2; cases h2

/-- a start (or lookup) that has ended well: every field holds the published object of its name -/
theorem Inv.done {sc : Scen} {st : St} (hi : Inv sc st) (hd : st.status = .done) :
    ∀ h i o, o ∈ st.fields h i → st.l1 o.name = some o :=
  hi.quiescent (NF_of_done hd) (hi.quiet (by rw [hd]; nofun))

theorem Inv.set_done {sc : Scen} {st : St} (hi : Inv sc st) (hnf : NF st) (hs : st.stack = []) :
    Inv sc { st with status := .done } :=
  hi.congr rfl rfl rfl rfl rfl (fun _ => hs) (fun _ => hnf)

/-- a failure: every creation in progress is abandoned and its cache entries are removed -/
theorem inv_failAt (sc : Scen) (st : St) (n : Nat) (hi : Inv sc st) : Inv sc (failAt st n) := by
  have hnnf : ¬ NF (failAt st n) := fun h => h n st.stage rfl
  have l2 : ∀ x o, (failAt st n).l2 x = some o → st.l2 x = some o := fun x o h => by
    simp only [failAt] at h
    split at h
    · cases h
    · exact h
  exact ⟨List.nodup_nil, nofun, nofun, (hi.shape.fail n).off_clean, hi.l1_name,
    fun x o h => hi.l2_name x o (l2 x o h), hi.l1_src, fun x o h => hi.l2_src x o (l2 x o h), nofun,
    fun _ => rfl, hi.fld_dom, hi.one_ver, fun h => absurd h hnnf, fun h => absurd h hnnf, nofun⟩

/-- GetSingleton runs the early-reference factory of a component in creation -/
theorem inv_early (sc : Scen) (wf : WF sc) (st : St) (c : Nat) (hi : Inv sc st) (hr : st.status = .running)
    (h2 : st.l2 c = none) (h3 : st.l3 c = true) :
    Inv sc { st with l2 := upd st.l2 c (some (sc.earlyO c)), l3 := upd st.l3 c false } := by
  have sh : Lc.Shape { st with l2 := upd st.l2 c (some (sc.earlyO c)), l3 := upd st.l3 c false } :=
    hi.shape.promote h3 rfl rfl rfl rfl
  have okmono : ∀ (o' : Obj) (P : Prop) (bel : List Nat) (self : Option Nat), Ok st o' P bel self →
      Ok { st with l2 := upd st.l2 c (some (sc.earlyO c)), l3 := upd st.l3 c false } o' P bel self := by
    intro o' P bel self hok
    rcases hok with h | ⟨h, hb⟩
    · exact Or.inl h
    · -- no early version is named c yet
      have hne : o'.name ≠ c := fun hn => by rw [hn, h2] at h; cases h
      exact Or.inr ⟨by simp [upd, hne, h], hb⟩
  exact { hi with nodup := sh.nodup, l1_off := sh.l1_off, on_has := sh.has, off_clean := sh.off_clean,
                    l2_name := upd_forall hi.l2_name fun o h => by cases h; exact wf.early_name c,
                    l2_src := upd_forall hi.l2_src fun o h => by cases h; rfl,
                    quiet := fun h => absurd hr h,
                    fld := fun hnf h i o' ho' => okmono _ _ _ _ (hi.fld hnf h i o' ho'),
                    acc := fun f hf o' ho' => okmono _ _ _ _ (hi.acc f hf o' ho') }

/-- entering a fresh name -/
theorem inv_push (sc : Scen) (st : St) (c : Nat) (hi : Inv sc st) (hr : st.status = .running) (hc : c ∈ sc.names)
    (h1 : st.l1 c = none) (h2 : st.l2 c = none) (h3 : st.l3 c = false) :
    Inv sc { st with l3 := upd st.l3 c true, stack := ⟨c, 0, 0, []⟩ :: st.stack } := by
  have hnf : NF st := NF_of_running hr
  have hoff : c ∉ snames st := hi.shape.miss_off h2 h3
  have sh := hi.shape.push h1 h2 h3
  have hsn : snames { st with l3 := upd st.l3 c true, stack := ⟨c, 0, 0, []⟩ :: st.stack } = c :: snames st := by
    simp [snames]
  have nofld : ∀ i o, o ∉ st.fields c i := by
    intro i o ho
    rcases hi.fld_live hnf c i o ho with h | h
    · exact hoff h
    · exact h h1
  refine { hi with nodup := sh.nodup, l1_off := sh.l1_off, on_has := sh.has, off_clean := sh.off_clean,
                     stk_names := ?_, quiet := fun h => absurd hr h, fld_live := ?_, fld := ?_, acc := ?_ }
  · intro n hn; rw [hsn] at hn
    rcases List.mem_cons.mp hn with rfl | hn
    · exact hc
    · exact hi.stk_names n hn
  · intro _ h i o ho
    rcases hi.fld_live hnf h i o ho with h' | h'
    · left; rw [hsn]; simp [h']
    · right; exact h'
  · intro _ h i o ho
    have := hi.fld hnf h i o ho
    have hhc : h ≠ c := fun heq => nofld i o (heq ▸ ho)
    rw [hsn, belowN_cons_ne c _ h (Ne.symm hhc)]
    rcases this with h' | ⟨h', hb⟩
    · exact Or.inl h'
    · refine Or.inr ⟨h', fun hon => hb ?_⟩
      rcases List.mem_cons.mp hon with heq | hon
      · exact absurd heq hhc
      · exact hon
  · intro f hf o ho
    rcases List.mem_cons.mp hf with rfl | hf
    · simp at ho
    · have hfn : f.name ∈ snames st := List.mem_map.mpr ⟨f, hf, rfl⟩
      have hne : c ≠ f.name := fun h => hoff (h ▸ hfn)
      rw [hsn, belowN_cons_ne c _ _ hne]
      exact hi.acc f hf o ho

/-- the top frame advances (append to acc / next point / set a field) -/
theorem inv_top (sc : Scen) (st : St) (f f' : Frame) (rest : List Frame) (flds' : Nat → Nat → List Obj)
    (hi : Inv sc st) (hr : st.status = .running) (hs : st.stack = f :: rest) (hn : f'.name = f.name)
    (hacc : ∀ o ∈ f'.acc, Ok st o True (belowN (snames st) f.name) (some f.name))
    (hfld : ∀ h i o, o ∈ flds' h i → o ∈ st.fields h i ∨
        (h = f.name ∧ i < (pts sc f.name).length ∧ o.name ≠ f.name ∧ Ok st o True (belowN (snames st) f.name) none)) :
    Inv sc { st with stack := f' :: rest, fields := flds' } := by
  have hnf : NF st := NF_of_running hr
  have hsn : snames { st with stack := f' :: rest, fields := flds' } = snames st := by
    simp [snames, hs, hn]
  have hfn : f.name ∈ snames st := by simp [snames, hs]
  have hcur : ∀ h i o, o ∈ flds' h i → Cur st o := by
    intro h i o ho
    rcases hfld h i o ho with h' | ⟨_, _, _, hok⟩
    · exact (hi.fld hnf h i o h').cur
    · exact hok.cur
  have sh := hi.shape.congr (a := { st with stack := f' :: rest, fields := flds' }) rfl rfl rfl hsn
  refine { hi with nodup := sh.nodup, l1_off := sh.l1_off, on_has := sh.has, off_clean := sh.off_clean,
                     stk_names := hsn ▸ hi.stk_names, quiet := fun h => absurd hr h, fld_dom := ?_, one_ver := ?_,
                     fld_live := ?_, fld := ?_, acc := ?_ }
  · intro h i o ho
    rcases hfld h i o ho with h' | ⟨rfl, hlt, hne, _⟩
    · exact hi.fld_dom h i o h'
    · exact ⟨hi.stk_names _ hfn, hlt, hne⟩
  · intro h i o h' i' o' ho ho' hnn
    exact hi.cur_unique o o' (hcur h i o ho) (hcur h' i' o' ho') hnn
  · intro _ h i o ho
    rw [hsn]
    rcases hfld h i o ho with h' | ⟨rfl, _, _, _⟩
    · exact hi.fld_live hnf h i o h'
    · exact Or.inl hfn
  · intro _ h i o ho
    rw [hsn]
    rcases hfld h i o ho with h' | ⟨rfl, _, hne, hok⟩
    · exact hi.fld hnf h i o h'
    · rcases hok with h1 | ⟨h2, hb⟩
      · exact Or.inl h1
      · exact Or.inr ⟨h2, fun _ => hb trivial⟩
  · intro g hg o ho
    rw [hsn]
    rcases List.mem_cons.mp hg with rfl | hg
    · rw [hn]; exact hacc o ho
    · exact hi.acc g (by rw [hs]; exact List.mem_cons_of_mem _ hg) o ho

theorem finishedHolderHas_true (sc : Scen) (st : St) (e : Obj) (h i : Nat) (hn : h ∈ sc.names) (hoff : h ∉ snames st)
    (hi : i < (pts sc h).length) (he : e ∈ st.fields h i) : finishedHolderHas sc st e = true := by
  unfold finishedHolderHas
  simp only [List.any_eq_true, Bool.and_eq_true, Bool.not_eq_true']
  exact ⟨h, hn, (Lc.onStack_false_iff st h).mpr hoff, i, List.mem_range.mpr hi, by simpa using he⟩

theorem PubCond.src {sc : Scen} {s : St} {n : Nat} {pub : Obj} (hi : Inv sc s) (h : PubCond sc s n pub) :
    pub = sc.earlyO n ∨ pub = initResult sc n := by
  rcases h with ⟨_, rfl⟩ | ⟨e, he, ⟨_, rfl⟩ | ⟨_, _, rfl⟩⟩
  · exact Or.inr rfl
  · exact Or.inl (hi.l2_src n _ he)
  · exact Or.inr rfl

/-- the version check of doCreateComponent: when the top of the stack is published as `pub`, no holder keeps any other
    object of that name -/
theorem PubCond.stored {sc : Scen} {s : St} {f : Frame} {rest : List Frame} {pub : Obj} (hi : Inv sc s) (hnf : NF s)
    (hs : s.stack = f :: rest) (h : PubCond sc s f.name pub) :
    ∀ h i o, o ∈ s.fields h i → o.name = f.name → o = pub := by
  have hsn0 : snames s = f.name :: rest.map (·.name) := by simp [snames, hs]
  have hfn : f.name ∈ snames s := by simp [hsn0]
  have hl1 : s.l1 f.name = none := hi.l1_off _ hfn
  rcases h with ⟨hl2, rfl⟩ | ⟨e, hl2, hc⟩
  · intro h i o ho hon
    rcases hi.fld hnf h i o ho with h1 | ⟨h2, _⟩
    · rw [hon, hl1] at h1; cases h1
    · rw [hon, hl2] at h2; cases h2
  · have hstoredE : ∀ h i o, o ∈ s.fields h i → o.name = f.name → o = e := by
      intro h i o ho hon
      rcases hi.fld hnf h i o ho with h1 | ⟨h2, _⟩
      · rw [hon, hl1] at h1; cases h1
      · rw [hon, hl2] at h2; cases h2; rfl
    rcases hc with ⟨_, rfl⟩ | ⟨_, hnf', rfl⟩
    · exact hstoredE
    · intro h i o ho hon
      exfalso
      have hoe := hstoredE h i o ho hon
      subst hoe
      have hdom := hi.fld_dom h i o ho
      by_cases hh : h ∈ snames s
      · -- holder still in creation: f would have to be strictly below it
        have hhne : h ≠ f.name := fun heq => hdom.2.2 (hon.trans heq.symm)
        rcases hi.fld hnf h i o ho with h1 | ⟨_, hb⟩
        · rw [hon, hl1] at h1; cases h1
        · rcases hb hh with hb | hb
          · rw [hsn0, belowN_cons_ne _ _ _ (Ne.symm hhne)] at hb
            have := belowN_sub _ _ _ hb
            have hnd := hi.nodup; rw [hsn0] at hnd
            exact (List.nodup_cons.mp hnd).1 (hon ▸ this)
          · cases hb
      · -- finished holder: the check would have fired
        rw [finishedHolderHas_true sc s o h i hdom.1 hh hdom.2.1 ho] at hnf'
        cases hnf'

/-- AddSingleton for the top of the stack, before its caller resumes -/
theorem inv_pop (sc : Scen) (st : St) (f : Frame) (rest : List Frame) (pub : Obj)
    (hi : Inv sc st) (hr : st.status = .running) (hs : st.stack = f :: rest) (hpn : pub.name = f.name)
    (hsrc : pub = sc.earlyO f.name ∨ pub = initResult sc f.name)
    (hstored : ∀ h i o, o ∈ st.fields h i → o.name = f.name → o = pub) :
    Inv sc { st with l1 := upd st.l1 f.name (some pub), l2 := upd st.l2 f.name none, l3 := upd st.l3 f.name false,
                     stack := rest } := by
  have hnf : NF st := NF_of_running hr
  have hsn0 : snames st = f.name :: rest.map (·.name) := by simp [snames, hs]
  have hnd := hi.nodup; rw [hsn0] at hnd
  have hnotin : f.name ∉ rest.map (·.name) := (List.nodup_cons.mp hnd).1
  have hsn : ∀ s : St, s.stack = rest → snames s = rest.map (·.name) := fun s h => by rw [snames, h]
  -- `Ok` carries over for objects not named `f.name`
  have okT : ∀ (o : Obj) (P P' : Prop) (h : Nat) (self : Option Nat), o.name ≠ f.name → h ≠ f.name → (P' → P) →
      Ok st o P (belowN (snames st) h) self →
      Ok { st with l1 := upd st.l1 f.name (some pub), l2 := upd st.l2 f.name none, l3 := upd st.l3 f.name false,
                   stack := rest } o P'
        (belowN (rest.map (·.name)) h) self := by
    intro o P P' h self hne hh hPP hok
    rw [hsn0, belowN_cons_ne _ _ _ (Ne.symm hh)] at hok
    rcases hok with h1 | ⟨h2, hb⟩
    · left; simp [upd, hne, h1]
    · right; exact ⟨by simp [upd, hne, h2], fun hp => hb (hPP hp)⟩
  -- the frames below have collected nothing named `f.name`
  have noacc : ∀ g ∈ rest, ∀ o ∈ g.acc, o.name ≠ f.name := by
    intro g hg o ho hon
    have hgs : g ∈ st.stack := by rw [hs]; exact List.mem_cons_of_mem _ hg
    have hgn : g.name ∈ rest.map (·.name) := List.mem_map.mpr ⟨g, hg, rfl⟩
    have hgne : g.name ≠ f.name := fun h => hnotin (h ▸ hgn)
    rcases hi.acc g hgs o ho with h1 | ⟨_, hb⟩
    · rw [hon, hi.l1_off f.name (by simp [hsn0])] at h1; cases h1
    · rcases hb trivial with hb | hb
      · rw [hsn0, belowN_cons_ne _ _ _ (Ne.symm hgne)] at hb
        exact hnotin (hon ▸ belowN_sub _ _ _ hb)
      · simp at hb; exact hgne (hb.trans hon)
  have sh : Lc.Shape { st with l1 := upd st.l1 f.name (some pub), l2 := upd st.l2 f.name none,
                               l3 := upd st.l3 f.name false, stack := rest } :=
    hi.shape.pop hs rfl rfl rfl rfl
  refine { hi with nodup := sh.nodup, l1_off := sh.l1_off, on_has := sh.has, off_clean := sh.off_clean,
                     l1_name := upd_forall hi.l1_name fun o h => by cases h; exact hpn,
                     l2_name := upd_forall hi.l2_name (fun o h => nomatch h),
                     l1_src := upd_forall hi.l1_src fun o h => by cases h; exact hsrc,
                     l2_src := upd_forall hi.l2_src (fun o h => nomatch h),
                     stk_names := fun n hn => hi.stk_names n (by rw [hsn0]; exact List.mem_cons_of_mem _ hn),
                     quiet := fun h => absurd hr h, fld_live := ?_, fld := ?_, acc := ?_ }
  · intro _ h i o ho
    have ho' : o ∈ st.fields h i := ho
    rw [hsn _ rfl]
    by_cases hh : h = f.name
    · right; subst hh; simp [upd]
    · rcases hi.fld_live hnf h i o ho' with h' | h'
      · left; rw [hsn0] at h'; simpa [hh] using h'
      · right; simpa [upd, hh] using h'
  · intro _ h i o ho
    have ho' : o ∈ st.fields h i := ho
    have hf := hi.fld hnf h i o ho'
    rw [hsn _ rfl]
    by_cases hon : o.name = f.name
    · have := hstored h i o ho' hon
      subst this
      left; simp [upd, hon]
    · by_cases hh : h = f.name
      · -- holder is the component just published: now finished
        have hnot : h ∉ rest.map (·.name) := hh ▸ hnotin
        rcases hf with h1 | ⟨h2, _⟩
        · left; simp [upd, hon, h1]
        · right; exact ⟨by simp [upd, hon, h2], fun hp => absurd hp hnot⟩
      · exact okT o _ _ h none hon hh (fun hp => by rw [hsn0]; exact List.mem_cons_of_mem _ hp) hf
  · intro g hg o ho
    have hgn : g.name ≠ f.name := fun h => hnotin (h ▸ List.mem_map.mpr ⟨g, hg, rfl⟩)
    exact okT o True True g.name (some g.name) (noacc g hg o ho) hgn id
      (hi.acc g (by rw [hs]; exact List.mem_cons_of_mem _ hg) o ho)

/-- the caller's frame (if there is one) receives an object found in the cache -/
theorem inv_bump (sc : Scen) (st : St) (c : Nat) (o : Obj) (hi : Inv sc st) (hr : st.status = .running)
    (h : st.l1 c = some o ∨ (st.l1 c = none ∧ st.l2 c = some o)) :
    Inv sc { st with stack := Lc.bump st.stack o } := by
  cases hs : st.stack with
  | nil => exact hi.of_sim ⟨rfl, rfl, rfl, hs, rfl, rfl⟩
  | cons f rest =>
    refine inv_top sc st f { f with d := f.d + 1, acc := f.acc ++ [o] } rest st.fields hi hr hs rfl ?_
      (fun h i o' ho' => Or.inl ho')
    intro o' ho'
    simp only [List.mem_append, List.mem_singleton] at ho'
    rcases ho' with ho' | rfl
    · exact hi.acc f (by rw [hs]; simp) o' ho'
    · rcases h with h1 | ⟨_, h2⟩
      · exact Or.inl (by rw [hi.l1_name c _ h1]; exact h1)
      · have hon := hi.l2_name c _ h2
        refine Or.inr ⟨by rw [hon]; exact h2, fun _ => ?_⟩
        -- an early version belongs to a creation in progress: the top frame itself or one below it
        have hc : c ∈ snames st := hi.shape.on_of_has (.inl (h2 ▸ Option.some_ne_none _))
        have : snames st = f.name :: rest.map (·.name) := by simp [snames, hs]
        rw [this] at hc
        rw [hon, this]
        rcases List.mem_cons.mp hc with heq | hc
        · right; rw [heq]
        · left; simp only [belowN, if_true]; exact hc

theorem inv_stepR (sc : Scen) (wf : WF sc) (st st' : St) (hi : Inv sc st) (hr : st.status = .running)
    (h : Lc.StepR sc st st') : Inv sc st' := by
  -- taking the component asked for off the work lists
  have hi0 : ∀ tb t sg, Inv sc { st with todoBoot := tb, todo := t, stage := sg } :=
    fun _ _ _ => hi.of_sim ⟨rfl, rfl, rfl, rfl, rfl, rfl⟩
  cases h with
  | done hs hb ht => exact hi.set_done (NF_of_running hr) hs
  | hit tb t sg c src o h => exact inv_bump sc _ c o (hi0 tb t sg) hr h
  | promote tb t sg c src h1 h2 h3 hf =>
    have hi1 := inv_early sc wf _ c (hi0 tb t sg) hr h2 h3
    exact (inv_bump sc _ c (sc.earlyO c) hi1 hr (Or.inr ⟨h1, upd_same ..⟩)).of_sim
      ⟨by simp, rfl, rfl, rfl, by simp, by simp⟩
  | enter tb t sg c src h1 h2 h3 hn hok s hs hl =>
    exact (inv_push sc _ c (hi0 tb t sg) hr hn h1 h2 h3).of_sim hs.sim.symm
  | next f rest hs hp hd flds hf =>
    refine inv_top sc st f (Lc.advance f) rest flds hi hr hs rfl (fun _ ho => nomatch ho) (fun h i o ho => ?_)
    rcases hf with ⟨rfl, _⟩ | ⟨rfl, _⟩
    · exact Or.inl ho
    -- Inject: the field receives (some of) the objects obtained for it, never the holder itself
    simp only [upd2] at ho
    split at ho
    · rename_i hc'
      obtain ⟨hacc, hne'⟩ := Lc.metas_sub ho
      refine Or.inr ⟨hc'.1, hc'.2 ▸ hp, hne', ?_⟩
      rcases hi.acc f (by rw [hs]; simp) o hacc with h1 | ⟨h2, hb⟩
      · exact Or.inl h1
      · refine Or.inr ⟨h2, fun _ => ?_⟩
        rcases hb trivial with hb | hb
        · exact Or.inl hb
        · simp at hb; exact absurd hb.symm hne'
    · exact Or.inl ho
  | fail s x why =>
    exact (inv_failAt sc st x hi).congr why.core.1.symm why.core.2.1.symm why.core.2.2.1.symm rfl why.core.2.2.2.symm
      (fun _ => rfl) (fun h => (h x s.stage rfl).elim)
  | publish f rest hs hp hcb pub hpub =>
    -- the callbacks only write the log
    have hsim := (initCallbacks_same sc st f.name).sim
    have hrs := hsim.status.trans hr
    exact inv_bump sc _ f.name pub (inv_pop sc _ f rest pub (hi.of_sim hsim.symm) hrs (hsim.stack.trans hs)
      (hpub.name_of (wf.init_name _) (hi.l2_name _)) (hpub.src hi)
      fun h i o ho => hpub.stored hi (NF_of_running hr) hs h i o (hsim.fields ▸ ho)) hrs (Or.inl (upd_same ..))

theorem inv_step (sc : Scen) (wf : WF sc) (st : St) (hi : Inv sc st) : Inv sc (step sc st) :=
  Lc.step_inv_of_rel sc (Inv sc) (fun st st' hi hr h => inv_stepR sc wf st st' hi hr h) st hi

theorem inv_run' (sc : Scen) (wf : WF sc) (k : Nat) (st : St) (hi : Inv sc st) : Inv sc (run sc k st) :=
  Lc.run_inv sc (Inv sc) (inv_step sc wf) k st hi

theorem inv_run (sc : Scen) (wf : WF sc) (k : Nat) : Inv sc (run sc k (init sc)) :=
  inv_run' sc wf k (init sc) (inv_init sc)

/-- published entries never change -/
theorem l1_stable (sc : Scen) (wf : WF sc) (st : St) (hi : Inv sc st) (n : Nat) (o : Obj) (h : st.l1 n = some o) :
    (step sc st).l1 n = some o := by
  have _ := wf
  by_cases hr : st.status = .running
  · rw [(Lc.step_rel sc st hr).l1_stable hi.shape (by simp [h]), h]
  · rw [Lc.step_not_running sc st hr]; exact h

theorem l1_stable_run (sc : Scen) (wf : WF sc) (m : Nat) (st : St) (hi : Inv sc st) (n : Nat) (o : Obj)
    (h : st.l1 n = some o) : (run sc m st).l1 n = some o := by
  induction m generalizing st with
  | zero => exact h
  | succ m ih => exact ih _ (inv_step sc wf st hi) (l1_stable sc wf st hi n o h)

/-- a publication leaves no other version of the published name in any holder -/
theorem publish_no_stale (sc : Scen) (wf : WF sc) (st : St) (hi : Inv sc st) (x : Nat) (pub : Obj) (h0 : st.l1 x = none)
    (h1 : (step sc st).l1 x = some pub) :
    ∀ k i o, o ∈ (step sc st).fields k i → o.name = x → o = pub := by
  have _ := wf
  have hr : st.status = .running := Classical.byContradiction fun hr => by
    rw [Lc.step_not_running sc st hr, h0] at h1; cases h1
  rcases (Lc.step_rel sc st hr).l1_eq with h | ⟨f, rest, pub', hs, hpub, heq⟩
  · rw [h, h0] at h1; cases h1
  · -- the step is the publication of the top frame, under the version check
    rw [heq] at h1 ⊢
    by_cases hx : x = f.name
    · subst hx
      simp [publish] at h1
      subst h1
      intro k i o ho
      exact hpub.stored hi (NF_of_running hr) hs k i o (by simpa [publish] using ho)
    · simp [publish, upd, hx, h0] at h1

end Ioc.M2
