/-
  Two steps of the factory machine M2 ARE the regenerated Go programs evaluated on the answers the machine state gives:
  the finish step (all points of the top frame done: initialization callbacks, version check, publication) is
  doCreateComponent, and the Inject step (all candidates of the current point collected) is Property.Inject.
-/
import IocProofs.Lemmas.M2Inv
import IocProofs.Lemmas.M2Step
import IocProofs.Lemmas.SemCreate
import IocProofs.Lemmas.SemInject
namespace Ioc.M2
open Ioc Ioc.M2

/-- the holders one of whose fields contains `o` (what Meta.GetDependents of `o` lists) -/
def holdersOf (sc : Scen) (st : St) (o : Obj) : List Nat :=
  sc.names.filter fun h => (List.range (pts sc h).length).any fun i => (st.fields h i).contains o

theorem finished_holders (sc : Scen) (st : St) (o : Obj) :
    ((holdersOf sc st o).filter (fun x => !(onStack st x))).isEmpty = !(finishedHolderHas sc st o) := by
  unfold holdersOf finishedHolderHas
  rw [List.filter_filter, Bool.eq_iff_iff]
  simp [List.isEmpty_iff, List.filter_eq_nil_iff]

theorem finished_raw_is_early (sc : Scen) (st : St) (hi : Inv sc st) (hnf : NF st) (n : Nat) (hn : n ∈ snames st)
    (h : finishedHolderHas sc st (raw n) = true) : st.l2 n = some (raw n) := by
  unfold finishedHolderHas at h
  obtain ⟨x, _, hp⟩ := List.any_eq_true.mp h
  simp only [Bool.and_eq_true, List.any_eq_true, List.mem_range] at hp
  obtain ⟨_, i, _, hc⟩ := hp
  have hmem : raw n ∈ st.fields x i := by simpa using hc
  have hcur := (hi.fld hnf x i (raw n) hmem).cur
  rcases hcur with h1 | h2
  · have : st.l1 n = none := hi.l1_off n hn
    simp [raw] at h1
    rw [this] at h1; cases h1
  · simpa [raw] using h2

/-- what doCreateComponent's collaborators answer in machine state `st` when the top frame `n` has all its points done -/
def dccOf (sc : Scen) (st : St) (n : Nat) : Sem.DCC :=
  { n := n, singleton := true, allow := true, populateOk := true,
    initRes := if (initCallbacks sc st n).2 then some (initResult sc n).ver else none,
    proxyOk := true,
    earlyRes := some ((st.l2 n).map (·.ver)),
    depsEarly := holdersOf sc st (match st.l2 n with | some e => e | none => raw n),
    depsRaw := holdersOf sc st (raw n),
    inCrOf := onStack st }

theorem dccOf_consistent (sc : Scen) (st : St) (hi : Inv sc st) (n : Nat) : Sem.dccConsistent (dccOf sc st n) := by
  intro h
  simp only [dccOf] at h ⊢
  cases h2 : st.l2 n with
  | none => rfl
  | some e =>
    rw [h2] at h
    simp only [Option.map_some, Option.some.injEq] at h
    have hn := hi.l2_name n e h2
    have : e = raw n := by cases e; simp_all [raw]
    rw [this]

theorem isEmpty_append' {α : Type} (a b : List α) : (a ++ b).isEmpty = (a.isEmpty && b.isEmpty) := by
  cases a <;> cases b <;> rfl

theorem obj_eta (o : Obj) (n : Nat) (h : o.name = n) : (⟨n, o.ver⟩ : Obj) = o := by
  cases o; simp_all

theorem ver_zero_iff_raw (o : Obj) (n : Nat) (h : o.name = n) : o.ver = 0 ↔ o = raw n := by
  cases o; simp_all [raw]

/-- THE FINISH STEP OF THE MACHINE IS THE REGENERATED doCreateComponent: when all points of the top frame are done, `step`
    does what `Sem.createDecision` — proved equal to the regenerated program (doCreateComponent_sem) — decides on the
    answers the machine state gives to the program's questions. -/
theorem step_finish_is_code (sc : Scen) (wf : WF sc) (st : St) (hi : Inv sc st) (f : Frame) (rest : List Frame)
    (hrun : st.status = .running) (hst : st.stack = f :: rest) (hp : ¬ f.p < (pts sc f.name).length) :
    step sc st =
      match (Sem.createDecision (dccOf sc st f.name)).1 with
      | none => failAt (initCallbacks sc st f.name).1 f.name
      | some v => publish (initCallbacks sc st f.name).1 f.name ⟨f.name, v⟩ rest := by
  rw [Lc.step_finish sc st f rest hrun hst hp, Sem.createDecision_fst]
  have hon : onStack st f.name = true := by simp [onStack, hst]
  have hn : f.name ∈ snames st := (Lc.onStack_iff st f.name).mp hon
  have hwn : (initResult sc f.name).name = f.name := wf.init_name f.name
  unfold Sem.createResult
  simp only [dccOf, hon, Bool.and_self, Bool.not_true, Bool.false_eq_true, if_false]
  cases hcb : (initCallbacks sc st f.name).2 with
  | false => simp
  | true =>
    simp only [if_true, Bool.true_eq_false, if_false]
    obtain h2 | ⟨e, h2⟩ : st.l2 f.name = none ∨ ∃ e, st.l2 f.name = some e := by
      cases st.l2 f.name <;> simp
    · simp only [h2, Option.map_none, and_false, if_false, obj_eta _ _ hwn]
    · have hen : e.name = f.name := hi.l2_name _ _ h2
      simp only [h2, Option.map_some, and_false, if_false]
      by_cases hw : (initResult sc f.name).ver = 0
      · have hraw : initResult sc f.name = raw f.name := (ver_zero_iff_raw _ _ hwn).mp hw
        have hr0 : (raw f.name).ver = 0 := rfl
        simp only [hraw, hr0, if_true, obj_eta _ _ hen]
      · have hraw : ¬ initResult sc f.name = raw f.name := fun h => hw ((ver_zero_iff_raw _ _ hwn).mpr h)
        simp only [hw, hraw, if_false]
        rw [List.filter_append, isEmpty_append', finished_holders, finished_holders]
        cases he : finishedHolderHas sc st e with
        | true => simp
        | false =>
          have hr : finishedHolderHas sc st (raw f.name) = false := by
            cases hr : finishedHolderHas sc st (raw f.name) with
            | false => rfl
            | true =>
              have := finished_raw_is_early sc st hi (NF_of_running hrun) f.name hn hr
              rw [h2] at this
              have : e = raw f.name := Option.some.inj this
              rw [this] at he; rw [he] at hr; cases hr
          simp [hr, obj_eta _ _ hwn]

section inject
open Ioc.M2.Lc

/-- what Inject is asked in machine state: the metas are ids `ids` standing for the collected objects `f.acc` -/
def injCtxOf (pt : Point) (holder : Nat) (obj : Nat → Obj) : Sem.InjCtx :=
  { isComponent := true, required := pt.required, slice := pt.slice,
    isSelf := fun i => (obj i).name == holder,
    assignable := fun i => !(pt.incompat.contains (obj i).name) }

theorem filter_map_obj (obj : Nat → Obj) (holder : Nat) (ids : List Nat) :
    (ids.filter (fun m => !((obj m).name == holder))).map obj = (ids.map obj).filter (fun o => o.name != holder) := by
  induction ids with
  | nil => rfl
  | cons a t ih =>
    simp only [List.filter_cons, List.map_cons]
    cases h : (obj a).name == holder <;> simp [bne, h, ih]

theorem any_map_obj (obj : Nat → Obj) (inc : List Nat) (l : List Nat) :
    (l.any fun m => !(!(inc.contains (obj m).name))) = (l.map obj).any (fun o => inc.contains o.name) := by
  induction l with
  | nil => rfl
  | cons a t ih => simp [List.any_cons, List.any_map, Function.comp_def]

/-- the decision after the self filter, on an abstract outcome type -/
theorem inject_core {α : Type} (pt : Point) (holder : Nat) (obj : Nat → Obj) (L : List Nat) (A B : α) (Wf : List Obj → α) :
    (if (L.map obj).isEmpty then (if pt.required then A else B)
     else if (L.map obj).any (fun o => pt.incompat.contains o.name) then (if pt.required then A else B)
     else Wf (if pt.slice then L.map obj else (L.map obj).take 1)) =
    (if (Sem.injectTail (injCtxOf pt holder obj) L).1 then A
     else match (Sem.injectTail (injCtxOf pt holder obj) L).2.injects with
       | none => B
       | some ms => Wf (if pt.slice then ms.map obj else (ms.map obj).take 1)) := by
  unfold Sem.injectTail
  simp only [injCtxOf]
  cases L with
  | nil => by_cases hr : pt.required = true <;> simp [hr]
  | cons m rest' =>
    simp only [List.map_cons, List.isEmpty_cons, Bool.false_eq_true, if_false]
    have hany := any_map_obj obj pt.incompat (m :: rest')
    simp only [List.map_cons] at hany
    simp only [hany]
    cases ha : (obj m :: List.map obj rest').any (fun o => pt.incompat.contains o.name) with
    | true => by_cases hr : pt.required = true <;> simp [hr]
    | false => by_cases hs : pt.slice = true <;> simp [hs]

/-- THE INJECT STEP OF THE MACHINE IS THE REGENERATED Property.Inject: when all candidates of the current point are
    collected (and the point has candidates), `step` fails / skips / writes exactly as `Sem.injectModel` — proved equal to
    the regenerated program (inject_sem) — says on the answers the machine state gives. -/
theorem step_inject_is_code (sc : Scen) (st : St) (f : Frame) (rest : List Frame) (hrun : st.status = .running)
    (hst : st.stack = f :: rest) (hp : f.p < (pts sc f.name).length)
    (hd : ¬ f.d < ((pts sc f.name)[f.p]).cands.length) (hne : ((pts sc f.name)[f.p]).cands ≠ [])
    (ids : List Nat) (obj : Nat → Obj) (hacc : ids.map obj = f.acc) (hids : ids ≠ []) :
    step sc st =
      (if (Sem.injectModel (injCtxOf ((pts sc f.name)[f.p]) f.name obj) ids).1 then failAt st f.name
       else match (Sem.injectModel (injCtxOf ((pts sc f.name)[f.p]) f.name obj) ids).2.injects with
         | none => { st with stack := advance f :: rest }
         | some ms => { st with
             fields := upd2 st.fields f.name f.p
               (if ((pts sc f.name)[f.p]).slice then ms.map obj else (ms.map obj).take 1),
             stack := advance f :: rest }) := by
  rw [step_inject sc st f rest hrun hst hp hd]
  have hc : ((pts sc f.name)[f.p]).cands.isEmpty = false := by
    cases h : ((pts sc f.name)[f.p]).cands with
    | nil => exact absurd h hne
    | cons a t => rfl
  have hie : ids.isEmpty = false := by cases ids <;> simp_all
  have hmetas : metasOf f = (ids.filter (fun m => !((obj m).name == f.name))).map obj := by
    rw [filter_map_obj, hacc]; rfl
  have hmodel : Sem.injectModel (injCtxOf ((pts sc f.name)[f.p]) f.name obj) ids =
      Sem.injectTail (injCtxOf ((pts sc f.name)[f.p]) f.name obj) (ids.filter (fun m => !((obj m).name == f.name))) := by
    simp [Sem.injectModel, injCtxOf, hie]
  simp only [hc, Bool.false_eq_true, if_false]
  rw [hmodel, hmetas]
  exact inject_core ((pts sc f.name)[f.p]) f.name obj _ _ _
    (fun v => { st with fields := upd2 st.fields f.name f.p v, stack := advance f :: rest })

end inject

end Ioc.M2
