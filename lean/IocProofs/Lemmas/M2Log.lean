/-
  The event log of the factory machine: per component name the lifecycle events appear exactly once and in order.
  `Eff` sums up what one step does to the published and the early level, the names in creation and the log, in five
  shapes; the invariants about the log are proved by cases on it.
  `EarlyInv`: all events of the name `n` in the log are [] (never entered), [new, conf] with at most one `early` after
  them (in creation), or that followed by the initialization callbacks (published).  `LogInv` is the same with the
  early-reference events left out.
-/
import IocProofs.Lemmas.M2StepInv
namespace Ioc.M2.Lc
open Ioc.M2

def evName : Ev → Nat
  | .new n | .conf n | .before n | .aps n | .init n | .after n | .early n => n

/-- the lifecycle of a component in the order the events have to occur -/
def lifecycle (n : Nat) : List Ev := [.new n, .conf n, .before n, .aps n, .init n, .after n]

/-- the events of `n` in a log, early-reference events left out (the log is newest first) -/
def proj (n : Nat) (log : List Ev) : List Ev := log.filter (fun e => decide (evName e = n ∧ e ≠ Ev.early n))

/-- all events of `n` in a log (newest first) -/
def projE (n : Nat) (log : List Ev) : List Ev := log.filter (fun e => decide (evName e = n))

theorem proj_eq (n : Nat) (l : List Ev) : proj n l = (projE n l).filter (fun e => decide (e ≠ Ev.early n)) := by
  simp [proj, projE, List.filter_filter, and_comm]

/-- a list of events of one component, seen from the component `n` -/
theorem projE_named {evs : List Ev} {x : Nat} (h : ∀ e ∈ evs, evName e = x) (n : Nat) :
    projE n evs = if x = n then evs else [] := by
  unfold projE
  split
  · next hx => exact List.filter_eq_self.2 fun e he => by simp [h e he, hx]
  · next hx => exact List.filter_eq_nil_iff.2 fun e he => by simp [h e he, hx]

theorem projE_append_named {evs : List Ev} {x : Nat} (h : ∀ e ∈ evs, evName e = x) (n : Nat) (l : List Ev) :
    projE n (evs ++ l) = (if x = n then evs else []) ++ projE n l := by
  rw [← projE_named h n]; simp [projE]

/-- the initialization callbacks in the order they are called, each with its event and whether it fails -/
def cbs (sc : Scen) (n : Nat) : List (Ev × Bool) :=
  if sc.wired n then [(.before n, sc.fBefore n), (.aps n, sc.fAps n), (.init n, sc.fInit n), (.after n, sc.fAfter n)]
  else [(.aps n, sc.fAps n), (.init n, sc.fInit n)]

/-- calling them: each writes its event, the first failure ends the sequence -/
def runCbs (sc : Scen) (n : Nat) : List (Ev × Bool) → St → St × Bool
  | [], s => (s, true)
  | (e, f) :: r, s => if f then (addLog sc s n e, false) else runCbs sc n r (addLog sc s n e)

theorem initCallbacks_eq (sc : Scen) (st : St) (n : Nat) : initCallbacks sc st n = runCbs sc n (cbs sc n) st := by
  unfold initCallbacks cbs; cases sc.wired n <;> rfl

/-- the events of a chain in which no callback fails, newest first -/
def cbOk (sc : Scen) (n : Nat) : List Ev :=
  if sc.wired n then [.after n, .init n, .aps n, .before n] else [.init n, .aps n]

/-- the events of the callbacks that are called, newest first -/
def ranEvs : List (Ev × Bool) → List Ev
  | [] => []
  | (e, f) :: r => (if f then [] else ranEvs r) ++ [e]

/-- the events of the initialization callbacks in the log, failures included -/
def cbEvs (sc : Scen) (n : Nat) : List Ev := if sc.logged n then ranEvs (cbs sc n) else []

theorem runCbs_log (sc : Scen) (n : Nat) (l : List (Ev × Bool)) (s : St) :
    (runCbs sc n l s).1.log = (if sc.logged n then ranEvs l else []) ++ s.log := by
  induction l generalizing s with
  | nil => simp [runCbs, ranEvs]
  | cons p r ih =>
    obtain ⟨e, f⟩ := p
    cases f <;> cases hl : sc.logged n <;> simp [runCbs, ranEvs, ih, addLog_log, hl]

theorem initCallbacks_log (sc : Scen) (st : St) (n : Nat) : (initCallbacks sc st n).1.log = cbEvs sc n ++ st.log := by
  rw [initCallbacks_eq, runCbs_log]; rfl

/-- the finishing step of a frame appends exactly that component's callback events -/
theorem step_finish_log (sc : Scen) (st : St) (f : Frame) (rest : List Frame) (hr : st.status = .running)
    (hs : st.stack = f :: rest) (hp : ¬ f.p < (pts sc f.name).length) :
    (step sc st).log = cbEvs sc f.name ++ st.log := by
  rw [step_finish sc st f rest hr hs hp, ← initCallbacks_log]
  -- failing or publishing, the log is as the callbacks left it
  repeat' split
  all_goals rfl

theorem runCbs_ok (sc : Scen) (n : Nat) (l : List (Ev × Bool)) (s : St) (h : (runCbs sc n l s).2 = true) :
    ranEvs l = (l.map (·.1)).reverse := by
  induction l generalizing s with
  | nil => rfl
  | cons p r ih =>
    obtain ⟨e, f⟩ := p
    cases f
    · simpa [ranEvs] using ih _ h
    · cases h

theorem cbEvs_ok (sc : Scen) (st : St) (n : Nat) (h : (initCallbacks sc st n).2 = true) (hl : sc.logged n = true) :
    cbEvs sc n = cbOk sc n := by
  rw [initCallbacks_eq] at h
  unfold cbEvs
  rw [hl, if_pos rfl, runCbs_ok sc n _ st h]
  unfold cbs cbOk; cases sc.wired n <;> rfl

theorem ranEvs_sub (l : List (Ev × Bool)) : ∀ e ∈ ranEvs l, e ∈ l.map (·.1) := by
  induction l with
  | nil => simp [ranEvs]
  | cons p r ih =>
    obtain ⟨e, f⟩ := p
    intro x hx
    have : x ∈ ranEvs r ∨ x = e := by cases f <;> simp [ranEvs] at hx <;> simp [hx]
    exact List.mem_cons.2 (this.symm.imp id (ih x))

theorem cbEvs_name (sc : Scen) (n : Nat) : ∀ e ∈ cbEvs sc n, evName e = n := by
  have : ∀ e ∈ (cbs sc n).map (·.1), evName e = n := by unfold cbs; cases sc.wired n <;> simp [evName]
  unfold cbEvs
  cases sc.logged n
  · simp
  · exact fun e he => this e (ranEvs_sub _ e he)

theorem cbEvs_before (sc : Scen) (n : Nat) (hl : sc.logged n = true) (hw : sc.wired n = true) :
    ∃ l, cbEvs sc n = l ++ [.before n] := by
  unfold cbEvs cbs
  rw [hl, hw]
  exact ⟨_, rfl⟩

/-- What a step from a running state does to the caches, the names in creation and the log: nothing (`quiet`: a lookup
    hit, a frame moving on, a field written); the early reference of a name in creation is made (`promote`); a creation is entered; everything
    in creation fails, the events written on the way belonging to the one component `x` that was looked up or is on top
    of the stack (`fail`); the top frame is published. -/
inductive Eff (sc : Scen) (st st' : St) : Prop
  | quiet (h1 : st'.l1 = st.l1) (h2 : st'.l2 = st.l2) (hs : snames st' = snames st) (hl : st'.log = st.log)
  | promote (c : Nat) (hc2 : st.l2 c = none) (hc3 : st.l3 c = true) (h1 : st'.l1 = st.l1)
      (h2 : st'.l2 = upd st.l2 c (some (sc.earlyO c))) (hs : snames st' = snames st)
      (hl : st'.log = (if sc.logged c then [.early c] else []) ++ st.log)
  | enter (c : Nat) (st0 : St) (src : Src sc st st0 c) (hc1 : st.l1 c = none) (hc2 : st.l2 c = none)
      (hc3 : st.l3 c = false) (h1 : st'.l1 = st.l1) (h2 : st'.l2 = st.l2) (hs : snames st' = c :: snames st)
      (hl : st'.log = (if sc.logged c then partLog sc c else []) ++ st.log)
  | fail (x : Nat) (evs : List Ev) (hx : x ∈ snames st ∨ ∃ st0, Src sc st st0 x ∧ st.l1 x = none)
      (hF : Failed st') (h1 : st'.l1 = st.l1) (h2 : ∀ n, st'.l2 n = none ∨ st'.l2 n = st.l2 n) (hs : snames st' = [])
      (hl : st'.log = evs ++ st.log)
      (hev : ∀ e ∈ evs, e = .early x ∨ e = .new x ∨
        (e ∈ cbEvs sc x ∧ ∃ f rest, st.stack = f :: rest ∧ f.name = x ∧ ¬ f.p < (pts sc x).length))
  | publish (f : Frame) (rest : List Frame) (pub : Obj) (hst : st.stack = f :: rest)
      (hp : ¬ f.p < (pts sc f.name).length) (hcb : (initCallbacks sc st f.name).2 = true)
      (hpub : PubCond sc st f.name pub) (h1 : st'.l1 = upd st.l1 f.name (some pub)) (h2 : st'.l2 = upd st.l2 f.name none)
      (hs : snames st' = rest.map (·.name)) (hl : st'.log = cbEvs sc f.name ++ st.log)

theorem Eff.fail_name {sc : Scen} {st : St} {x : Nat} {evs : List Ev}
    (hev : ∀ e ∈ evs, e = .early x ∨ e = .new x ∨
      (e ∈ cbEvs sc x ∧ ∃ f rest, st.stack = f :: rest ∧ f.name = x ∧ ¬ f.p < (pts sc x).length)) :
    ∀ e ∈ evs, evName e = x := by
  intro e he
  rcases hev e he with rfl | rfl | ⟨h, _⟩
  · rfl
  · rfl
  · exact cbEvs_name sc x e h

/-- a failing step writes events of the component it fails at only, which is on the stack or was asked for -/
theorem Fault.log {sc : Scen} {st s : St} {x : Nat} (w : Fault sc st s x) :
    (x ∈ snames st ∨ ∃ st0, Src sc st st0 x ∧ st.l1 x = none) ∧ ∃ evs, s.log = evs ++ st.log ∧
      ∀ e ∈ evs, e = .early x ∨ e = .new x ∨
        (e ∈ cbEvs sc x ∧ ∃ f rest, st.stack = f :: rest ∧ f.name = x ∧ ¬ f.p < (pts sc x).length) := by
  have top : ∀ {f : Frame} {rest : List Frame}, st.stack = f :: rest → f.name ∈ snames st :=
    fun hs => by simp [snames, hs]
  cases w with
  | early tb t sg _ src h1 =>
    refine ⟨.inr ⟨_, src, h1⟩, _, addLog_log .., ?_⟩
    cases sc.logged x <;> simp
  | unknown tb t sg _ src h1 => exact ⟨.inr ⟨_, src, h1⟩, [], rfl, nofun⟩
  | config tb t sg _ src h1 =>
    refine ⟨.inr ⟨_, src, h1⟩, _, addLog_log sc (push _ x) x _, ?_⟩
    cases sc.logged x <;> simp
  | inject f rest hs => exact ⟨.inl (top hs), [], rfl, nofun⟩
  | finish f rest hs hp =>
    exact ⟨.inl (top hs), _, initCallbacks_log sc st _, fun e he => .inr (.inr ⟨he, _, _, hs, rfl, hp⟩)⟩

theorem stepR_eff {sc : Scen} {st st' : St} (hstep : StepR sc st st') : Eff sc st st' := by
  cases hstep with
  | done hs hb ht => exact .quiet rfl rfl rfl rfl
  | hit tb t sg c src o ho => exact .quiet rfl rfl (snames_bump ..) rfl
  | promote tb t sg c src h1 h2 h3 hf =>
    exact .promote c h2 h3 (addLog_l1 ..) rfl (snames_bump ..) (addLog_log ..)
  | enter tb t sg c src h1 h2 h3 hn hok s hs hl =>
    exact .enter c _ src h1 h2 h3 hs.l1 hs.l2 (congrArg (List.map Frame.name) hs.stack) hl
  | next f rest hs hp hd flds hf =>
    exact .quiet rfl rfl (congrArg (List.map Frame.name) hs).symm rfl
  | fail s x why =>
    obtain ⟨hx, evs, hl, hev⟩ := why.log
    refine .fail x evs hx (failed_failAt _ _) why.core.1 (fun n => ?_) rfl hl hev
    rw [why.core.2.1]; simp only [failAt]; cases onStack st n <;> simp
  | publish f rest hs hp hcb pub hpub =>
    exact .publish f rest pub hs hp hcb hpub (congrArg (upd · f.name (some pub)) (initCallbacks_l1 ..))
      (congrArg (upd · f.name none) (initCallbacks_l2 ..)) (snames_publish ..) (initCallbacks_log sc st _)

def earlyIf (b : Bool) (n : Nat) : List Ev := if b then [.early n] else []

structure EarlyInv (sc : Scen) (st : St) : Prop where
  pub : ∀ n, sc.logged n = true → st.l1 n ≠ none → ∃ b, projE n st.log = cbOk sc n ++ earlyIf b n ++ partLog sc n
  onst : ¬ Failed st → ∀ n, sc.logged n = true → n ∈ snames st →
    projE n st.log = earlyIf (st.l2 n).isSome n ++ partLog sc n
  off : ¬ Failed st → ∀ n, sc.logged n = true → st.l1 n = none → n ∉ snames st → projE n st.log = []

theorem partLog_name (sc : Scen) (c : Nat) : ∀ e ∈ (if sc.logged c then partLog sc c else []), evName e = c := by
  unfold partLog; cases sc.logged c <;> cases sc.wired c <;> simp [evName]

theorem earlyInv_eff {sc : Scen} {st st' : St} (hi : Inv sc st) (hr : st.status = .running) (h : EarlyInv sc st)
    (e : Eff sc st st') : EarlyInv sc st' := by
  have nf := not_failed_of_running hr
  cases e with
  | quiet h1 h2 hs hl =>
    exact ⟨by rw [h1, hl]; exact h.pub, fun _ => by rw [hs, hl, h2]; exact h.onst nf,
      fun _ => by rw [h1, hs, hl]; exact h.off nf⟩
  | promote c hc2 hc3 h1 h2 hs hl =>
    have hc := hi.shape.on_of_has (.inr hc3)
    have hn : ∀ e ∈ (if sc.logged c then [Ev.early c] else []), evName e = c := by split <;> simp [evName]
    refine ⟨fun n hl' hp => ?_, fun _ n hl' hm => ?_, fun _ n hl' hp hm => ?_⟩ <;>
      rw [hl, projE_append_named hn]
    · rw [h1] at hp
      rw [if_neg (fun hcn : c = n => hp (hcn ▸ hi.l1_off c hc))]; exact h.pub n hl' hp
    · rw [hs] at hm
      rw [h2]
      by_cases hcn : c = n
      · subst hcn; simp [h.onst nf c hl' hm, hc2, hl', earlyIf]
      · simpa [hcn, upd, Ne.symm hcn] using h.onst nf n hl' hm
    · rw [h1] at hp; rw [hs] at hm
      rw [if_neg (fun hcn : c = n => hm (hcn ▸ hc))]; exact h.off nf n hl' hp hm
  | enter c st0 src hc1 hc2 hc3 h1 h2 hs hl =>
    have hcs := hi.shape.miss_off hc2 hc3
    refine ⟨fun n hl' hp => ?_, fun _ n hl' hm => ?_, fun _ n hl' hp hm => ?_⟩ <;>
      rw [hl, projE_append_named (partLog_name sc c)]
    · rw [h1] at hp
      rw [if_neg (fun hcn : c = n => hp (hcn ▸ hc1))]; exact h.pub n hl' hp
    · rw [hs] at hm
      rw [h2]
      by_cases hcn : c = n
      · subst hcn; simp [h.off nf c hl' hc1 hcs, hc2, hl', earlyIf]
      · simpa [hcn] using h.onst nf n hl' (by simpa [Ne.symm hcn] using hm)
    · rw [h1] at hp; rw [hs] at hm
      have : ¬ c = n ∧ n ∉ snames st := by simpa [eq_comm] using hm
      rw [if_neg this.1]; exact h.off nf n hl' hp this.2
  | fail x evs hx hF h1 _ hs hl hev =>
    have hx1 : st.l1 x = none := hx.elim (hi.l1_off x) fun ⟨_, _, h⟩ => h
    refine ⟨fun n hl' hp => ?_, fun hnf => absurd hF hnf, fun hnf => absurd hF hnf⟩
    rw [h1] at hp
    rw [hl, projE_append_named (Eff.fail_name hev), if_neg (fun hcn : x = n => hp (hcn ▸ hx1))]
    exact h.pub n hl' hp
  | publish f rest pub hst hp hcb _ h1 h2 hs hl =>
    have hsn : snames st = f.name :: rest.map (·.name) := by simp [snames, hst]
    have hnd := hi.nodup
    rw [hsn, List.nodup_cons] at hnd
    refine ⟨fun n hl' hp => ?_, fun _ n hl' hm => ?_, fun _ n hl' hp hm => ?_⟩ <;>
      rw [hl, projE_append_named (cbEvs_name sc f.name)]
    · rw [h1] at hp
      by_cases hcn : f.name = n
      · subst hcn
        exact ⟨(st.l2 f.name).isSome, by
          rw [if_pos rfl, cbEvs_ok sc st _ hcb hl', h.onst nf _ hl' (by simp [hsn]), List.append_assoc]⟩
      · simpa [hcn] using h.pub n hl' (by simpa [upd, Ne.symm hcn] using hp)
    · rw [hs] at hm
      rw [h2]
      have hcn : f.name ≠ n := fun hcn => hnd.1 (hcn ▸ hm)
      simpa [hcn, upd, Ne.symm hcn] using h.onst nf n hl' (by simp [hsn, hm])
    · rw [h1] at hp; rw [hs] at hm
      have hcn : f.name ≠ n := fun hcn => by simp [← hcn, upd] at hp
      simpa [hcn] using h.off nf n hl' (by simpa [upd, Ne.symm hcn] using hp) (by simp [hsn, hm, Ne.symm hcn])

theorem earlyInv_run (sc : Scen) (k : Nat) : EarlyInv sc (run sc k (init sc)) :=
  run_ind sc _ (by constructor <;> simp [init, snames, projE]) (fun _ _ hi hr h a => earlyInv_eff hi hr h (stepR_eff a)) k

def fullLog (sc : Scen) (n : Nat) : List Ev :=
  if sc.wired n then [.after n, .init n, .aps n, .before n, .conf n, .new n] else [.init n, .aps n]

/-- the invariant with the early-reference events left out -/
structure LogInv (sc : Scen) (st : St) : Prop where
  pub : ∀ n, sc.logged n = true → st.l1 n ≠ none → proj n st.log = fullLog sc n
  onst : ¬ Failed st → ∀ n, sc.logged n = true → n ∈ snames st → proj n st.log = partLog sc n
  off : ¬ Failed st → ∀ n, sc.logged n = true → st.l1 n = none → n ∉ snames st → proj n st.log = []

theorem EarlyInv.logInv {sc : Scen} {st : St} (h : EarlyInv sc st) : LogInv sc st := by
  refine ⟨fun n hl hp => ?_, fun nf n hl hm => ?_, fun nf n hl hp hm => ?_⟩ <;> rw [proj_eq]
  · obtain ⟨b, hb⟩ := h.pub n hl hp
    rw [hb]; unfold cbOk earlyIf partLog fullLog
    cases b <;> cases sc.wired n <;> simp
  · rw [h.onst nf n hl hm]; unfold earlyIf partLog
    cases (st.l2 n).isSome <;> cases sc.wired n <;> simp
  · rw [h.off nf n hl hp hm]; rfl

theorem logInv_run (sc : Scen) (k : Nat) : LogInv sc (run sc k (init sc)) := (earlyInv_run sc k).logInv

/-- every lifecycle event exactly once and in order, for every published component, at every step count -/
theorem once_in_order (sc : Scen) (k : Nat) (n : Nat) (hp : (run sc k (init sc)).l1 n ≠ none)
    (hl : sc.logged n = true) :
    (run sc k (init sc)).log.reverse.filter (fun e => decide (evName e = n ∧ e ≠ Ev.early n)) =
      if sc.wired n then lifecycle n else [.aps n, .init n] := by
  have := (logInv_run sc k).pub n hl hp
  rw [List.filter_reverse]
  change (proj n _).reverse = _
  rw [this]
  unfold fullLog lifecycle
  cases sc.wired n <;> simp

/-- a published component has completed its initialization -/
theorem after_logged (sc : Scen) (k : Nat) (n : Nat) (hp : (run sc k (init sc)).l1 n ≠ none) (hl : sc.logged n = true)
    (hw : sc.wired n = true) : Ev.after n ∈ (run sc k (init sc)).log :=
  (List.mem_filter.mp (show Ev.after n ∈ proj n _ by rw [(logInv_run sc k).pub n hl hp]; simp [fullLog, hw])).1

/-- a component still in creation has been instantiated and configured, nothing more -/
theorem in_creation_log (sc : Scen) (k : Nat) (n : Nat) (hl : sc.logged n = true) (nf : ¬ Failed (run sc k (init sc)))
    (hn : n ∈ snames (run sc k (init sc))) :
    (run sc k (init sc)).log.reverse.filter (fun e => decide (evName e = n ∧ e ≠ Ev.early n)) =
      if sc.wired n then [.new n, .conf n] else [] := by
  rw [List.filter_reverse]
  change (proj n _).reverse = _
  rw [(logInv_run sc k).onst nf n hl hn]
  unfold partLog; cases sc.wired n <;> simp

end Ioc.M2.Lc
