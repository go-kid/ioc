/-
  Dependencies first.  Objects held by frames and fields belong to components that are published or still in creation;
  consecutive frames of the creation stack are joined by candidate edges, so everything below a frame depends on it.
-/
import IocProofs.Lemmas.M2LogReach
namespace Ioc.M2.Lc
open Ioc.M2

/-- post-processors may substitute a component but not rename it -/
structure WF (sc : Scen) : Prop where
  early_name : ∀ n, (sc.earlyO n).name = n
  after_name : ∀ n, (sc.afterO n).name = n

theorem WF.init_name {sc : Scen} (wf : WF sc) (n : Nat) : (initResult sc n).name = n := by
  unfold initResult; split
  · exact wf.after_name n
  · rfl

/-- frame `g` is waiting for its current candidate `c` -/
def Edge (sc : Scen) (g : Frame) (c : Nat) : Prop :=
  ∃ pt, (pts sc g.name)[g.p]? = some pt ∧ pt.cands[g.d]? = some c

theorem Edge.needs {sc : Scen} {g : Frame} {c : Nat} (h : Edge sc g c) : Needs sc g.name c := by
  obtain ⟨pt, h1, h2⟩ := h
  exact ⟨pt, List.mem_of_getElem? h1, List.mem_of_getElem? h2⟩

def Chain (sc : Scen) : List Frame → Prop
  | [] => True
  | [_] => True
  | f :: g :: rest => Edge sc g f.name ∧ Chain sc (g :: rest)

theorem chain_top {sc : Scen} {f f' : Frame} {rest : List Frame} (h : Chain sc (f :: rest)) (hn : f'.name = f.name) :
    Chain sc (f' :: rest) := by
  cases rest with
  | nil => trivial
  | cons g rest' => exact ⟨hn ▸ h.1, h.2⟩

theorem chain_tail {sc : Scen} {f : Frame} {rest : List Frame} (h : Chain sc (f :: rest)) : Chain sc rest := by
  cases rest with
  | nil => trivial
  | cons g rest' => exact h.2

theorem chain_bump {sc : Scen} {stk : List Frame} (o : Obj) (h : Chain sc stk) : Chain sc (bump stk o) := by
  cases stk with
  | nil => trivial
  | cons f rest => exact chain_top h rfl

theorem chain_reaches {sc : Scen} {f : Frame} {rest : List Frame} (h : Chain sc (f :: rest)) :
    ∀ g ∈ rest, Reaches sc g.name f.name := by
  induction rest generalizing f with
  | nil => simp
  | cons g rest' ih =>
    intro x hx
    have hg : Reaches sc g.name f.name := Reaches.tail (Reaches.refl _) h.1.needs
    simp at hx
    rcases hx with rfl | hx
    · exact hg
    · exact (ih h.2 x hx).trans hg

/-- the frame on top of the stack is waiting for the component the step asks for -/
theorem src_edge {sc : Scen} {st st0 : St} {c : Nat} (src : Src sc st st0 c) :
    ∀ f rest, st.stack = f :: rest → Edge sc f c := by
  intro f rest hs
  cases src with
  | boot n t hs' hb => simp [hs'] at hs
  | todo n t hs' hb ht => simp [hs'] at hs
  | cand g rest' hs' hp hd =>
    cases hs'.symm.trans hs
    exact ⟨_, List.getElem?_eq_getElem hp, List.getElem?_eq_getElem hd⟩

theorem chain_stepR (sc : Scen) (st st' : St) (h : Chain sc st.stack) (hstep : StepR sc st st') :
    Chain sc st'.stack := by
  cases hstep with
  | done hs hb ht => exact h
  | hit tb t sg c src o ho => exact chain_bump o h
  | promote tb t sg c src h1 h2 h3 hf => exact chain_bump _ h
  | enter tb t sg c src h1 h2 h3 hn hok s hs hl =>
    have he := src_edge src
    rw [hs.stack]
    cases hst : st.stack with
    | nil => trivial
    | cons g rest => exact ⟨he g rest hst, hst ▸ h⟩
  | next f rest hs hp hd flds hf => rw [hs] at h; exact chain_top h rfl
  | fail s x why => trivial
  | publish f rest hs hp hcb pub hpub =>
    rw [hs] at h
    rw [publish_stack]
    exact chain_bump pub (chain_tail h)

structure NameInv (st : St) : Prop where
  l1_name : ∀ n o, st.l1 n = some o → o.name = n
  l2_name : ∀ n o, st.l2 n = some o → o.name = n

structure Live (st : St) : Prop where
  acc : ∀ f ∈ st.stack, ∀ o ∈ f.acc, Ent st o.name
  fld : ∀ h i, ∀ o ∈ st.fields h i, Ent st o.name ∧ o.name ≠ h

def ObjInv (st : St) : Prop := NameInv st ∧ (¬ Failed st → Live st)

theorem nameInv_eff {sc : Scen} (wf : WF sc) {st st' : St} (hn : NameInv st) (e : Eff sc st st') : NameInv st' := by
  cases e with
  | quiet h1 h2 => exact ⟨h1 ▸ hn.l1_name, h2 ▸ hn.l2_name⟩
  | enter _ _ _ _ _ _ h1 h2 => exact ⟨h1 ▸ hn.l1_name, h2 ▸ hn.l2_name⟩
  | promote c _ _ h1 h2 =>
    exact ⟨h1 ▸ hn.l1_name, h2 ▸ upd_forall hn.l2_name fun o ho => by cases ho; exact wf.early_name c⟩
  | fail _ _ _ _ h1 h2 =>
    exact ⟨h1 ▸ hn.l1_name, fun n o ho => (h2 n).elim (fun h => by rw [h] at ho; cases ho) fun h => hn.l2_name n o (h ▸ ho)⟩
  | publish f _ pub _ _ _ hpub h1 h2 =>
    exact ⟨h1 ▸ upd_forall hn.l1_name fun o ho => by cases ho; exact hpub.name_of (wf.init_name _) (hn.l2_name _), h2 ▸ upd_forall hn.l2_name nofun⟩

theorem mem_bump_acc {stk : List Frame} {o o' : Obj} {f : Frame} (hf : f ∈ bump stk o) (ho : o' ∈ f.acc) :
    (∃ f0 ∈ stk, o' ∈ f0.acc) ∨ o' = o := by
  obtain ⟨g, rest, rfl, rfl | hf⟩ := mem_bump hf
  · exact (List.mem_append.1 ho).imp (fun h => ⟨g, List.mem_cons_self, h⟩) List.mem_singleton.1
  · exact .inl ⟨f, List.mem_cons_of_mem _ hf, ho⟩

/-- the objects in the frames and fields after a step that does not fail: those that were there, and the one handed
    over by the step, which is in creation or published -/
theorem live_stepR (sc : Scen) (wf : WF sc) (st st' : St) (hi : Inv sc st) (hn : NameInv st) (hl : Live st)
    (hnf : ¬ Failed st') (hstep : StepR sc st st') : Live st' := by
  have hE := hstep.ent hnf
  -- frames: the objects collected before, or one that is alive now
  suffices hA : ∀ f ∈ st'.stack, ∀ o ∈ f.acc, (∃ f0 ∈ st.stack, o ∈ f0.acc) ∨ Ent st' o.name from by
    refine ⟨fun f hf o ho => (hA f hf o ho).elim (fun ⟨f0, hf0, ho0⟩ => hE _ (hl.acc f0 hf0 o ho0)) id,
      fun x i o ho => ?_⟩
    -- fields: written from the collected objects of the top frame, the holder left out
    rcases hstep.fields_eq with hf | ⟨f, rest, hs, _, hf⟩
    · exact (hl.fld x i o (hf ▸ ho)).imp_left (hE _)
    · rw [hf] at ho
      by_cases hx : x = f.name ∧ i = f.p
      · obtain ⟨rfl, rfl⟩ := hx
        simp only [upd2, and_self, if_true] at ho
        exact ⟨hE _ (hl.acc f (by simp [hs]) o (metas_sub ho).1), (metas_sub ho).2⟩
      · simp only [upd2, hx, if_false] at ho
        exact (hl.fld x i o ho).imp_left (hE _)
  -- the frames below a new or moved-on top frame keep what they collected
  have tail : ∀ {g : Frame} {stk : List Frame}, (∀ f ∈ stk, f ∈ st.stack) → g.acc = [] →
      ∀ f ∈ g :: stk, ∀ o ∈ f.acc, (∃ f0 ∈ st.stack, o ∈ f0.acc) ∨ Ent st' o.name := fun hsub hg f hf o ho => by
    rcases List.mem_cons.1 hf with rfl | hf
    · rw [hg] at ho; cases ho
    · exact .inl ⟨f, hsub f hf, ho⟩
  -- a frame that is handed an object that is alive
  have hand : ∀ {stk : List Frame} {o : Obj}, (∀ f ∈ stk, f ∈ st.stack) → Ent st' o.name →
      ∀ f ∈ bump stk o, ∀ o' ∈ f.acc, (∃ f0 ∈ st.stack, o' ∈ f0.acc) ∨ Ent st' o'.name := fun hsub ha f hf o' ho' =>
    (mem_bump_acc hf ho').elim (fun ⟨f0, hf0, h⟩ => .inl ⟨f0, hsub f0 hf0, h⟩) fun h => .inr (h ▸ ha)
  cases hstep with
  | done hs hb ht => exact fun f hf o ho => .inl ⟨f, hf, ho⟩
  | hit tb t sg c src o ho =>
    refine hand (fun f hf => hf) ?_
    rcases ho with ho | ⟨_, ho⟩
    · exact hn.l1_name c o ho ▸ .inr (by simp [ho])
    · exact hn.l2_name c o ho ▸ .inl (by simpa [snames] using hi.shape.on_of_has (.inl (by simp [ho])))
  | promote tb t sg c src h1 h2 h3 hf =>
    exact hand (fun f hf => hf) ((wf.early_name c).symm ▸ .inl (by simpa [snames] using hi.shape.on_of_has (.inr h3)))
  | enter tb t sg c src h1 h2 h3 hn' hok s hs hl =>
    rw [hs.stack]; exact tail (fun f hf => hf) rfl
  | next f rest hs hp hd flds hf => exact tail (fun g hg => by simp [hs, hg]) rfl
  | fail s x why => exact absurd (failed_failAt _ _) hnf
  | publish f rest hs hp hcb pub hpub =>
    have hsub : ∀ g ∈ rest, g ∈ st.stack := fun g hg => by simp [hs, hg]
    rw [publish_stack]
    exact hand hsub (hpub.name_of (wf.init_name _) (hn.l2_name _) ▸ .inr (by simp [publish]))

theorem objInv_stepR (sc : Scen) (wf : WF sc) (st st' : St) (hi : Inv sc st) (h : ObjInv st)
    (hr : st.status = .running) (hstep : StepR sc st st') : ObjInv st' :=
  ⟨nameInv_eff wf h.1 (stepR_eff hstep),
    fun hnf => live_stepR sc wf st st' hi h.1 (h.2 (not_failed_of_running hr)) hnf hstep⟩

theorem deps_run (sc : Scen) (wf : WF sc) (k : Nat) :
    ObjInv (run sc k (init sc)) ∧ Chain sc (run sc k (init sc)).stack :=
  run_ind sc (fun s => ObjInv s ∧ Chain sc s.stack) ⟨by refine ⟨⟨?_, ?_⟩, fun _ => ⟨?_, ?_⟩⟩ <;> simp [init], trivial⟩
    (fun st st' hi hr h a => ⟨objInv_stepR sc wf st st' hi h.1 hr a, chain_stepR sc st st' h.2 a⟩) k

end Ioc.M2.Lc
