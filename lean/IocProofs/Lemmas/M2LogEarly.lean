/-
  The early-reference event: per component `early n` is logged at most once, and only between `conf n` and `before n`.
-/
import IocProofs.Lemmas.M2Log
namespace Ioc.M2.Lc
open Ioc.M2

/-- all events of a published wired component, oldest first: the lifecycle with at most one `early`, between
    `conf` and `before` -/
theorem early_once (sc : Scen) (k : Nat) (n : Nat) (hp : (run sc k (init sc)).l1 n ≠ none)
    (hl : sc.logged n = true) (hw : sc.wired n = true) :
    (run sc k (init sc)).log.reverse.filter (fun e => decide (evName e = n)) =
        [.new n, .conf n, .before n, .aps n, .init n, .after n] ∨
    (run sc k (init sc)).log.reverse.filter (fun e => decide (evName e = n)) =
        [.new n, .conf n, .early n, .before n, .aps n, .init n, .after n] := by
  obtain ⟨b, hb⟩ := (earlyInv_run sc k).pub n hl hp
  rw [List.filter_reverse]
  change (projE n _).reverse = _ ∨ (projE n _).reverse = _
  rw [hb]
  cases b <;> simp [cbOk, partLog, earlyIf, hw]

end Ioc.M2.Lc
