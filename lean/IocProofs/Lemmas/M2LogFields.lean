/-
  Population comes before initialization: the step that logs `before n` is the finishing step of n's frame, which has
  gone through all its points; a field is written only by the frame of its holder; nothing of a published component
  (cache entry, fields) ever changes again.
-/
import IocProofs.Lemmas.M2Log
import IocProofs.Lemmas.M2Term
namespace Ioc.M2.Lc
open Ioc.M2

def FrameInv (sc : Scen) (st : St) : Prop := ∀ f ∈ st.stack, f.p ≤ (pts sc f.name).length

/-- part of what termination needs of a running state (`TInv`); a stopped state has no frames -/
theorem frameInv_run (sc : Scen) (k : Nat) : FrameInv sc (run sc k (init sc)) := by
  by_cases hr : (run sc k (init sc)).status = .running
  · exact fun f hf => ((tinv_reachable sc k hr).frames f hf).1
  · intro f hf; rw [(inv_run sc k).quiet hr] at hf; cases hf

/-- the step that logs `before n` (or any other initialization callback of n) -/
theorem callback_logged (sc : Scen) (st : St) (hfi : FrameInv sc st) (hr : st.status = .running) (n : Nat) (e : Ev)
    (he : e = .before n ∨ e = .aps n ∨ e = .init n ∨ e = .after n)
    (hnew : e ∈ (step sc st).log) (hold : e ∉ st.log) :
    ∃ f rest, st.stack = f :: rest ∧ f.name = n ∧ f.p = (pts sc n).length ∧ (step sc st).fields = st.fields := by
  have hn : evName e = n := by rcases he with rfl | rfl | rfl | rfl <;> rfl
  -- `e` is none of the events written before the callbacks run
  have hne : ∀ c, e ≠ .early c ∧ e ≠ .new c ∧ e ≠ .conf c := by
    intro c; rcases he with rfl | rfl | rfl | rfl <;> simp
  -- so it was written by the finishing step of the top frame, which writes no field
  have fin : ∀ {f : Frame} {rest : List Frame}, st.stack = f :: rest → ¬ f.p < (pts sc f.name).length →
      e ∈ cbEvs sc f.name →
      ∃ f rest, st.stack = f :: rest ∧ f.name = n ∧ f.p = (pts sc n).length ∧ (step sc st).fields = st.fields :=
    fun {f rest} hs hp hc =>
      have hfn : f.name = n := (cbEvs_name sc _ e hc).symm.trans hn
      ⟨f, rest, hs, hfn, by have := hfi f (by simp [hs]); rw [← hfn]; omega,
        (step_rel sc st hr).fields_eq.resolve_right fun ⟨_, _, hs', hp', _⟩ => by cases hs.symm.trans hs'; exact hp hp'⟩
  have new : ∀ {evs : List Ev}, (step sc st).log = evs ++ st.log → e ∈ evs := fun hl =>
    (List.mem_append.1 (hl ▸ hnew)).resolve_right hold
  cases stepR_eff (step_rel sc st hr) with
  | quiet _ _ _ hl => exact absurd (hl ▸ hnew) hold
  | promote c _ _ _ _ _ hl =>
    have := new hl
    cases sc.logged c <;> simp [(hne c).1] at this
  | enter c _ _ _ _ _ _ _ _ hl =>
    have := new hl
    unfold partLog at this
    cases sc.logged c <;> cases sc.wired c <;> simp [(hne c).2] at this
  | fail x evs _ _ _ _ _ hl hev =>
    rcases hev e (new hl) with h | h | ⟨hc, f, rest, hs, rfl, hp⟩
    · exact absurd h (hne x).1
    · exact absurd h (hne x).2.1
    · exact fin hs hp hc
  | publish f rest _ hs hp _ _ _ _ _ hl => exact fin hs hp (new hl)

/-- a field is written only by the frame of its holder, at the point the frame is working on -/
theorem field_writer_rel (sc : Scen) (st st' : St) (hstep : StepR sc st st') (h i : Nat)
    (hne : st'.fields h i ≠ st.fields h i) :
    ∃ f rest, st.stack = f :: rest ∧ f.name = h ∧ f.p = i ∧ i < (pts sc h).length := by
  rcases hstep.fields_eq with hf | ⟨f, rest, hs, hp, hf⟩
  · exact absurd (by rw [hf]) hne
  · by_cases hh : h = f.name ∧ i = f.p
    · obtain ⟨rfl, rfl⟩ := hh; exact ⟨f, rest, hs, rfl, rfl, hp⟩
    · exact absurd (by simp [hf, upd2, hh]) hne

/-- nothing of a published component changes in a step: its cache entry and all its fields stay -/
theorem published_frozen_step (sc : Scen) (st : St) (hi : Inv sc st) (n : Nat) (hp : st.l1 n ≠ none) :
    (step sc st).l1 n = st.l1 n ∧ (step sc st).fields n = st.fields n := by
  by_cases hr : st.status = .running
  · have hrel := step_rel sc st hr
    refine ⟨hrel.l1_stable hi.shape hp, ?_⟩
    funext i
    apply Classical.byContradiction
    intro hne
    obtain ⟨f, rest, hs, hn, _, _⟩ := field_writer_rel sc st _ hrel n i hne
    exact hp (hn ▸ hi.l1_off _ (by simp [snames, hs]))
  · rw [step_not_running sc st hr]; exact ⟨rfl, rfl⟩

theorem published_frozen (sc : Scen) (k m : Nat) (n : Nat) (hp : (run sc k (init sc)).l1 n ≠ none) :
    (run sc (k + m) (init sc)).l1 n = (run sc k (init sc)).l1 n ∧
    (run sc (k + m) (init sc)).fields n = (run sc k (init sc)).fields n := by
  induction m with
  | zero => exact ⟨rfl, rfl⟩
  | succ m ih =>
    have hi := inv_run sc (k + m)
    have hp' : (run sc (k + m) (init sc)).l1 n ≠ none := by rw [ih.1]; exact hp
    have := published_frozen_step sc _ hi n hp'
    rw [← Nat.add_assoc, run_succ]
    exact ⟨this.1.trans ih.1, this.2.trans ih.2⟩

end Ioc.M2.Lc
