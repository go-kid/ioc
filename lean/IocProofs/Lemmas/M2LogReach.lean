/-
  Who gets created: every component that is ever entered (has a frame, is published, or has an event in the log) is
  reachable from a boot / eager name along candidate edges.
-/
import IocProofs.Lemmas.M2LogFields
namespace Ioc.M2.Lc
open Ioc.M2

/-- `c` is a candidate of some injection point of `b` that the factory iterates -/
def Needs (sc : Scen) (b c : Nat) : Prop := ∃ pt ∈ pts sc b, c ∈ pt.cands

/-- reflexive-transitive closure of `Needs` -/
inductive Reaches (sc : Scen) : Nat → Nat → Prop
  | refl (a : Nat) : Reaches sc a a
  | tail {a b c : Nat} : Reaches sc a b → Needs sc b c → Reaches sc a c

/-- a set closed under candidate edges contains everything reachable from its members -/
theorem Reaches.closed {sc : Scen} {P : Nat → Prop} {a x : Nat} (h : Reaches sc a x) (ha : P a)
    (hP : ∀ b c, P b → Needs sc b c → P c) : P x := by
  induction h with
  | refl => exact ha
  | tail _ hn ih => exact hP _ _ ih hn

theorem Reaches.trans {sc : Scen} {a b c : Nat} (h1 : Reaches sc a b) (h2 : Reaches sc b c) : Reaches sc a c := by
  induction h2 with
  | refl => exact h1
  | tail _ hn ih => exact Reaches.tail ih hn

/-- needed by an eagerly created component (or being one) -/
def Root (sc : Scen) (n : Nat) : Prop := ∃ r ∈ sc.boot ++ sc.eager, Reaches sc r n

structure ReachInv (sc : Scen) (st : St) : Prop where
  ent : ∀ n, Ent st n → Root sc n
  log : ∀ e ∈ st.log, Root sc (evName e)

theorem reach_mono {sc : Scen} {st st' : St} (c : Nat) (h : ReachInv sc st) (hc : Root sc c)
    (hE : ∀ n, Ent st' n → Ent st n ∨ n = c)
    (hL : ∀ e ∈ st'.log, e ∈ st.log ∨ evName e = c ∨ Ent st (evName e)) : ReachInv sc st' := by
  constructor
  · intro n hn
    rcases hE n hn with h' | rfl
    · exact h.ent n h'
    · exact hc
  · intro e he
    rcases hL e he with h' | h' | h'
    · exact h.log e h'
    · rw [h']; exact hc
    · exact h.ent _ h'

theorem src_root {sc : Scen} {st st0 : St} {c : Nat} (src : Src sc st st0 c) (ht : TodoInv sc st)
    (h : ReachInv sc st) : Root sc c := by
  cases src with
  | boot n t hs hb =>
    obtain ⟨pre, he, _⟩ := ht
    exact ⟨c, by rw [he, hb]; simp, Reaches.refl c⟩
  | todo n t hs hb htd =>
    obtain ⟨pre, he, _⟩ := ht
    exact ⟨c, by rw [he, hb, htd]; simp, Reaches.refl c⟩
  | cand f rest hs hp hd =>
    obtain ⟨r, hr, hreach⟩ := h.ent f.name (Or.inl (by simp [snames, hs]))
    exact ⟨r, hr, Reaches.tail hreach ⟨_, List.getElem_mem hp, List.getElem_mem hd⟩⟩

theorem reachInv_eff {sc : Scen} {st st' : St} (hi : Inv sc st) (ht : TodoInv sc st) (h : ReachInv sc st)
    (e : Eff sc st st') :
    ReachInv sc st' := by
  have top : ∀ {f : Frame} {rest : List Frame}, st.stack = f :: rest → Ent st f.name :=
    fun hs => Or.inl (by simp [snames, hs])
  -- events written on top of the old log belong to the component the step works on
  have new : ∀ {x : Nat} {evs : List Ev}, st'.log = evs ++ st.log → (∀ e ∈ evs, evName e = x) →
      ∀ e ∈ st'.log, e ∈ st.log ∨ evName e = x ∨ Ent st (evName e) := fun hl hn e he =>
    (List.mem_append.1 (hl ▸ he)).elim (fun h => .inr (.inl (hn e h))) .inl
  cases e with
  | quiet h1 _ hs hl => exact ⟨fun n hn => h.ent n (by simpa [Ent, hs, h1] using hn), hl ▸ h.log⟩
  | promote c _ hc3 h1 _ hs hl =>
    exact reach_mono c h (h.ent c (.inl (hi.shape.on_of_has (.inr hc3)))) (fun n hn => .inl (by simpa [Ent, hs, h1] using hn))
      (new hl (by cases sc.logged c <;> simp [evName]))
  | enter c st0 src _ _ _ h1 _ hs hl =>
    refine reach_mono c h (src_root src ht h) (fun n hn => ?_) (new hl (partLog_name sc c))
    rw [Ent, hs, h1] at hn
    rcases hn with hn | hn
    · exact (List.mem_cons.1 hn).elim .inr fun h => .inl (.inl h)
    · exact .inl (.inr hn)
  | fail x evs hx _ h1 _ hs hl hev =>
    have hr : Root sc x := hx.elim (fun hx => h.ent x (.inl hx)) fun ⟨_, src, _⟩ => src_root src ht h
    exact reach_mono x h hr (fun n hn => .inl (.inr (by simpa [Ent, hs, h1] using hn))) (new hl (Eff.fail_name hev))
  | publish f rest pub hst _ _ _ h1 _ hs hl =>
    refine reach_mono f.name h (h.ent _ (top hst)) (fun n hn => ?_) (new hl (cbEvs_name sc f.name))
    by_cases hnf : n = f.name
    · exact .inr hnf
    · rw [Ent, hs, h1] at hn
      exact .inl (hn.imp (fun hn => by simp [snames, hst, hn]) (by simp [upd, hnf]))

theorem reachInv_run (sc : Scen) (k : Nat) : ReachInv sc (run sc k (init sc)) :=
  (run_ind sc (fun s => TodoInv sc s ∧ ReachInv sc s) ⟨todo_run sc 0, by constructor <;> simp [init, Ent, snames]⟩
    (fun st st' hi hr h a => ⟨todo_stepR sc st st' hi h.1 hr a, reachInv_eff hi h.1 h.2 (stepR_eff a)⟩) k).2

end Ioc.M2.Lc
