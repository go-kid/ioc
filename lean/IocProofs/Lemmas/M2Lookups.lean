/-
  Lookups after the start (`M2.lookupAfter`): as long as no attempt fails, the machine invariant carries over from one
  lookup to the next, so everything proved from it for ONE start holds after any sequence of lazy creations.
-/
import IocProofs.Lemmas.M2Inv
import IocProofs.Lemmas.M2Term
namespace Ioc.M2.Lc
open Ioc Ioc.M2

/-- resuming creation from a state that has not failed keeps the invariant (registries, stack and fields are untouched) -/
theorem Inv.restart {sc : Scen} {a : St} (hi : Inv sc a) (hnf : NF a) (n : Nat) :
    Inv sc { a with status := .running, todo := [n], todoBoot := [], stage := .refresh } :=
  hi.congr rfl rfl rfl rfl rfl (fun h => absurd rfl h) (fun _ => hnf)

theorem lookupAfter_inv (sc : Scen) (wf : WF sc) (st : St) (hi : Inv sc st) (hnf : NF st) (n : Nat) :
    Inv sc (lookupAfter sc st n) := by
  unfold lookupAfter
  cases hs : st.status with
  | running => exact hi
  | done => exact inv_run' sc wf _ _ (Inv.restart hi hnf n)
  | failed w s => exact absurd hs (hnf w s)

def lookupsAfter (sc : Scen) : St → List Nat → St
  | st, [] => st
  | st, n :: ns => lookupsAfter sc (lookupAfter sc st n) ns

/-- no attempt of the sequence fails -/
def AllNF (sc : Scen) : St → List Nat → Prop
  | st, [] => NF st
  | st, n :: ns => NF st ∧ AllNF sc (lookupAfter sc st n) ns

theorem lookupsAfter_inv (sc : Scen) (wf : WF sc) (ns : List Nat) : ∀ (st : St), Inv sc st → AllNF sc st ns →
    Inv sc (lookupsAfter sc st ns) ∧ NF (lookupsAfter sc st ns) := by
  induction ns with
  | nil => intro st hi h; exact ⟨hi, h⟩
  | cons n ns ih =>
    intro st hi h
    exact ih _ (lookupAfter_inv sc wf st hi h.1 n) h.2

end Ioc.M2.Lc

namespace Ioc.M2
open Ioc.M2.Term

/-- a lookup after the start stops as well: within `fuelBound sc + 1` steps, from any quiescent stopped state -/
theorem lookupAfter_terminates (sc : Scen) (st : St) (n : Nat) (hs : st.stack = []) (hnr : st.status ≠ .running) :
    (lookupAfter sc st n).status ≠ .running := by
  have stops : (run sc (fuelBound sc + 1)
      { st with status := .running, todo := [n], todoBoot := [], stage := .refresh }).status ≠ .running := by
    intro hr
    have h := run_bound sc (fuelBound sc + 1) _ (fun _ => by simp only [TInv, hs]; exact tinvL_nil sc _ _ _) hr
    have h3 := mu_running sc _ hr
    have hmu : mu sc { st with status := .running, todo := [n], todoBoot := [], stage := .refresh } ≤ fuelBound sc + 1 := by
      simp only [mu, muRun, if_true, fuelBound, hs, List.length_nil, List.length_cons]
      have := sum_le_of_pointwise sc.names _ _ (fun x _ => potAux_le_work sc st.l1 [] x)
      omega
    omega
  unfold lookupAfter
  cases hst : st.status with
  | running => exact absurd hst hnr
  | done => exact stops
  | failed w s => exact stops

end Ioc.M2
