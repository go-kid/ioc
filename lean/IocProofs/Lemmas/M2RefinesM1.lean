/-
  Refinement M2 → M1: the cache moves that the factory machine (Ioc.Container) inlines are operations of the stand-alone
  registry model (Ioc.Registry), issued in the pattern of doGetComponent / GetSingletonOrCreateByFactory:
    lookup   = Reg.get c true (early)          (GetSingleton, early references allowed)
    enter    = Reg.startCreate c               (beginCreate + addFactory) after a lookup that found nothing
    publish  = Reg.endCreate n (ok pub)        (AddSingleton)
    failAt   = Reg.endCreate m (error) for every creation m in progress (RemoveSingleton, innermost first)
  `Abs st r` relates a machine state to a registry; `Proto r` = reachable from the empty registry by these operations.
  Every reachable machine state has an abstraction that satisfies `Proto`, hence `Reg.Inv` and everything C04 proves
  about protocol-conforming registries.
-/
import IocProofs.Lemmas.Registry
import IocProofs.Lemmas.M2StepInv
namespace Ioc.M2.Rf
open Ioc Ioc.M2 Ioc.M2.Lc

/-- the same identity in the vocabulary of M1 -/
def toM1 (o : M2.Obj) : Ioc.Obj := ⟨o.name, o.ver⟩

/-- what the early-reference factory of `c` returns if the lookup runs it -/
def earlyOf (sc : Scen) (c : Nat) : Except Err Ioc.Obj :=
  if sc.fEarly c then .error .fail else .ok (toM1 (sc.earlyO c))

structure Abs (st : St) (r : Reg) : Prop where
  l1 : ∀ n, r.l1? n = (st.l1 n).map toM1
  l2 : ∀ n, r.l2? n = (st.l2 n).map toM1
  l3 : ∀ n, n ∈ r.l3 ↔ st.l3 n = true
  inCr : ∀ n, n ∈ r.inCr ↔ n ∈ snames st

theorem Abs.congr {st st' : St} {r : Reg} (h : Abs st r) (e1 : st'.l1 = st.l1) (e2 : st'.l2 = st.l2)
    (e3 : st'.l3 = st.l3) (e4 : snames st' = snames st) : Abs st' r :=
  ⟨by rw [e1]; exact h.l1, by rw [e2]; exact h.l2, by rw [e3]; exact h.l3, by rw [e4]; exact h.inCr⟩

theorem abs_init (sc : Scen) : Abs (init sc) Reg.empty :=
  ⟨fun _ => rfl, fun _ => rfl, fun n => by simp [init], fun n => by simp [init, snames]⟩

/-- the answer of `lookup` and the answer of `GetSingleton` on the abstraction, side by side -/
theorem lookup_refines (sc : Scen) (st : St) (r : Reg) (c : Nat) (h : Abs st r) :
    (∀ o st', lookup sc st c = .hit o st' →
      (r.get c true (earlyOf sc c)).1 = .ok (some (toM1 o)) ∧ Abs st' (r.get c true (earlyOf sc c)).2) ∧
    (lookup sc st c = .miss → r.get c true (earlyOf sc c) = (.ok none, r)) ∧
    (∀ st', lookup sc st c = .err st' → r.get c true (earlyOf sc c) = (.error .fail, r) ∧ Abs st' r) := by
  have a1 : ∀ {o}, st.l1 c = o → r.l1? c = o.map toM1 := fun e => e ▸ h.l1 c
  have a2 : ∀ {o}, st.l2 c = o → r.l2? c = o.map toM1 := fun e => e ▸ h.l2 c
  refine ⟨fun o' st' e => ?_, fun e => ?_, fun st' e => ?_⟩ <;>
    rcases lookup_eq sc st c with ⟨o, ho, he⟩ | ⟨h1, h2, h3, hf, he⟩ | ⟨h1, h2, h3, hf, he⟩ | ⟨h1, h2, h3, he⟩ <;>
    rw [he] at e <;> cases e
  · have hg : r.get c true (earlyOf sc c) = (.ok (some (toM1 o')), r) :=
      ho.elim (fun ho => Reg.get_l1 r c _ _ _ (a1 ho)) fun ho => Reg.get_l2 r c _ _ _ (a1 ho.1) (a2 ho.2)
    rw [hg]; exact ⟨rfl, h⟩
  · have hg : r.get c true (earlyOf sc c) =
        (.ok (some (toM1 (sc.earlyO c))), { r with l2 := aset c (toM1 (sc.earlyO c)) r.l2, l3 := sdel c r.l3 }) := by
      unfold earlyOf; rw [hf]
      exact Reg.get_early_ok r c _ (a1 h1) (a2 h2) ((h.l3 c).mpr h3)
    rw [hg]
    refine ⟨rfl, ⟨fun n => by simpa [Reg.l1?] using h.l1 n, fun n => ?_, fun n => ?_, fun n => by simpa [snames] using h.inCr n⟩⟩
    · have := h.l2 n
      simp only [Reg.l2?] at this
      by_cases hn : n = c <;> simp [Reg.l2?, hn, upd, this]
    · by_cases hn : n = c <;> simp [hn, upd, h.l3 n]
  · exact Reg.get_no_factory r c _ _ (a1 h1) (a2 h2) (fun hm => by rw [(h.l3 c).mp hm] at h3; cases h3)
  · have hg : r.get c true (earlyOf sc c) = (.error .fail, r) := by
      unfold earlyOf; rw [hf]
      exact Reg.get_early_err r c _ (a1 h1) (a2 h2) ((h.l3 c).mpr h3)
    exact ⟨hg, h.congr (by simp) (by simp) (by simp) (by simp)⟩

theorem push_refines (st : St) (r : Reg) (c : Nat) (h : Abs st r) (h1 : st.l1 c = none) :
    Abs (push st c) (r.startCreate c) := by
  have hr : r.l1? c = none := by rw [h.l1, h1]; rfl
  rw [Reg.startCreate_eq r c hr]
  refine ⟨fun n => by simpa [Reg.l1?, push] using h.l1 n, fun n => by simpa [Reg.l2?, push] using h.l2 n,
    fun n => ?_, fun n => ?_⟩
  · by_cases hn : n = c <;> simp [push, hn, upd, h.l3 n]
  · simp [h.inCr n]

theorem publish_refines (st : St) (r : Reg) (f : Frame) (rest : List Frame) (pub : M2.Obj) (h : Abs st r)
    (hs : st.stack = f :: rest) (hnd : (snames st).Nodup) :
    Abs (M2.publish st f.name pub rest) (r.endCreate f.name (.ok (toM1 pub))) := by
  have hsn : snames st = f.name :: rest.map (·.name) := by simp [snames, hs]
  rw [hsn] at hnd
  refine ⟨fun n => ?_, fun n => ?_, fun n => ?_, fun n => ?_⟩
  · by_cases hn : n = f.name <;> simp [M2.publish, hn, upd, h.l1 n]
  · by_cases hn : n = f.name <;> simp [M2.publish, hn, upd, h.l2 n]
  · by_cases hn : n = f.name <;> simp [M2.publish, hn, upd, h.l3 n]
  · rw [Reg.mem_inCr_endCreate_ok, h.inCr n, hsn, snames_publish]
    have := (List.nodup_cons.mp hnd).1
    by_cases hn : n = f.name <;> simp [hn, this]

/-- every creation in `L` returns the error, innermost first -/
def unwind (r : Reg) (L : List Nat) : Reg := L.foldl (fun r m => r.endCreate m (.error .fail)) r

theorem unwind_spec (r : Reg) (L : List Nat) (n : Nat) :
    ((unwind r L).l1? n = if n ∈ L then none else r.l1? n) ∧
    ((unwind r L).l2? n = if n ∈ L then none else r.l2? n) ∧
    (n ∈ (unwind r L).l3 ↔ n ∈ r.l3 ∧ n ∉ L) ∧
    (n ∈ (unwind r L).inCr ↔ n ∈ r.inCr ∧ n ∉ L) := by
  induction L generalizing r with
  | nil => simp [unwind]
  | cons m L ih =>
    have e : unwind r (m :: L) = unwind (r.remove m) L := rfl
    rw [e]
    obtain ⟨i1, i2, i3, i4⟩ := ih (r.remove m)
    rw [i1, i2, i3, i4]
    by_cases hm : n = m <;> by_cases hl : n ∈ L <;> simp [hm, hl]

theorem failAt_refines (st : St) (r : Reg) (x : Nat) (h : Abs st r) (hoff : ∀ n ∈ snames st, st.l1 n = none) :
    Abs (failAt st x) (unwind r (snames st)) := by
  refine ⟨fun n => ?_, fun n => ?_, fun n => ?_, fun n => ?_⟩
  · rw [(unwind_spec r _ n).1, h.l1 n]
    split
    · next hn => simp [failAt, hoff n hn]
    · rfl
  · rw [(unwind_spec r _ n).2.1, h.l2 n]
    by_cases hn : n ∈ snames st <;> simp [failAt, onStack_iff, hn]
  · rw [(unwind_spec r _ n).2.2.1, h.l3 n]
    by_cases hn : n ∈ snames st <;> simp [failAt, onStack_iff, hn]
  · rw [(unwind_spec r _ n).2.2.2, h.inCr n]
    simp

/-- registries reachable from the empty one by the operations of doGetComponent: GetSingleton(n, true);
    GetSingletonOrCreateByFactory entered after a lookup that found nothing; its return (published or error) for a
    name in creation -/
inductive Proto : Reg → Prop
  | empty : Proto Reg.empty
  | get {r : Reg} (n : Nat) (early : Except Err Ioc.Obj) : Proto r → Proto (r.get n true early).2
  | start {r : Reg} (n : Nat) (early : Except Err Ioc.Obj) : Proto r → (r.get n true early).1 = .ok none →
      Proto (r.startCreate n)
  | finish {r : Reg} (n : Nat) (res : Except Err Ioc.Obj) : Proto r → n ∈ r.inCr → Proto (r.endCreate n res)

theorem Proto.inv {r : Reg} (h : Proto r) : r.Inv := by
  induction h with
  | empty => exact Reg.inv_empty
  | get n early _ ih => exact ih.get n true early
  | start n early _ hm ih => exact ih.startCreate n (Reg.get_miss _ n true early hm).2.2.1
  | finish n res _ _ ih => exact ih.endCreate n res

theorem proto_unwind {r : Reg} (L : List Nat) (h : Proto r) (hnd : L.Nodup) (hin : ∀ n ∈ L, n ∈ r.inCr) :
    Proto (unwind r L) := by
  induction L generalizing r with
  | nil => exact h
  | cons m L ih =>
    have e : unwind r (m :: L) = unwind (r.endCreate m (.error .fail)) L := rfl
    rw [e]
    obtain ⟨hm, hnd'⟩ := List.nodup_cons.mp hnd
    refine ih (Proto.finish m _ h (hin m (by simp))) hnd' (fun n hn => ?_)
    rw [Reg.endCreate_err, Reg.mem_inCr_remove]
    exact ⟨hin n (by simp [hn]), fun hnm => hm (hnm ▸ hn)⟩

/-- one step of the machine is a sequence of protocol operations on the abstraction -/
theorem step_refines (sc : Scen) (st st' : St) (r : Reg) (hi : Lc.Inv sc st) (ha : Abs st r) (hp : Proto r)
    (hstep : StepR sc st st') : ∃ r', Abs st' r' ∧ Proto r' := by
  cases hstep with
  | done hs hb ht => exact ⟨r, ha.congr rfl rfl rfl rfl, hp⟩
  | hit tb t sg c src o ho => exact ⟨r, ha.congr rfl rfl rfl (snames_bump ..), hp⟩
  | promote tb t sg c src h1 h2 h3 hf =>
    have hl : lookup sc st c = .hit (sc.earlyO c) { addLog sc st c (.early c) with
        l2 := upd st.l2 c (some (sc.earlyO c)), l3 := upd st.l3 c false } := by
      simp [lookup, h1, h2, h3, hf]
    obtain ⟨_, hab⟩ := (lookup_refines sc st r c ha).1 _ _ hl
    exact ⟨_, hab.congr (by simp) (by simp) (by simp) (by simp [snames]), Proto.get c _ hp⟩
  | enter tb t sg c src h1 h2 h3 hn hok s hs hl =>
    have h0 : Abs { st with todoBoot := tb, todo := t, stage := sg } r := ha.congr rfl rfl rfl rfl
    have hmiss := (lookup_refines sc _ r c h0).2.1 (by simp [lookup, h1, h2, h3])
    exact ⟨_, (push_refines _ r c h0 h1).congr hs.l1 hs.l2 hs.l3 (congrArg (List.map Frame.name) hs.stack),
      Proto.start c (earlyOf sc c) hp (by rw [hmiss])⟩
  | next f rest hs hp' hd flds hf => exact ⟨r, ha.congr rfl rfl rfl (by simp [snames, hs, advance]), hp⟩
  | fail s x why =>
    -- every creation in progress returns the error
    exact ⟨unwind r (snames st), (failAt_refines st r x ha hi.l1_off).congr why.core.1 why.core.2.1 why.core.2.2.1 rfl,
      proto_unwind _ hp hi.nodup fun n hn => (ha.inCr n).mpr hn⟩
  | publish f rest hs hp' hcb pub hpub =>
    have hs' : (initCallbacks sc st f.name).1.stack = f :: rest := by simp [hs]
    have ha' : Abs (initCallbacks sc st f.name).1 r := ha.congr (by simp) (by simp) (by simp) (by simp)
    refine ⟨_, publish_refines _ r f rest pub ha' hs' (by simpa using hi.nodup),
      Proto.finish f.name _ hp ((ha.inCr f.name).mpr (by simp [snames, hs]))⟩

/-- every reachable state of the factory machine has a registry abstraction that was produced by protocol operations -/
theorem run_refines (sc : Scen) (k : Nat) : ∃ r, Abs (run sc k (init sc)) r ∧ Proto r :=
  run_ind sc (fun s => ∃ r, Abs s r ∧ Proto r) ⟨Reg.empty, abs_init sc, Proto.empty⟩
    (fun st st' hi _ ⟨r, ha, hp⟩ a => step_refines sc st st' r hi ha hp a) k

end Ioc.M2.Rf
