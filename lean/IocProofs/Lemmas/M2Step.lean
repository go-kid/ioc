/-
  One step of the factory machine (Ioc.Container) as an explicit relation `StepR`: every result of `step` from a running
  state is one of six moves or a failure with its reason (`step_rel`, assembled from one equation of `step` per place in
  its case tree: `step_done`, `step_visit`, `step_inject`, `step_finish`).  The invariants of the machine are proved by
  `cases` on this relation and lifted over `run`.  `Shape` is the part of the cache invariant that both `Lc.Inv`
  (M2StepInv) and `M2.Inv` (M2Inv) contain; its preservation is proved here, once.
  (Namespace `Ioc.M2.Lc` so that nothing clashes with the lemma files of the cache properties C01–C03.)
-/
import IocProofs.Lemmas.M2Basic
namespace Ioc.M2.Lc
open Ioc.M2

/-- names of the creations in progress, innermost first -/
def snames (st : St) : List Nat := st.stack.map (·.name)

theorem onStack_iff (st : St) (n : Nat) : onStack st n = true ↔ n ∈ snames st := by
  simp [onStack, snames]

theorem onStack_false_iff (st : St) (n : Nat) : onStack st n = false ↔ n ∉ snames st := by
  rw [← onStack_iff]; cases onStack st n <;> simp

/-- registration of the early-reference factory and the new frame -/
def push (st : St) (c : Nat) : St :=
  { st with l3 := upd st.l3 c true, stack := ⟨c, 0, 0, []⟩ :: st.stack }

/-- the caller's frame receives an object -/
def bump (stk : List Frame) (o : Obj) : List Frame :=
  match stk with
  | [] => []
  | f :: rest => { f with d := f.d + 1, acc := f.acc ++ [o] } :: rest

def advance (f : Frame) : Frame := { f with p := f.p + 1, d := 0, acc := [] }

/-- what Inject keeps of the collected objects: everything but the holder itself -/
def metasOf (f : Frame) : List Obj := f.acc.filter (fun o => o.name != f.name)

theorem mem_bump {stk : List Frame} {o : Obj} {f : Frame} (h : f ∈ bump stk o) :
    ∃ g rest, stk = g :: rest ∧ (f = { g with d := g.d + 1, acc := g.acc ++ [o] } ∨ f ∈ rest) := by
  cases stk with
  | nil => cases h
  | cons g rest => exact ⟨g, rest, rfl, List.mem_cons.mp h⟩

/-- a frame that receives an object stays at its point -/
theorem bump_past (stk : List Frame) (o : Obj) (n i : Nat) :
    (∃ f ∈ bump stk o, f.name = n ∧ i < f.p) ↔ ∃ f ∈ stk, f.name = n ∧ i < f.p := by
  cases stk <;> simp [bump]

/-- what Inject writes into a field: collected objects, the holder itself left out -/
theorem metas_sub {f : Frame} {b : Bool} {o : Obj} (h : o ∈ (if b = true then metasOf f else (metasOf f).take 1)) :
    o ∈ f.acc ∧ o.name ≠ f.name := by
  have : o ∈ metasOf f := by
    cases b
    · exact List.mem_of_mem_take (by simpa using h)
    · simpa using h
  have := List.mem_filter.mp this
  exact ⟨this.1, by simpa using this.2⟩

@[simp] theorem snames_bump (stk : List Frame) (o : Obj) :
    (bump stk o).map (·.name) = stk.map (·.name) := by
  cases stk <;> simp [bump]

@[simp] theorem snames_addLog (sc : Scen) (st : St) (n : Nat) (e : Ev) : snames (addLog sc st n e) = snames st := by
  simp [snames]
@[simp] theorem snames_initCallbacks (sc : Scen) (st : St) (n : Nat) : snames (initCallbacks sc st n).1 = snames st := by
  simp [snames]
@[simp] theorem snames_failAt (st : St) (n : Nat) : snames (failAt st n) = [] := rfl
@[simp] theorem snames_push (st : St) (c : Nat) : snames (push st c) = c :: snames st := rfl
@[simp] theorem snames_publish (st : St) (n : Nat) (pub : Obj) (rest : List Frame) :
    snames (publish st n pub rest) = rest.map (·.name) := by
  cases rest <;> simp [publish, snames]

theorem publish_stack (st : St) (n : Nat) (pub : Obj) (rest : List Frame) :
    (publish st n pub rest).stack = bump rest pub := by
  cases rest <;> rfl

theorem finishedHolderHas_same (sc : Scen) (a b : St) (e : Obj) (h : SameButLog a b) :
    finishedHolderHas sc a e = finishedHolderHas sc b e := by
  simp [finishedHolderHas, onStack, h.stack, h.fields]

/-- `failAt` reads the caches and the stack only -/
theorem failAt_same {s st : St} (h : SameButLog s st) (x : Nat) :
    (failAt s x).l1 = st.l1 ∧ (failAt s x).l2 = (failAt st x).l2 ∧ (failAt s x).l3 = (failAt st x).l3 ∧
    (failAt s x).fields = st.fields := by
  refine ⟨h.l1, ?_, ?_, h.fields⟩ <;> simp only [failAt, onStack, h.l2, h.l3, h.stack] <;> rfl

/-- the frame pushed last had no early entry, and its factory goes with it -/
theorem failAt_push (sc : Scen) (st : St) (x : Nat) (e : Ev) (h2 : st.l2 x = none) (h3 : st.l3 x = false) :
    (failAt (addLog sc (push st x) x e) x).l2 = (failAt st x).l2 ∧
    (failAt (addLog sc (push st x) x e) x).l3 = (failAt st x).l3 := by
  have on : ∀ n, onStack (push st x) n = (x == n || onStack st n) := fun n => rfl
  constructor <;> funext n <;> simp only [failAt, addLog_l2, addLog_l3, onStack_addLog, on] <;> by_cases hnx : x = n
  · subst hnx; simp [h2]
  · simp [hnx, push]
  · subst hnx; simp [h3]
  · simp [hnx, push, upd, Ne.symm hnx]

/-- where a `doGetComponent` call comes from: the boot list, the refresh list, or the current candidate of the top frame -/
inductive Src (sc : Scen) (st : St) : St → Nat → Prop
  | boot (n : Nat) (t : List Nat) (hs : st.stack = []) (hb : st.todoBoot = n :: t) :
      Src sc st { st with todoBoot := t, stage := .factory } n
  | todo (n : Nat) (t : List Nat) (hs : st.stack = []) (hb : st.todoBoot = []) (ht : st.todo = n :: t) :
      Src sc st { st with todo := t, stage := .refresh } n
  | cand (f : Frame) (rest : List Frame) (hs : st.stack = f :: rest) (hp : f.p < (pts sc f.name).length)
      (hd : f.d < ((pts sc f.name)[f.p]).cands.length) :
      Src sc st st (((pts sc f.name)[f.p]).cands[f.d])

/-- a `doGetComponent` call takes its component off the work lists, if that is where it came from; nothing else -/
theorem Src.eq {sc : Scen} {st st0 : St} {c : Nat} (h : Src sc st st0 c) :
    ∃ tb t sg, st0 = { st with todoBoot := tb, todo := t, stage := sg } := by
  cases h with
  | boot n t hs hb => exact ⟨t, st.todo, .factory, rfl⟩
  | todo n t hs hb ht => exact ⟨st.todoBoot, t, .refresh, rfl⟩
  | cand f rest hs hp hd => exact ⟨st.todoBoot, st.todo, st.stage, rfl⟩

/-- which object `n` is published as, given the early level (the version check, factory.go:222-247): what
    InitializeComponent returned, or the early reference when the instance was not replaced -/
def _root_.Ioc.M2.PubCond (sc : Scen) (s : St) (n : Nat) (pub : Obj) : Prop :=
  (s.l2 n = none ∧ pub = initResult sc n) ∨
  (∃ e, s.l2 n = some e ∧
    ((initResult sc n = raw n ∧ pub = e) ∨
     (initResult sc n ≠ raw n ∧ finishedHolderHas sc s e = false ∧ pub = initResult sc n)))

theorem _root_.Ioc.M2.PubCond.name_of {sc : Scen} {s : St} {n : Nat} {pub : Obj} (h : PubCond sc s n pub)
    (hi : (initResult sc n).name = n) (h2 : ∀ e, s.l2 n = some e → e.name = n) : pub.name = n := by
  rcases h with ⟨_, rfl⟩ | ⟨e, he, ⟨_, rfl⟩ | ⟨_, _, rfl⟩⟩
  · exact hi
  · exact h2 _ he
  · exact hi

/-- the events written when a creation is entered (newest first) -/
def partLog (sc : Scen) (n : Nat) : List Ev := if sc.wired n then [.conf n, .new n] else []

/-- A step that fails: why, at which name `x`, and the state `s` in which everything in creation is then abandoned.
    (`tb`, `t`, `sg`: the work lists and the stage once the component asked for has been taken off, see `Src`.) -/
inductive Fault (sc : Scen) (st : St) : St → Nat → Prop
  | early (tb t : List Nat) (sg : Stage) (c : Nat) (src : Src sc st { st with todoBoot := tb, todo := t, stage := sg } c)
      (h1 : st.l1 c = none) (h2 : st.l2 c = none) (h3 : st.l3 c = true) (hf : sc.fEarly c = true) :
      Fault sc st (addLog sc { st with todoBoot := tb, todo := t, stage := sg } c (.early c)) c
  | unknown (tb t : List Nat) (sg : Stage) (c : Nat)
      (src : Src sc st { st with todoBoot := tb, todo := t, stage := sg } c)
      (h1 : st.l1 c = none) (h2 : st.l2 c = none) (h3 : st.l3 c = false) (hn : c ∉ sc.names) :
      Fault sc st { st with todoBoot := tb, todo := t, stage := sg } c
  | config (tb t : List Nat) (sg : Stage) (c : Nat)
      (src : Src sc st { st with todoBoot := tb, todo := t, stage := sg } c)
      (h1 : st.l1 c = none) (h2 : st.l2 c = none) (h3 : st.l3 c = false) (hn : c ∈ sc.names) (hw : sc.wired c = true)
      (hbad : sc.cfgOk c = false ∨ sc.points c = none) :
      Fault sc st (addLog sc (push { st with todoBoot := tb, todo := t, stage := sg } c) c (.new c)) c
  | inject (f : Frame) (rest : List Frame) (hs : st.stack = f :: rest) (hp : f.p < (pts sc f.name).length)
      (hd : ¬ f.d < ((pts sc f.name)[f.p]).cands.length) (hne : ((pts sc f.name)[f.p]).cands ≠ [])
      (hreq : ((pts sc f.name)[f.p]).required = true)
      (hwhy : metasOf f = [] ∨ (metasOf f).any (fun o => ((pts sc f.name)[f.p]).incompat.contains o.name) = true) :
      Fault sc st st f.name
  | finish (f : Frame) (rest : List Frame) (hs : st.stack = f :: rest) (hp : ¬ f.p < (pts sc f.name).length)
      (hwhy : (initCallbacks sc st f.name).2 = false ∨
        ∃ e, st.l2 f.name = some e ∧ initResult sc f.name ≠ raw f.name ∧ finishedHolderHas sc st e = true) :
      Fault sc st (initCallbacks sc st f.name).1 f.name

/-- One step from a running state: nothing is left to do; the component asked for is in the cache (`hit`) or its early
    reference is made now (`promote`), and the caller's frame receives it; a creation is entered; the top frame is
    through with a point; the step fails; the top frame is published and its caller receives it. -/
inductive StepR (sc : Scen) (st : St) : St → Prop
  | done (hs : st.stack = []) (hb : st.todoBoot = []) (ht : st.todo = []) : StepR sc st { st with status := .done }
  | hit (tb t : List Nat) (sg : Stage) (c : Nat) (src : Src sc st { st with todoBoot := tb, todo := t, stage := sg } c)
      (o : Obj) (h : st.l1 c = some o ∨ (st.l1 c = none ∧ st.l2 c = some o)) :
      StepR sc st { st with todoBoot := tb, todo := t, stage := sg, stack := bump st.stack o }
  | promote (tb t : List Nat) (sg : Stage) (c : Nat)
      (src : Src sc st { st with todoBoot := tb, todo := t, stage := sg } c)
      (h1 : st.l1 c = none) (h2 : st.l2 c = none) (h3 : st.l3 c = true) (hf : sc.fEarly c = false) :
      StepR sc st { addLog sc { st with todoBoot := tb, todo := t, stage := sg } c (.early c) with
        l2 := upd st.l2 c (some (sc.earlyO c)), l3 := upd st.l3 c false, stack := bump st.stack (sc.earlyO c) }
  | enter (tb t : List Nat) (sg : Stage) (c : Nat) (src : Src sc st { st with todoBoot := tb, todo := t, stage := sg } c)
      (h1 : st.l1 c = none) (h2 : st.l2 c = none) (h3 : st.l3 c = false) (hn : c ∈ sc.names)
      (hok : sc.wired c = true → sc.cfgOk c = true ∧ sc.points c ≠ none)
      (s : St) (hs : SameButLog s (push { st with todoBoot := tb, todo := t, stage := sg } c))
      (hl : s.log = (if sc.logged c then partLog sc c else []) ++ st.log) : StepR sc st s
  | next (f : Frame) (rest : List Frame) (hs : st.stack = f :: rest) (hp : f.p < (pts sc f.name).length)
      (hd : ¬ f.d < ((pts sc f.name)[f.p]).cands.length) (flds : Nat → Nat → List Obj)
      (hf : (flds = st.fields ∧ (((pts sc f.name)[f.p]).cands = [] ∨
          (((pts sc f.name)[f.p]).required = false ∧
            (metasOf f = [] ∨ (metasOf f).any (fun o => ((pts sc f.name)[f.p]).incompat.contains o.name) = true)))) ∨
        (flds = upd2 st.fields f.name f.p (if ((pts sc f.name)[f.p]).slice then metasOf f else (metasOf f).take 1) ∧
          ((pts sc f.name)[f.p]).cands ≠ [] ∧ metasOf f ≠ [] ∧
          (metasOf f).any (fun o => ((pts sc f.name)[f.p]).incompat.contains o.name) = false)) :
      StepR sc st { st with fields := flds, stack := advance f :: rest }
  | fail (s : St) (x : Nat) (why : Fault sc st s x) : StepR sc st (failAt s x)
  | publish (f : Frame) (rest : List Frame) (hs : st.stack = f :: rest) (hp : ¬ f.p < (pts sc f.name).length)
      (hcb : (initCallbacks sc st f.name).2 = true) (pub : Obj)
      (hpub : PubCond sc st f.name pub) :
      StepR sc st (publish (initCallbacks sc st f.name).1 f.name pub rest)

/-- GetSingleton, case by case -/
theorem lookup_eq (sc : Scen) (st : St) (c : Nat) :
    (∃ o, (st.l1 c = some o ∨ (st.l1 c = none ∧ st.l2 c = some o)) ∧ lookup sc st c = .hit o st) ∨
    (st.l1 c = none ∧ st.l2 c = none ∧ st.l3 c = true ∧ sc.fEarly c = true ∧
      lookup sc st c = .err (addLog sc st c (.early c))) ∨
    (st.l1 c = none ∧ st.l2 c = none ∧ st.l3 c = true ∧ sc.fEarly c = false ∧
      lookup sc st c = .hit (sc.earlyO c) { addLog sc st c (.early c) with
        l2 := upd st.l2 c (some (sc.earlyO c)), l3 := upd st.l3 c false }) ∨
    (st.l1 c = none ∧ st.l2 c = none ∧ st.l3 c = false ∧ lookup sc st c = .miss) := by
  unfold lookup
  cases h1 : st.l1 c with
  | some o => exact Or.inl ⟨o, Or.inl rfl, rfl⟩
  | none =>
    cases h2 : st.l2 c with
    | some o => exact Or.inl ⟨o, Or.inr ⟨rfl, rfl⟩, rfl⟩
    | none =>
      cases h3 : st.l3 c with
      | false => simp
      | true =>
        cases hf : sc.fEarly c with
        | true => simp
        | false => simp

theorem lookup_hit_stack {sc : Scen} {st s : St} {c : Nat} {o : Obj} (hl : lookup sc st c = .hit o s) :
    s.stack = st.stack := by
  rcases lookup_eq sc st c with ⟨_, _, he⟩ | ⟨_, _, _, _, he⟩ | ⟨_, _, _, _, he⟩ | ⟨_, _, _, he⟩ <;>
    rw [he] at hl <;> cases hl <;> simp

/-- createComponent up to ResolveAfterInstantiation, case by case -/
theorem enter_eq (sc : Scen) (st : St) (c : Nat) :
    (c ∉ sc.names ∧ enter sc st c = failAt st c) ∨
    (c ∈ sc.names ∧ sc.wired c = false ∧ enter sc st c = push st c) ∨
    (c ∈ sc.names ∧ sc.wired c = true ∧ (sc.cfgOk c = false ∨ sc.points c = none) ∧
      enter sc st c = failAt (addLog sc (push st c) c (.new c)) c) ∨
    (c ∈ sc.names ∧ sc.wired c = true ∧ sc.cfgOk c = true ∧ sc.points c ≠ none ∧
      enter sc st c = addLog sc (addLog sc (push st c) c (.new c)) c (.conf c)) := by
  unfold enter
  by_cases hn : c ∈ sc.names
  · cases hw : sc.wired c with
    | false => simp [hn, push]
    | true =>
      cases hc : sc.cfgOk c with
      | false => simp [hn, push]
      | true =>
        cases hp : sc.points c with
        | none => simp [hn, push]
        | some ps => simp [hn, push]
  · simp [hn]

theorem step_not_running (sc : Scen) (st : St) (h : st.status ≠ .running) : step sc st = st := by
  unfold step
  split
  · rename_i h'; exact absurd h' h
  · rfl

theorem step_done (sc : Scen) (st : St) (hr : st.status = .running) (hs : st.stack = []) (hb : st.todoBoot = [])
    (ht : st.todo = []) : step sc st = { st with status := .done } := by
  unfold step
  simp only [hr, hs, hb, ht]

/-- the three places that call doGetComponent -/
theorem step_visit {sc : Scen} {st st0 : St} {c : Nat} (src : Src sc st st0 c) (hr : st.status = .running) :
    step sc st = match lookup sc st0 c with
      | .hit o s => { s with stack := bump st0.stack o }
      | .err s => failAt s c
      | .miss => enter sc st0 c := by
  -- with an empty stack there is no caller's frame to receive the object
  have top : ∀ (o : Obj) (s : St), s.stack = [] → s = { s with stack := bump [] o } := by
    intro o s h
    obtain ⟨_, _, _, stk, _, _, _, _, _, _⟩ := s
    cases (h : stk = [])
    rfl
  cases src with
  | boot n t hs hb =>
    unfold step
    simp only [hr, hs, hb]
    generalize hl : lookup sc _ c = L
    cases L with
    | hit o s => exact top o s (lookup_hit_stack hl)
    | err s => rfl
    | miss => rfl
  | todo n t hs hb ht =>
    unfold step
    simp only [hr, hs, hb, ht]
    generalize hl : lookup sc _ c = L
    cases L with
    | hit o s => exact top o s (lookup_hit_stack hl)
    | err s => rfl
    | miss => rfl
  | cand f rest hs hp hd =>
    unfold step
    simp only [hr, hs, hp, hd, dite_true]
    rfl

/-- Inject for a point all of whose candidates have been obtained (property.go:57-110); it is only called when the
    point has candidates at all -/
theorem step_inject (sc : Scen) (st : St) (f : Frame) (rest : List Frame) (hr : st.status = .running)
    (hs : st.stack = f :: rest) (hp : f.p < (pts sc f.name).length) (hd : ¬ f.d < ((pts sc f.name)[f.p]).cands.length) :
    step sc st =
      (if (pts sc f.name)[f.p].cands.isEmpty = true then { st with stack := advance f :: rest }
       else if (metasOf f).isEmpty = true then
         (if (pts sc f.name)[f.p].required = true then failAt st f.name else { st with stack := advance f :: rest })
       else if ((metasOf f).any fun o => (pts sc f.name)[f.p].incompat.contains o.name) = true then
         (if (pts sc f.name)[f.p].required = true then failAt st f.name else { st with stack := advance f :: rest })
       else { st with
         fields := upd2 st.fields f.name f.p (if ((pts sc f.name)[f.p]).slice then metasOf f else (metasOf f).take 1),
         stack := advance f :: rest }) := by
  unfold step
  simp only [hr, hs, hp, hd, dite_true, dite_false]
  rfl

/-- the same by cases: the point is left unset, or the start fails, or the field is written -/
theorem step_inject_cases (sc : Scen) (st : St) (f : Frame) (rest : List Frame) (hr : st.status = .running)
    (hs : st.stack = f :: rest) (hp : f.p < (pts sc f.name).length) (hd : ¬ f.d < ((pts sc f.name)[f.p]).cands.length) :
    (step sc st = { st with stack := advance f :: rest } ∧
      (((pts sc f.name)[f.p]).cands = [] ∨
        (((pts sc f.name)[f.p]).required = false ∧
          (metasOf f = [] ∨ (metasOf f).any (fun o => ((pts sc f.name)[f.p]).incompat.contains o.name) = true)))) ∨
    (step sc st = failAt st f.name ∧ ((pts sc f.name)[f.p]).cands ≠ [] ∧ ((pts sc f.name)[f.p]).required = true ∧
      (metasOf f = [] ∨ (metasOf f).any (fun o => ((pts sc f.name)[f.p]).incompat.contains o.name) = true)) ∨
    (step sc st = { st with
        fields := upd2 st.fields f.name f.p (if ((pts sc f.name)[f.p]).slice then metasOf f else (metasOf f).take 1),
        stack := advance f :: rest } ∧
      ((pts sc f.name)[f.p]).cands ≠ [] ∧ metasOf f ≠ [] ∧
      (metasOf f).any (fun o => ((pts sc f.name)[f.p]).incompat.contains o.name) = false) := by
  rw [step_inject sc st f rest hr hs hp hd]
  by_cases hc : (pts sc f.name)[f.p].cands = []
  · exact .inl ⟨by simp [hc], .inl hc⟩
  by_cases hm : metasOf f = []
  · cases (pts sc f.name)[f.p].required
    · exact .inl ⟨by simp [hc, hm], .inr ⟨rfl, .inl hm⟩⟩
    · exact .inr (.inl ⟨by simp [hc, hm], hc, rfl, .inl hm⟩)
  cases (metasOf f).any fun o => (pts sc f.name)[f.p].incompat.contains o.name
  · exact .inr (.inr ⟨by simp [hc, hm], hc, hm, rfl⟩)
  · cases (pts sc f.name)[f.p].required
    · exact .inl ⟨by simp [hc, hm], .inr ⟨rfl, .inr rfl⟩⟩
    · exact .inr (.inl ⟨by simp [hc, hm], hc, rfl, .inr rfl⟩)

/-- the callbacks and the version check of doCreateComponent (factory.go:222-247), read in the state before the callbacks -/
theorem step_finish (sc : Scen) (st : St) (f : Frame) (rest : List Frame) (hr : st.status = .running)
    (hs : st.stack = f :: rest) (hp : ¬ f.p < (pts sc f.name).length) :
    step sc st =
      if (initCallbacks sc st f.name).2 = false then failAt (initCallbacks sc st f.name).1 f.name else
      match st.l2 f.name with
      | none => publish (initCallbacks sc st f.name).1 f.name (initResult sc f.name) rest
      | some e =>
        if initResult sc f.name = raw f.name then publish (initCallbacks sc st f.name).1 f.name e rest
        else if finishedHolderHas sc st e = true then failAt (initCallbacks sc st f.name).1 f.name
        else publish (initCallbacks sc st f.name).1 f.name (initResult sc f.name) rest := by
  have same := initCallbacks_same sc st f.name
  unfold step
  simp only [hr, hs, hp, dite_false, same.l2, finishedHolderHas_same sc _ st _ same]
  cases (initCallbacks sc st f.name).2 <;> rfl

theorem step_rel (sc : Scen) (st : St) (hrun : st.status = .running) : StepR sc st (step sc st) := by
  have visit : ∀ st0 c, Src sc st st0 c → StepR sc st (step sc st) := by
    intro st0 c src
    rw [step_visit src hrun]
    obtain ⟨tb, t, sg, rfl⟩ := src.eq
    rcases lookup_eq sc _ c with ⟨o, h, he⟩ | ⟨h1, h2, h3, hf, he⟩ | ⟨h1, h2, h3, hf, he⟩ | ⟨h1, h2, h3, he⟩
    · rw [he]; exact .hit tb t sg c src o h
    · rw [he]; exact .fail _ c (.early tb t sg c src h1 h2 h3 hf)
    · rw [he]; exact .promote tb t sg c src h1 h2 h3 hf
    · rw [he]
      rcases enter_eq sc _ c with ⟨hn, ee⟩ | ⟨hn, hw, ee⟩ | ⟨hn, hw, hbad, ee⟩ | ⟨hn, hw, hcfg, hpts, ee⟩
      · rw [ee]; exact .fail _ c (.unknown tb t sg c src h1 h2 h3 hn)
      · rw [ee]
        exact .enter tb t sg c src h1 h2 h3 hn (fun h => by rw [hw] at h; cases h) _ (.refl _)
          (by simp [partLog, hw, push])
      · rw [ee]; exact .fail _ c (.config tb t sg c src h1 h2 h3 hn hw hbad)
      · rw [ee]
        refine .enter tb t sg c src h1 h2 h3 hn (fun _ => ⟨hcfg, hpts⟩) _ ((addLog_same ..).trans (addLog_same ..)) ?_
        simp only [addLog_log, partLog, hw, push]; cases sc.logged c <;> rfl
  cases hstk : st.stack with
  | nil =>
    cases hb : st.todoBoot with
    | cons n t => exact visit _ n (Src.boot n t hstk hb)
    | nil =>
      cases ht : st.todo with
      | nil => rw [step_done sc st hrun hstk hb ht]; exact .done hstk hb ht
      | cons n t => exact visit _ n (Src.todo n t hstk hb ht)
  | cons f rest =>
    by_cases hp : f.p < (pts sc f.name).length
    · by_cases hd : f.d < ((pts sc f.name)[f.p]).cands.length
      · exact visit st _ (Src.cand f rest hstk hp hd)
      · rcases step_inject_cases sc st f rest hrun hstk hp hd with ⟨e, hwhy⟩ | ⟨e, hne, hreq, hwhy⟩ | ⟨e, hne, hm, hc⟩
        · rw [e]; exact .next f rest hstk hp hd st.fields (.inl ⟨rfl, hwhy⟩)
        · rw [e]; exact .fail st _ (.inject f rest hstk hp hd hne hreq hwhy)
        · rw [e]; exact .next f rest hstk hp hd _ (.inr ⟨rfl, hne, hm, hc⟩)
    · rw [step_finish sc st f rest hrun hstk hp]
      cases hcb : (initCallbacks sc st f.name).2 with
      | false => rw [if_pos rfl]; exact .fail _ _ (.finish f rest hstk hp (.inl hcb))
      | true =>
        rw [if_neg (by simp)]
        split
        · rename_i h2
          exact .publish f rest hstk hp hcb _ (Or.inl ⟨h2, rfl⟩)
        · rename_i e h2
          split
          · rename_i hw
            exact .publish f rest hstk hp hcb _ (Or.inr ⟨e, h2, Or.inl ⟨hw, rfl⟩⟩)
          · rename_i hw
            cases hh : finishedHolderHas sc st e with
            | true => rw [if_pos rfl]; exact .fail _ _ (.finish f rest hstk hp (.inr ⟨e, h2, hw, hh⟩))
            | false =>
              rw [if_neg (by simp)]
              exact .publish f rest hstk hp hcb _ (Or.inr ⟨e, h2, Or.inr ⟨hw, hh, rfl⟩⟩)

theorem step_inv_of_rel (sc : Scen) (I : St → Prop)
    (h : ∀ st st', I st → st.status = .running → StepR sc st st' → I st') (st : St) (hi : I st) : I (step sc st) := by
  by_cases hr : st.status = .running
  · exact h st _ hi hr (step_rel sc st hr)
  · rw [step_not_running sc st hr]; exact hi

/-- a failing step leaves the published level and the fields alone; what was in creation is cleared -/
theorem Fault.core {sc : Scen} {st s : St} {x : Nat} (w : Fault sc st s x) :
    (failAt s x).l1 = st.l1 ∧ (failAt s x).l2 = (failAt st x).l2 ∧ (failAt s x).l3 = (failAt st x).l3 ∧
    (failAt s x).fields = st.fields := by
  cases w with
  | early tb t sg c src h1 h2 h3 hf => exact failAt_same (addLog_same ..) x
  | unknown tb t sg c src h1 h2 h3 hn => exact ⟨rfl, rfl, rfl, rfl⟩
  | config tb t sg c src h1 h2 h3 hn hw hbad =>
    have := failAt_push sc { st with todoBoot := tb, todo := t, stage := sg } x (.new x) h2 h3
    exact ⟨addLog_l1 .., this.1, this.2, addLog_fields ..⟩
  | inject f rest hs hp hd hne hreq hwhy => exact ⟨rfl, rfl, rfl, rfl⟩
  | finish f rest hs hp hwhy => exact failAt_same (initCallbacks_same ..) _

/-- only Inject writes a field -/
theorem StepR.fields_eq {sc : Scen} {st st' : St} (h : StepR sc st st') :
    st'.fields = st.fields ∨
    ∃ f rest, st.stack = f :: rest ∧ ∃ _ : f.p < (pts sc f.name).length,
      st'.fields =
        upd2 st.fields f.name f.p (if ((pts sc f.name)[f.p]).slice then metasOf f else (metasOf f).take 1) := by
  cases h with
  | done hs hb ht => exact .inl rfl
  | hit tb t sg c src o h => exact .inl rfl
  | promote tb t sg c src h1 h2 h3 hf => exact .inl (addLog_fields ..)
  | enter tb t sg c src h1 h2 h3 hn hok s hs hl => exact .inl hs.fields
  | next f rest hs hp hd flds hf => exact hf.imp (·.1) fun h => ⟨f, rest, hs, hp, h.1⟩
  | fail s x why => exact .inl why.core.2.2.2
  | publish f rest hs hp hcb pub hpub => exact .inl (initCallbacks_fields ..)

/-- l1 only ever changes by a publication -/
theorem StepR.l1_eq {sc : Scen} {st st' : St} (h : StepR sc st st') :
    st'.l1 = st.l1 ∨
    ∃ f rest pub, st.stack = f :: rest ∧ PubCond sc st f.name pub ∧
      st' = M2.publish (initCallbacks sc st f.name).1 f.name pub rest := by
  cases h with
  | done hs hb ht => exact .inl rfl
  | hit tb t sg c src o h => exact .inl rfl
  | promote tb t sg c src h1 h2 h3 hf => exact .inl (addLog_l1 ..)
  | enter tb t sg c src h1 h2 h3 hn hok s hs hl => exact .inl hs.l1
  | next f rest hs hp hd flds hf => exact .inl rfl
  | fail s x why => exact .inl why.core.1
  | publish f rest hs hp hcb pub hpub => exact .inr ⟨f, rest, pub, hs, hpub, rfl⟩

/-- a step ends the start only with an empty stack; `done` only with empty work lists -/
theorem StepR.stopped {sc : Scen} {st st' : St} (h : StepR sc st st') (hr : st.status = .running)
    (hn : st'.status ≠ .running) : st'.stack = [] ∧ (st'.status = .done → st'.todoBoot = [] ∧ st'.todo = []) := by
  cases h with
  | done hs hb ht => exact ⟨hs, fun _ => ⟨hb, ht⟩⟩
  | hit | promote => exact absurd (by simp [hr]) hn
  | enter tb t sg c src h1 h2 h3 hn' hok s hs => exact absurd (by simp [hs.status, push, hr]) hn
  | next f rest hs hp hd flds hf => exact absurd hr hn
  | fail s x why => exact ⟨rfl, nofun⟩
  | publish f rest hs hp hcb pub hpub => exact absurd (by simp [M2.publish, hr]) hn

/-- The names in creation are distinct, not published, and hold an early entry (l2 or l3); no other name holds one. -/
structure Shape (st : St) : Prop where
  nodup : (snames st).Nodup
  l1_off : ∀ n ∈ snames st, st.l1 n = none
  on_has : ∀ n ∈ snames st, st.l2 n ≠ none ∨ st.l3 n = true
  off_clean : ∀ n, n ∉ snames st → st.l2 n = none ∧ st.l3 n = false

theorem Shape.congr {a b : St} (h : Shape b) (e1 : a.l1 = b.l1) (e2 : a.l2 = b.l2) (e3 : a.l3 = b.l3)
    (es : snames a = snames b) : Shape a :=
  ⟨es ▸ h.nodup, by rw [es, e1]; exact h.l1_off, by rw [es, e2, e3]; exact h.on_has,
    by rw [es, e2, e3]; exact h.off_clean⟩

/-- a lookup miss means the name is not in creation -/
theorem Shape.miss_off {st : St} (h : Shape st) {c : Nat} (h2 : st.l2 c = none) (h3 : st.l3 c = false) :
    c ∉ snames st := fun hc => (h.on_has c hc).elim (· h2) fun h => by rw [h3] at h; cases h

/-- an early reference or an early-reference factory belongs to a name in creation -/
theorem Shape.on_of_has {st : St} (h : Shape st) {c : Nat} (hc : st.l2 c ≠ none ∨ st.l3 c = true) : c ∈ snames st :=
  Classical.byContradiction fun hn => hc.elim (· (h.off_clean c hn).1) fun h3 => by rw [(h.off_clean c hn).2] at h3; cases h3

theorem Shape.push {st : St} (h : Shape st) {c : Nat} (h1 : st.l1 c = none) (h2 : st.l2 c = none)
    (h3 : st.l3 c = false) : Shape (push st c) := by
  have hoff := h.miss_off h2 h3
  refine ⟨List.nodup_cons.2 ⟨hoff, h.nodup⟩, List.forall_mem_cons.2 ⟨h1, h.l1_off⟩, fun n hn => ?_, fun n hn => ?_⟩
  · by_cases hnc : n = c
    · subst hnc; exact .inr (upd_same ..)
    · simpa [Lc.push, hnc] using h.on_has n ((List.mem_cons.1 hn).resolve_left hnc)
  · have hn : n ≠ c ∧ n ∉ snames st := by simpa using hn
    simpa [Lc.push, hn.1] using h.off_clean n hn.2

/-- the early-reference move l3 → l2 for a name in creation -/
theorem Shape.promote {st s : St} (h : Shape st) {c : Nat} {e : Obj} (h3 : st.l3 c = true) (hs : snames s = snames st)
    (e1 : s.l1 = st.l1) (e2 : s.l2 = upd st.l2 c (some e)) (e3 : s.l3 = upd st.l3 c false) : Shape s := by
  refine ⟨hs ▸ h.nodup, by rw [hs, e1]; exact h.l1_off, fun n hn => ?_, fun n hn => ?_⟩ <;> rw [hs] at hn <;>
    rw [e2, e3]
  · by_cases hnc : n = c
    · subst hnc; left; simp
    · simpa [hnc] using h.on_has n hn
  · have hnc : n ≠ c := fun e => hn (e ▸ h.on_of_has (.inr h3))
    simpa [hnc] using h.off_clean n hn

/-- AddSingleton for the top frame; the frames below stay -/
theorem Shape.pop {st s : St} (h : Shape st) {f : Frame} {rest : List Frame} {pub : Obj} (hs : st.stack = f :: rest)
    (hsn : snames s = rest.map (·.name)) (e1 : s.l1 = upd st.l1 f.name (some pub)) (e2 : s.l2 = upd st.l2 f.name none)
    (e3 : s.l3 = upd st.l3 f.name false) : Shape s := by
  have hsn0 : snames st = f.name :: rest.map (·.name) := by simp [snames, hs]
  have hnd := h.nodup
  rw [hsn0] at hnd
  obtain ⟨hnot, hnd⟩ := List.nodup_cons.mp hnd
  have below : ∀ n ∈ rest.map (·.name), n ≠ f.name ∧ n ∈ snames st :=
    fun n hn => ⟨fun h => hnot (h ▸ hn), by rw [hsn0]; exact List.mem_cons_of_mem _ hn⟩
  refine ⟨hsn ▸ hnd, fun n hn => ?_, fun n hn => ?_, fun n hn => ?_⟩ <;> rw [hsn] at hn
  · rw [e1, upd_other _ _ _ _ (below n hn).1]
    exact h.l1_off n (below n hn).2
  · rw [e2, e3, upd_other _ _ _ _ (below n hn).1, upd_other _ _ _ _ (below n hn).1]
    exact h.on_has n (below n hn).2
  · rw [e2, e3]
    by_cases hne : n = f.name
    · subst hne; simp
    · rw [upd_other _ _ _ _ hne, upd_other _ _ _ _ hne]
      exact h.off_clean n (by rw [hsn0]; simp [hn, hne])

/-- a failure: every creation in progress is abandoned and its cache entries are removed -/
theorem Shape.fail {st : St} (h : Shape st) (x : Nat) : Shape (failAt st x) := by
  refine ⟨List.nodup_nil, nofun, nofun, fun n _ => ?_⟩
  by_cases hn : n ∈ snames st
  · simp [failAt, (onStack_iff st n).2 hn]
  · simp [failAt, h.off_clean n hn]

theorem shape_stepR {sc : Scen} {st st' : St} (h : Shape st) (hstep : StepR sc st st') : Shape st' := by
  cases hstep with
  | done hs hb ht => exact h.congr rfl rfl rfl rfl
  | hit tb t sg c src o ho => exact h.congr rfl rfl rfl (snames_bump ..)
  | promote tb t sg c src h1 h2 h3 hf => exact h.promote h3 (snames_bump ..) (addLog_l1 ..) rfl rfl
  | enter tb t sg c src h1 h2 h3 hn hok s hs hl =>
    exact (h.push h1 h2 h3).congr hs.l1 hs.l2 hs.l3 (congrArg (List.map Frame.name) hs.stack)
  | next f rest hs hp hd flds hf => exact h.congr rfl rfl rfl (congrArg (List.map Frame.name) hs).symm
  | fail s x why => exact (h.fail x).congr why.core.1 why.core.2.1 why.core.2.2.1 rfl
  | publish f rest hs hp hcb pub hpub =>
    exact h.pop hs (snames_publish ..) (congrArg (upd · f.name (some pub)) (initCallbacks_l1 ..))
      (congrArg (upd · f.name none) (initCallbacks_l2 ..)) (congrArg (upd · f.name false) (initCallbacks_l3 ..))

/-- a published cache entry never changes -/
theorem StepR.l1_stable {sc : Scen} {st st' : St} (h : StepR sc st st') (sh : Shape st) {n : Nat}
    (hp : st.l1 n ≠ none) : st'.l1 n = st.l1 n := by
  rcases h.l1_eq with e | ⟨f, rest, pub, hs, _, rfl⟩
  · rw [e]
  · have : n ≠ f.name := fun e => hp (e ▸ sh.l1_off _ (by simp [snames, hs]))
    simp [M2.publish, upd, this]

theorem run_succ (sc : Scen) (k : Nat) (st : St) : run sc (k + 1) st = step sc (run sc k st) := by
  induction k generalizing st with
  | zero => rfl
  | succ k ih => rw [run, ih (step sc st)]; rfl

theorem run_inv (sc : Scen) (I : St → Prop) (hstep : ∀ st, I st → I (step sc st)) (k : Nat) (st : St) (h : I st) :
    I (run sc k st) := by
  induction k generalizing st with
  | zero => exact h
  | succ k ih => exact ih _ (hstep st h)

theorem run_not_running (sc : Scen) (k : Nat) (st : St) (h : st.status ≠ .running) : run sc k st = st := by
  induction k with
  | zero => rfl
  | succ k ih => rw [run_succ, ih, step_not_running sc st h]

end Ioc.M2.Lc
