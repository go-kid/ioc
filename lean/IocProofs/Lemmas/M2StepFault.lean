/-
  Local step facts for C09: what `step` does at each place where something can fail, the characterisation of a
  failing callback chain, the exhaustive list of failure causes, and the stability / cleanliness of a failed state.
-/
import IocProofs.Lemmas.M2StepInv
namespace Ioc.M2.Lc
open Ioc.M2

theorem step_visit_err (sc : Scen) (st st0 : St) (c : Nat) (src : Src sc st st0 c) (hr : st.status = .running)
    (s : St) (h : lookup sc st0 c = .err s) : step sc st = failAt s c := by
  rw [step_visit src hr, h]

theorem step_visit_miss (sc : Scen) (st st0 : St) (c : Nat) (src : Src sc st st0 c) (hr : st.status = .running)
    (h : lookup sc st0 c = .miss) : step sc st = enter sc st0 c := by
  rw [step_visit src hr, h]

theorem step_cbFail (sc : Scen) (st : St) (f : Frame) (rest : List Frame) (hr : st.status = .running)
    (hs : st.stack = f :: rest) (hp : ¬ f.p < (pts sc f.name).length) (hcb : (initCallbacks sc st f.name).2 = false) :
    step sc st = failAt (initCallbacks sc st f.name).1 f.name := by
  rw [step_finish sc st f rest hr hs hp, if_pos hcb]

/-- some initialization callback of `n` reports an error (the post-processor callbacks only when they are wired) -/
def CbFault (sc : Scen) (n : Nat) : Prop :=
  (sc.wired n = true ∧ sc.fBefore n = true) ∨ sc.fAps n = true ∨ sc.fInit n = true ∨
  (sc.wired n = true ∧ sc.fAfter n = true)

theorem initCallbacks_snd (sc : Scen) (st : St) (n : Nat) : (initCallbacks sc st n).2 = false ↔ CbFault sc n := by
  unfold initCallbacks CbFault
  cases sc.wired n <;> cases sc.fBefore n <;> cases sc.fAps n <;> cases sc.fInit n <;> cases sc.fAfter n <;> simp

theorem enter_fault (sc : Scen) (st : St) (c : Nat) (hn : c ∈ sc.names) (hw : sc.wired c = true)
    (hbad : sc.cfgOk c = false ∨ sc.points c = none) : (enter sc st c).status = .failed c st.stage := by
  rcases enter_eq sc st c with ⟨h, _⟩ | ⟨_, h, _⟩ | ⟨_, _, _, e⟩ | ⟨_, _, h1, h2, _⟩
  · exact absurd hn h
  · rw [hw] at h; cases h
  · rw [e]; simp [failAt, push]
  · rcases hbad with h | h
    · rw [h] at h1; cases h1
    · exact absurd h h2

theorem enter_unknown (sc : Scen) (st : St) (c : Nat) (hn : c ∉ sc.names) :
    (enter sc st c).status = .failed c st.stage := by
  simp [enter, hn, failAt]

theorem lookup_fault (sc : Scen) (st : St) (c : Nat) (h1 : st.l1 c = none) (h2 : st.l2 c = none)
    (h3 : st.l3 c = true) (hf : sc.fEarly c = true) :
    lookup sc st c = .err (addLog sc st c (.early c)) ∧
    (failAt (addLog sc st c (.early c)) c).status = .failed c st.stage := by
  constructor
  · simp [lookup, h1, h2, h3, hf]
  · simp [failAt]

theorem lookup_miss (sc : Scen) (st : St) (c : Nat) (h1 : st.l1 c = none) (h2 : st.l2 c = none)
    (h3 : st.l3 c = false) : lookup sc st c = .miss := by
  simp [lookup, h1, h2, h3]

/-- everything that can make a running start fail in one step, as a property of the state before the step -/
def FailureCause (sc : Scen) (st : St) (x : Nat) : Prop :=
  x ∉ sc.names ∨
  (sc.wired x = true ∧ (sc.cfgOk x = false ∨ sc.points x = none)) ∨
  (sc.fEarly x = true ∧ st.l3 x = true) ∨
  (∃ f rest, st.stack = f :: rest ∧ f.name = x ∧ ∃ hp : f.p < (pts sc f.name).length,
    ((pts sc f.name)[f.p]).required = true ∧ ((pts sc f.name)[f.p]).cands ≠ [] ∧
    ¬ f.d < ((pts sc f.name)[f.p]).cands.length ∧
    ((∀ o ∈ f.acc, o.name = x) ∨ (∃ o ∈ f.acc, o.name ≠ x ∧ o.name ∈ ((pts sc f.name)[f.p]).incompat))) ∨
  (∃ f rest, st.stack = f :: rest ∧ f.name = x ∧ ¬ f.p < (pts sc x).length ∧
    (CbFault sc x ∨ (initResult sc x ≠ raw x ∧ ∃ e, st.l2 x = some e ∧ finishedHolderHas sc st e = true)))

theorem failure_cause_rel (sc : Scen) (st st' : St) (x : Nat) (s : Stage) (hr : st.status = .running)
    (h : StepR sc st st') (hf : st'.status = .failed x s) : FailureCause sc st x := by
  cases h with
  | done hs hb ht => cases hf
  | hit | promote => simp [hr] at hf
  | enter tb t sg c src h1 h2 h3 hn hok _ hs => simp [hs.status, push, hr] at hf
  | next f rest hs hp hd flds => simp [hr] at hf
  | publish f rest hs hp hcb pub hpub => simp [publish, hr] at hf
  | fail s' y why =>
    cases hf
    cases why with
    | early tb t sg _ src h1 h2 h3 hf' => exact .inr (.inr (.inl ⟨hf', h3⟩))
    | unknown tb t sg _ src h1 h2 h3 hn => exact .inl hn
    | config tb t sg _ src h1 h2 h3 hn hw hbad => exact .inr (.inl ⟨hw, hbad⟩)
    | inject f rest hs hp hd hne hreq hwhy =>
      refine .inr (.inr (.inr (.inl ⟨f, rest, hs, rfl, hp, hreq, hne, hd, ?_⟩)))
      rcases hwhy with h | h
      · left
        intro o ho
        have := List.filter_eq_nil_iff.mp h o ho
        simpa using this
      · right
        obtain ⟨o, ho, hc⟩ := List.any_eq_true.mp h
        have hm := List.mem_filter.mp ho
        exact ⟨o, hm.1, by simpa using hm.2, by simpa using hc⟩
    | finish f rest hs hp hwhy =>
      exact .inr (.inr (.inr (.inr ⟨f, rest, hs, rfl, hp,
        hwhy.imp (initCallbacks_snd sc st f.name).mp fun ⟨e, he, hw, hh⟩ => ⟨hw, e, he, hh⟩⟩)))

theorem failure_cause (sc : Scen) (st : St) (x : Nat) (s : Stage) (hr : st.status = .running)
    (hf : (step sc st).status = .failed x s) : FailureCause sc st x :=
  failure_cause_rel sc st _ x s hr (step_rel sc st hr) hf

/-- a failed start stays as it is, has no creation in progress and no early cache entry -/
theorem failed_final (sc : Scen) (k : Nat) (x : Nat) (s : Stage) (h : (run sc k (init sc)).status = .failed x s) :
    (∀ m, run sc (k + m) (init sc) = run sc k (init sc)) ∧ (run sc k (init sc)).stack = [] ∧
    ∀ n, (run sc k (init sc)).l2 n = none ∧ (run sc k (init sc)).l3 n = false := by
  have hi := inv_run sc k
  have hnr : (run sc k (init sc)).status ≠ .running := by rw [h]; intro h'; cases h'
  have hq := hi.quiet hnr
  refine ⟨fun m => by rw [run_add, run_not_running sc m _ hnr], hq, fun n => hi.off_clean n (by simp [snames, hq])⟩

/-- an optional point never fails the start; when nothing usable was collected no field is written -/
theorem optional_step (sc : Scen) (st : St) (f : Frame) (rest : List Frame) (hr : st.status = .running)
    (hs : st.stack = f :: rest) (hp : f.p < (pts sc f.name).length)
    (hd : ¬ f.d < ((pts sc f.name)[f.p]).cands.length) (hopt : ((pts sc f.name)[f.p]).required = false) :
    (step sc st).status = .running ∧
    ((metasOf f = [] ∨ (metasOf f).any (fun o => ((pts sc f.name)[f.p]).incompat.contains o.name) = true) →
      (step sc st).fields = st.fields) := by
  rcases step_inject_cases sc st f rest hr hs hp hd with ⟨e, _⟩ | ⟨_, _, hreq, _⟩ | ⟨e, _, hm, hc⟩
  · rw [e]; exact ⟨hr, fun _ => rfl⟩
  · rw [hopt] at hreq; cases hreq
  · rw [e]
    refine ⟨hr, fun h => ?_⟩
    rcases h with h | h
    · exact absurd h hm
    · rw [hc] at h; cases h

/-- a required point that collected nothing usable fails the start at its holder -/
theorem required_step (sc : Scen) (st : St) (f : Frame) (rest : List Frame) (hr : st.status = .running)
    (hs : st.stack = f :: rest) (hp : f.p < (pts sc f.name).length)
    (hd : ¬ f.d < ((pts sc f.name)[f.p]).cands.length) (hreq : ((pts sc f.name)[f.p]).required = true)
    (hne : ((pts sc f.name)[f.p]).cands ≠ [])
    (h : metasOf f = [] ∨ (metasOf f).any (fun o => ((pts sc f.name)[f.p]).incompat.contains o.name) = true) :
    step sc st = failAt st f.name := by
  rcases step_inject_cases sc st f rest hr hs hp hd with ⟨_, hc | ⟨ho, _⟩⟩ | ⟨e, _⟩ | ⟨_, _, hm, hc⟩
  · exact absurd hc hne
  · rw [hreq] at ho; cases ho
  · exact e
  · rcases h with h | h
    · exact absurd h hm
    · rw [hc] at h; cases h

end Ioc.M2.Lc
