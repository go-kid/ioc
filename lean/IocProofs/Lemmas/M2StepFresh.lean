/-
  A field that has not been written yet holds its zero value: while the start has not failed, a non-empty field
  (n, i) belongs to a published component or to a frame of n that is already past point i.
-/
import IocProofs.Lemmas.M2StepFault
namespace Ioc.M2.Lc
open Ioc.M2

def Past (st : St) (n i : Nat) : Prop := st.l1 n ≠ none ∨ ∃ f ∈ st.stack, f.name = n ∧ i < f.p

def Fresh (st : St) : Prop := ¬ Failed st → ∀ n i, st.fields n i ≠ [] → Past st n i

theorem fresh_mono {st st' : St} (h : Fresh st) (hnf : ¬ Failed st) (hf : st'.fields = st.fields)
    (hp : ∀ n i, Past st n i → Past st' n i) : Fresh st' := by
  intro _ n i hne
  rw [hf] at hne
  exact hp n i (h hnf n i hne)

theorem past_bump {st : St} {o : Obj} {n i : Nat} (h : Past st n i) : Past { st with stack := bump st.stack o } n i :=
  h.imp_right (bump_past ..).2

theorem past_advance {st : St} {f : Frame} {rest : List Frame} (flds : Nat → Nat → List Obj) {n i : Nat}
    (hs : st.stack = f :: rest) (h : Past st n i) : Past { st with fields := flds, stack := advance f :: rest } n i := by
  rcases h with h | ⟨g, hg, hn, hlt⟩
  · exact Or.inl h
  · rw [hs] at hg
    rcases List.mem_cons.mp hg with rfl | hg
    · exact Or.inr ⟨advance g, by simp, hn, Nat.lt_succ_of_lt hlt⟩
    · exact Or.inr ⟨g, by simp [hg], hn, hlt⟩

theorem past_push {st s : St} {c n i : Nat} (hs : SameButLog s (push st c)) (h : Past st n i) : Past s n i := by
  unfold Past
  rw [hs.l1, hs.stack]
  rcases h with h | ⟨f, hf, hp⟩
  · exact Or.inl h
  · exact Or.inr ⟨f, List.mem_cons_of_mem _ hf, hp⟩

theorem fresh_fail (s : St) (x : Nat) : Fresh (failAt s x) := fun hnf => absurd ⟨x, s.stage, rfl⟩ hnf

theorem fresh_stepR (sc : Scen) (st st' : St) (h : Fresh st) (hr : st.status = .running) (hstep : StepR sc st st') :
    Fresh st' := by
  have nf := not_failed_of_running hr
  cases hstep with
  | done hs hb ht => exact fresh_mono h nf rfl (fun n i hp => hp)
  | hit tb t sg c src o ho =>
    exact fresh_mono h nf rfl (fun n i hp => past_bump hp)
  | promote tb t sg c src h1 h2 h3 hf =>
    exact fresh_mono h nf (addLog_fields ..) (fun n i hp => by simpa [Past] using past_bump (o := sc.earlyO c) hp)
  | enter tb t sg c src h1 h2 h3 hn hok s hs hl =>
    exact fresh_mono h nf hs.fields (fun n i hp => past_push hs hp)
  | next f rest hs hp hd flds hf =>
    rcases hf with ⟨rfl, _⟩ | ⟨rfl, _⟩
    · exact fresh_mono h nf rfl (fun n i hpast => past_advance st.fields hs hpast)
    · intro _ n i hne'
      by_cases hx : n = f.name ∧ i = f.p
      · obtain ⟨rfl, rfl⟩ := hx
        exact Or.inr ⟨advance f, by simp, rfl, by simp [advance]⟩
      · exact past_advance _ hs (h nf n i (by simpa [upd2, hx] using hne'))
  | fail s x why => exact fresh_fail _ _
  | publish f rest hs hp hcb pub hpub =>
    refine fresh_mono h nf (by simp [publish]) (fun n i hpast => ?_)
    by_cases hnf : n = f.name
    · exact Or.inl (by simp [publish, hnf])
    · rcases hpast with hpast | ⟨g, hg, hn, hlt⟩
      · exact Or.inl (by simpa [publish, hnf] using hpast)
      · rw [hs] at hg
        simp at hg
        rcases hg with rfl | hg
        · exact absurd hn.symm hnf
        · right
          cases rest with
          | nil => cases hg
          | cons g0 rest' =>
            simp at hg
            rcases hg with rfl | hg
            · exact ⟨{ g with d := g.d + 1, acc := g.acc ++ [pub] }, by simp [publish], hn, hlt⟩
            · exact ⟨g, by simp [publish, hg], hn, hlt⟩

theorem fresh_run (sc : Scen) (k : Nat) : Fresh (run sc k (init sc)) :=
  run_ind sc _ (fun _ n i h => by simp [init] at h) (fun st st' _ hr h a => fresh_stepR sc st st' h hr a) k

/-- the field of the point the top frame is working on has not been written yet -/
theorem Fresh.top_zero {sc : Scen} {st : St} (h : Fresh st) (hi : Inv sc st) (hr : st.status = .running) {f : Frame}
    {rest : List Frame} (hs : st.stack = f :: rest) : st.fields f.name f.p = [] := by
  refine Classical.byContradiction fun hne => ?_
  have hnd := hi.nodup
  rw [snames, hs] at hnd
  rcases h (not_failed_of_running hr) f.name f.p hne with hp | ⟨f', hf', hn, hlt⟩
  · exact hp (hi.l1_off _ (by rw [snames, hs]; exact List.mem_cons_self))
  · rcases List.mem_cons.mp (hs ▸ hf') with rfl | hf'
    · exact Nat.lt_irrefl _ hlt
    · exact (List.nodup_cons.mp hnd).1 (List.mem_map.mpr ⟨f', hf', hn⟩)

theorem current_field_zero (sc : Scen) (k : Nat) (f : Frame) (rest : List Frame)
    (hr : (run sc k (init sc)).status = .running) (hs : (run sc k (init sc)).stack = f :: rest) :
    (run sc k (init sc)).fields f.name f.p = [] :=
  (fresh_run sc k).top_zero (inv_run sc k) hr hs

end Ioc.M2.Lc
