/-
  The basic invariants of the factory machine needed by C05 / C09 / C13, proved over the step relation of M2Step:
  * `Inv`     — names in creation are distinct, not published, hold an early entry (l2 or l3); names not in creation
                hold none; a state that is not running has an empty stack; `done` has empty work lists.
  * `TodoInv` — the work lists are a suffix of boot ++ eager and every name already taken off is in creation or
                published (or the start has failed).
-/
import IocProofs.Lemmas.M2Step
namespace Ioc.M2.Lc
open Ioc.M2

def Failed (st : St) : Prop := ∃ x s, st.status = .failed x s

theorem not_failed_of_running {st : St} (h : st.status = .running) : ¬ Failed st := by
  intro ⟨x, g, h'⟩; rw [h] at h'; cases h'

theorem failed_failAt (st : St) (n : Nat) : Failed (failAt st n) := ⟨n, st.stage, rfl⟩

structure Inv (sc : Scen) (st : St) : Prop where
  nodup : (snames st).Nodup
  l1_off : ∀ n ∈ snames st, st.l1 n = none
  on_has : ∀ n ∈ snames st, st.l2 n ≠ none ∨ st.l3 n = true
  off_clean : ∀ n, n ∉ snames st → st.l2 n = none ∧ st.l3 n = false
  quiet : st.status ≠ .running → st.stack = []
  doneE : st.status = .done → st.todoBoot = [] ∧ st.todo = []

theorem inv_init (sc : Scen) : Inv sc (init sc) := by
  constructor <;> simp [init, snames]

theorem Inv.shape {sc : Scen} {st : St} (hi : Inv sc st) : Shape st := ⟨hi.nodup, hi.l1_off, hi.on_has, hi.off_clean⟩

theorem inv_stepR (sc : Scen) (st st' : St) (hi : Inv sc st) (hr : st.status = .running) (h : StepR sc st st') :
    Inv sc st' :=
  have sh := shape_stepR hi.shape h
  ⟨sh.nodup, sh.l1_off, sh.on_has, sh.off_clean, fun hn => (h.stopped hr hn).1,
    fun hd => (h.stopped hr (by rw [hd]; nofun)).2 hd⟩

theorem inv_step (sc : Scen) (st : St) (hi : Inv sc st) : Inv sc (step sc st) :=
  step_inv_of_rel sc (Inv sc) (fun st st' hi hr h => inv_stepR sc st st' hi hr h) st hi

theorem inv_run (sc : Scen) (k : Nat) : Inv sc (run sc k (init sc)) :=
  run_inv sc (Inv sc) (inv_step sc) k _ (inv_init sc)

/-- induction along a start, with the invariant at hand -/
theorem run_ind (sc : Scen) (I : St → Prop) (h0 : I (init sc))
    (h : ∀ st st', Inv sc st → st.status = .running → I st → StepR sc st st' → I st') (k : Nat) :
    I (run sc k (init sc)) := by
  induction k with
  | zero => exact h0
  | succ k ih =>
    rw [run_succ]
    by_cases hr : (run sc k (init sc)).status = .running
    · exact h _ _ (inv_run sc k) hr ih (step_rel sc _ hr)
    · rw [step_not_running sc _ hr]; exact ih

/-- entered: in creation or published -/
def Ent (st : St) (n : Nat) : Prop := n ∈ snames st ∨ st.l1 n ≠ none

/-- whatever is in creation or published stays so, unless the step fails -/
theorem StepR.ent {sc : Scen} {st st' : St} (h : StepR sc st st') (hnf : ¬ Failed st') (n : Nat) (he : Ent st n) :
    Ent st' n := by
  cases h with
  | done hs hb ht => exact he
  | hit tb t sg c src o ho => exact he.imp_left (by simp [snames])
  | promote tb t sg c src h1 h2 h3 hf => exact he.imp (by simp [snames]) (by simp)
  | enter tb t sg c src h1 h2 h3 hn hok s hs hl =>
    exact he.imp (fun h => by simp [snames, hs.stack, push, show n ∈ st.stack.map (·.name) from h]) (by rw [hs.l1]; exact id)
  | next f rest hs hp hd flds hf => exact he.imp_left (by simp [snames, hs, advance])
  | fail s x why => exact absurd (failed_failAt _ _) hnf
  | publish f rest hs hp hcb pub hpub =>
    by_cases hn : n = f.name
    · exact .inr (by simp [M2.publish, hn])
    · exact he.imp (fun h => by rw [snames_publish]; simpa [snames, hs, hn] using h) (by simp [M2.publish, upd, hn])

/-- the work lists are what is left of boot ++ eager, and every name taken off them is entered, unless the start has
    failed -/
def TodoInv (sc : Scen) (st : St) : Prop :=
  ∃ pre, sc.boot ++ sc.eager = pre ++ (st.todoBoot ++ st.todo) ∧ (¬ Failed st → ∀ n ∈ pre, Ent st n)

theorem todo_stepR (sc : Scen) (st st' : St) (hi : Inv sc st) (ht : TodoInv sc st) (hr : st.status = .running)
    (h : StepR sc st st') : TodoInv sc st' := by
  obtain ⟨pre, he, hp⟩ := ht
  have old : ¬ Failed st' → ∀ n ∈ pre, Ent st' n :=
    fun hnf n hn => h.ent hnf n (hp (not_failed_of_running hr) n hn)
  -- a component asked for from the work lists is taken off them, and is entered after the step
  have visit : ∀ {st0 : St} {c : Nat}, Src sc st st0 c → st'.todoBoot = st0.todoBoot → st'.todo = st0.todo →
      (st.stack = [] → ¬ Failed st' → Ent st' c) → TodoInv sc st' := by
    intro st0 c src hb ht' hc
    have more : ∀ {l : List Nat}, sc.boot ++ sc.eager = pre ++ c :: l → st.stack = [] →
        ∃ pre, sc.boot ++ sc.eager = pre ++ l ∧ (¬ Failed st' → ∀ n ∈ pre, Ent st' n) := fun e hs =>
      ⟨pre ++ [c], by simp [e], fun hnf n hn =>
        (List.mem_append.1 hn).elim (old hnf n) fun h => List.mem_singleton.1 h ▸ hc hs hnf⟩
    rw [TodoInv, hb, ht']
    cases src with
    | boot n t hs hb' => exact more (by simp [he, hb']) hs
    | todo n t hs hb' ht'' => exact more (by simp [he, hb', ht'']) hs
    | cand f rest hs hp hd => exact ⟨pre, he, old⟩
  cases h with
  | done hs hb ht' => exact ⟨pre, he, old⟩
  | hit tb t sg c src o ho =>
    refine visit src rfl rfl fun h0 _ => .inr ?_
    rcases ho with ho | ⟨_, ho⟩
    · simp [ho]
    · exact absurd ((hi.off_clean c (by simp [snames, h0])).1 ▸ ho) nofun
  | promote tb t sg c src h1 h2 h3 hf =>
    exact visit src (by simp) (by simp) fun h0 _ => absurd (hi.shape.on_of_has (.inr h3)) (by simp [snames, h0])
  | enter tb t sg c src h1 h2 h3 hn hok s hs hl =>
    exact visit src hs.todoBoot hs.todo fun _ _ => .inl (by simp [snames, hs.stack, push])
  | next f rest hs hp hd flds hf => exact ⟨pre, he, old⟩
  | fail s x why =>
    have hF : st.stack = [] → ¬ Failed (failAt s x) → Ent (failAt s x) x := fun _ => absurd (failed_failAt s x)
    cases why with
    | early tb t sg _ src => exact visit src (by simp [failAt]) (by simp [failAt]) hF
    | unknown tb t sg _ src => exact visit src rfl rfl hF
    | config tb t sg _ src => exact visit src (by simp [failAt, push]) (by simp [failAt, push]) hF
    | inject f rest => exact ⟨pre, he, old⟩
    | finish f rest => exact ⟨pre, by simpa [failAt] using he, old⟩
  | publish f rest hs hp hcb pub hpub => exact ⟨pre, by simpa [publish] using he, old⟩

theorem todo_run (sc : Scen) (k : Nat) : TodoInv sc (run sc k (init sc)) :=
  run_ind sc _ ⟨[], by simp [init], by simp⟩ (fun st st' hi hr h a => todo_stepR sc st st' hi h hr a) k

/-- the container is ready: in a `done` state every boot and every eager name is published -/
theorem done_all_published (sc : Scen) (k : Nat) (hd : (run sc k (init sc)).status = .done) :
    ∀ n ∈ sc.boot ++ sc.eager, (run sc k (init sc)).l1 n ≠ none := by
  have hi := inv_run sc k
  obtain ⟨pre, he, hp⟩ := todo_run sc k
  have hq := hi.quiet (by rw [hd]; nofun)
  obtain ⟨hb, ht⟩ := hi.doneE hd
  rw [hb, ht] at he
  simp at he
  intro n hn
  rw [he] at hn
  exact (hp (fun ⟨x, g, h⟩ => by rw [hd] at h; cases h) n hn).resolve_left (by simp [snames, hq])

end Ioc.M2.Lc
