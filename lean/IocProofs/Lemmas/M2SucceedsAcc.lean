/-
  One step of a start, seen from the scenario.  The objects a frame has collected for its current point are, name by
  name, the candidates of that point it has asked for so far (`AccNames`) — for every scenario whose post-processors keep
  the name of the component they wrap (`Lc.WF`).  With that, every step (`StepR`) either fails for a cause
  that can be read off the scenario, or is one of five `Move`s described by what happens to `l1`, the creation stack and
  the fields.  `Good` bundles the run invariants of Lemmas/M2Step*.lean, M2Log*.lean that this needs; `run_induct` is the
  induction principle the success characterisation is proved with.
-/
import IocProofs.Lemmas.M2SucceedsDefs
import IocProofs.Lemmas.M2StepFresh
namespace Ioc.M2.Sx
open Ioc.M2 Ioc.M2.Lc

/-- the objects collected for the current point are, name by name, the candidates asked for so far -/
def AccOk (sc : Scen) (f : Frame) : Prop :=
  ∀ pt, (pts sc f.name)[f.p]? = some pt → f.acc.map (·.name) = pt.cands.take f.d

def AccNames (sc : Scen) (st : St) : Prop := ∀ f ∈ st.stack, AccOk sc f

/-- a frame that has asked for all candidates of its point holds one object for each -/
theorem acc_full {sc : Scen} {f : Frame} (h : AccOk sc f) (hp : f.p < (pts sc f.name).length)
    (hd : ¬ f.d < ((pts sc f.name)[f.p]).cands.length) : f.acc.map (·.name) = ((pts sc f.name)[f.p]).cands :=
  (h _ (List.getElem?_eq_getElem hp)).trans (List.take_of_length_le (Nat.le_of_not_lt hd))

theorem bump_same {stk : List Frame} {o : Obj} {f : Frame} (h : f ∈ bump stk o) :
    ∃ g ∈ stk, g.name = f.name ∧ g.p = f.p := by
  obtain ⟨g, rest, rfl, rfl | hf⟩ := mem_bump h
  · exact ⟨g, List.mem_cons_self, rfl, rfl⟩
  · exact ⟨f, List.mem_cons_of_mem _ hf, rfl, rfl⟩

theorem accOk_bump {sc : Scen} {stk : List Frame} {o : Obj} {c : Nat} (ho : o.name = c)
    (he : ∀ f rest, stk = f :: rest → Edge sc f c) (h : ∀ f ∈ stk, AccOk sc f) : ∀ f ∈ bump stk o, AccOk sc f := by
  intro f hf
  obtain ⟨g, rest, rfl, rfl | hf⟩ := mem_bump hf
  · obtain ⟨pt, h1, h2⟩ := he g rest rfl
    obtain ⟨hlt, hget⟩ := List.getElem?_eq_some_iff.mp h2
    intro pt' hpt'
    cases h1.symm.trans hpt'
    show (g.acc ++ [o]).map (·.name) = pt.cands.take (g.d + 1)
    rw [List.take_succ_eq_append_getElem hlt, List.map_append, h g List.mem_cons_self pt h1, hget, ← ho]
    rfl
  · exact h f (List.mem_cons_of_mem _ hf)

/-- the run invariants used by the success characterisation -/
structure Good (sc : Scen) (st : St) : Prop where
  inv : Lc.Inv sc st
  todo : TodoInv sc st
  reach : ReachInv sc st
  obj : ObjInv st
  chain : Chain sc st.stack
  fresh : Fresh st
  acc : AccNames sc st

/-- what Inject leaves in the field of `pt`, given the collected objects it kept -/
def injected (pt : Point) (ms : List Obj) : List Obj :=
  if ms = [] ∨ ms.any (fun o => pt.incompat.contains o.name) = true then [] else if pt.slice then ms else ms.take 1

/-- a step that does not fail: nothing left to do; the caller's frame receives the component `c` it asked for; a frame
    for `c` is opened; the top frame finishes a point; the top frame is published and its caller receives it -/
inductive Move (sc : Scen) (st st' : St) : Prop
  | idle (hl : st'.l1 = st.l1) (hs : st'.stack = st.stack) (hf : st'.fields = st.fields)
  | got (c : Nat) (o : Obj) (he : ∀ f rest, st.stack = f :: rest → Edge sc f c) (hn : o.name = c)
      (hl : st'.l1 = st.l1) (hs : st'.stack = bump st.stack o) (hf : st'.fields = st.fields)
  | enter (c : Nat) (hc : EnteredOk sc c)
      (hl : st'.l1 = st.l1) (hs : st'.stack = ⟨c, 0, 0, []⟩ :: st.stack) (hf : st'.fields = st.fields)
  | next (f : Frame) (rest : List Frame) (hs0 : st.stack = f :: rest) (hp : f.p < (pts sc f.name).length)
      (hd : ¬ f.d < ((pts sc f.name)[f.p]).cands.length) (hb : ¬ BadPoint f.name ((pts sc f.name)[f.p]))
      (hl : st'.l1 = st.l1) (hs : st'.stack = advance f :: rest)
      (hf : ∀ a b, st'.fields a b =
        if a = f.name ∧ b = f.p then injected ((pts sc f.name)[f.p]) (metasOf f) else st.fields a b)
  | publish (f : Frame) (rest : List Frame) (pub : Obj) (hs0 : st.stack = f :: rest)
      (hp : ¬ f.p < (pts sc f.name).length) (hcb : ¬ CbFault sc f.name) (hn : pub.name = f.name)
      (he : ∀ g rest', rest = g :: rest' → Edge sc g f.name)
      (hl : st'.l1 = upd st.l1 f.name (some pub)) (hs : st'.stack = bump rest pub) (hf : st'.fields = st.fields)

/-- why a start can fail at `x`: a static fault, a failing early-reference factory, or an initialization that
    substitutes the instance (the stale-reference check can only fire then) -/
def Cause (sc : Scen) (x : Nat) : Prop := StaticFault sc x ∨ sc.fEarly x = true ∨ initResult sc x ≠ raw x

/-- the start has failed at a reached name that has a cause -/
def Fails (sc : Scen) (st' : St) : Prop := ∃ x s, st'.status = .failed x s ∧ st'.stack = [] ∧ Reach sc x ∧ Cause sc x

/-- a step fails, or is a `Move` after which whatever was in creation or published still is -/
def Outcome (sc : Scen) (st st' : St) : Prop :=
  Fails sc st' ∨ (¬ Failed st' ∧ Move sc st st' ∧ ∀ n, Ent st n → Ent st' n)

theorem outcome_of_stepR {sc : Scen} (wf : WF sc) {st st' : St} (g : Good sc st) (hr : st.status = .running)
    (hstep : StepR sc st st') : Outcome sc st st' := by
  suffices h : Fails sc st' ∨ (¬ Failed st' ∧ Move sc st st') from
    h.imp_right fun ⟨nf, m⟩ => ⟨nf, m, hstep.ent nf⟩
  have ok : ∀ {s : St}, s.status = .running → Move sc st s → Fails sc s ∨ (¬ Failed s ∧ Move sc st s) :=
    fun h m => Or.inr ⟨not_failed_of_running h, m⟩
  have hsrc : ∀ {st0 : St} {c : Nat}, Src sc st st0 c → Reach sc c :=
    fun src => (reach_iff_root sc _).mpr (src_root src g.todo g.reach)
  have htop : ∀ {f : Frame} {rest : List Frame}, st.stack = f :: rest → Reach sc f.name :=
    fun hs => (reach_iff_root sc _).mpr (g.reach.ent _ (Or.inl (by rw [Lc.snames, hs]; exact List.mem_cons_self)))
  have full : ∀ {f : Frame} {rest : List Frame}, st.stack = f :: rest → ∀ hp : f.p < (pts sc f.name).length,
      ¬ f.d < ((pts sc f.name)[f.p]).cands.length → f.acc.map (·.name) = ((pts sc f.name)[f.p]).cands :=
    fun hs hp hd => acc_full (g.acc _ (hs ▸ List.mem_cons_self)) hp hd
  cases hstep with
  | done hs hb ht =>
    exact Or.inr ⟨(by rintro ⟨x, s, h⟩; cases h), .idle rfl rfl rfl⟩
  | hit tb t sg c src o ho =>
    exact ok hr (.got c o (src_edge src) (ho.elim (g.obj.1.l1_name c o) fun h => g.obj.1.l2_name c o h.2) rfl rfl rfl)
  | promote tb t sg c src h1 h2 h3 hf =>
    exact ok ((addLog_status ..).trans hr)
      (.got c (sc.earlyO c) (src_edge src) (wf.early_name c) (addLog_l1 ..) rfl (addLog_fields ..))
  | enter tb t sg c src h1 h2 h3 hn hok s hs hl =>
    exact ok (hs.status.trans hr) (.enter c ⟨hn, hok⟩ hs.l1 hs.stack hs.fields)
  | next f rest hs hp hd flds hf =>
    have hbad := badPoint_iff_metas (full hs hp hd)
    rcases hf with ⟨rfl, hwhy⟩ | ⟨rfl, hne, hm, hc⟩
    · -- nothing is written: the field still holds its zero value
      refine ok hr (.next f rest hs hp hd (fun hb => ?_) rfl rfl fun a b => ?_)
      · obtain ⟨hreq, hne, _⟩ := hbad.mp hb
        rcases hwhy with h | ⟨h, _⟩
        · exact hne h
        · rw [h] at hreq; cases hreq
      · have hi : injected ((pts sc f.name)[f.p]) (metasOf f) = [] := by
          rcases hwhy with h | ⟨_, h⟩
          · have hacc : f.acc = [] := List.map_eq_nil_iff.mp ((full hs hp hd).trans h)
            exact if_pos (Or.inl (by rw [metasOf, hacc]; rfl))
          · exact if_pos h
        split
        · rename_i h; rw [h.1, h.2, g.fresh.top_zero g.inv hr hs, hi]
        · rfl
    · refine ok hr (.next f rest hs hp hd (fun hb => ?_) rfl rfl
        ((if_neg (not_or.mpr ⟨hm, by rw [hc]; exact Bool.false_ne_true⟩) : injected _ (metasOf f) = _) ▸ fun _ _ => rfl))
      obtain ⟨_, _, h | h⟩ := hbad.mp hb
      · exact hm h
      · rw [hc] at h; cases h
  | fail s x why =>
    refine Or.inl ⟨x, s.stage, rfl, rfl, ?_⟩
    cases why with
    | early _ _ _ _ src h1 h2 h3 hf => exact ⟨hsrc src, .inr (.inl hf)⟩
    | unknown _ _ _ _ src h1 h2 h3 hn => exact ⟨hsrc src, .inl (.inl hn)⟩
    | config _ _ _ _ src h1 h2 h3 hn hw hbad => exact ⟨hsrc src, .inl (.inr (.inl ⟨hw, hbad⟩))⟩
    | inject f rest hs hp hd hne hreq hwhy =>
      exact ⟨htop hs, .inl (.inr (.inr (.inr ⟨_, List.getElem_mem hp,
        (badPoint_iff_metas (full hs hp hd)).mpr ⟨hreq, hne, hwhy⟩⟩)))⟩
    | finish f rest hs hp hwhy =>
      exact ⟨htop hs, hwhy.elim (fun hcb => .inl (.inr (.inr (.inl ((initCallbacks_snd sc st f.name).mp hcb)))))
        fun ⟨_, _, hw, _⟩ => .inr (.inr hw)⟩
  | publish f rest hs hp hcb pub hpub =>
    refine ok ((initCallbacks_status ..).trans hr) (.publish f rest pub hs hp
      (fun h => by rw [(initCallbacks_snd sc st f.name).mpr h] at hcb; cases hcb) (hpub.name_of (wf.init_name _) (g.obj.1.l2_name _))
      (fun g' rest' hrest => ?_) (congrArg (upd · f.name (some pub)) (initCallbacks_l1 ..)) (publish_stack ..)
      (initCallbacks_fields ..))
    have hch := g.chain
    rw [hs, hrest] at hch
    exact hch.1

theorem accNames_move {sc : Scen} {st st' : St} (h : AccNames sc st) (m : Move sc st st') : AccNames sc st' := by
  unfold AccNames
  cases m with
  | idle hl hs hf => rw [hs]; exact h
  | got c o he hn hl hs hf => rw [hs]; exact accOk_bump hn he h
  | enter c hc hl hs hf =>
    rw [hs]; intro f hf'
    rcases List.mem_cons.mp hf' with rfl | hf'
    · exact fun _ _ => rfl
    · exact h f hf'
  | next f rest hs0 hp hd hb hl hs hf =>
    rw [hs]; intro g hg
    rcases List.mem_cons.mp hg with rfl | hg
    · exact fun _ _ => rfl
    · exact h g (by rw [hs0]; exact List.mem_cons_of_mem _ hg)
  | publish f rest pub hs0 hp hcb hn he hl hs hf =>
    rw [hs]; exact accOk_bump hn he (fun g hg => h g (by rw [hs0]; exact List.mem_cons_of_mem _ hg))

/-- induction along the start: a property that the outcome of every step preserves holds all along, and so do the
    invariants -/
theorem run_induct (sc : Scen) (wf : WF sc) (I : St → Prop) (h0 : I (init sc))
    (h : ∀ st, Good sc st → st.status = .running → I st → Outcome sc st (step sc st) → I (step sc st)) (k : Nat) :
    Good sc (run sc k (init sc)) ∧ I (run sc k (init sc)) := by
  have good : ∀ k, AccNames sc (run sc k (init sc)) → Good sc (run sc k (init sc)) := fun k ha =>
    ⟨Lc.inv_run sc k, todo_run sc k, reachInv_run sc k, (deps_run sc wf k).1, (deps_run sc wf k).2, fresh_run sc k, ha⟩
  induction k with
  | zero => exact ⟨good 0 (fun f hf => nomatch hf), h0⟩
  | succ k ih =>
    obtain ⟨g, hI⟩ := ih
    have hs : AccNames sc (step sc (run sc k (init sc))) ∧ I (step sc (run sc k (init sc))) := by
      by_cases hr : (run sc k (init sc)).status = .running
      · have out := outcome_of_stepR wf g hr (step_rel sc _ hr)
        refine ⟨?_, h _ g hr hI out⟩
        rcases out with ⟨_, _, _, hs, _⟩ | ⟨_, m, _⟩
        · intro f hf; rw [hs] at hf; cases hf
        · exact accNames_move g.acc m
      · rw [Lc.step_not_running sc _ hr]; exact ⟨g.acc, hI⟩
    rw [← run_succ] at hs
    exact ⟨good _ hs.1, hs.2⟩

end Ioc.M2.Sx
