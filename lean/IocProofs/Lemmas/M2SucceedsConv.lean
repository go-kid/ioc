/-
  Converse half of the success characterisation, for ANY post-processors that keep component names (`Lc.WF`) and any
  order: in a start that has not failed, every created component passed all its checks so far and every candidate of the
  points it has finished is created or in creation (`Passed`; `Prog` is used with `d = 0`: the candidates obtained for
  the current point are the names of the collected objects, which `Good` knows to be alive).  At `done` the stack is
  empty, the roots are published (`done_all_published`), so every reachable name is published and has no static fault.
-/
import IocProofs.Lemmas.M2SucceedsFwd
namespace Ioc.M2.Sx
open Ioc.M2 Ioc.M2.Lc

/-- progress of a creation: the points below `p` were processed without error and all their candidates were obtained;
    of point `p` the first `d` candidates were obtained -/
structure Prog (sc : Scen) (st : St) (n p d : Nat) : Prop where
  ent : EnteredOk sc n
  before : ∀ i pt, i < p → (pts sc n)[i]? = some pt → ¬ BadPoint n pt ∧ ∀ c ∈ pt.cands, Ent st c
  cur : ∀ pt, (pts sc n)[p]? = some pt → ∀ c ∈ pt.cands.take d, Ent st c

/-- every frame got through the points below its current one; a published component got through all its points and its
    callbacks -/
structure Passed (sc : Scen) (st : St) : Prop where
  stk : ∀ f ∈ st.stack, Prog sc st f.name f.p 0
  pub : ∀ n, st.l1 n ≠ none → ¬ CbFault sc n ∧ Prog sc st n (pts sc n).length 0

theorem Prog.mono {sc : Scen} {st st' : St} {n p d : Nat} (h : Prog sc st n p d) (hE : ∀ c, Ent st c → Ent st' c) :
    Prog sc st' n p d :=
  ⟨h.ent, fun i pt hi hpt => ⟨(h.before i pt hi hpt).1, fun c hc => hE c ((h.before i pt hi hpt).2 c hc)⟩,
   fun pt hpt c hc => hE c (h.cur pt hpt c hc)⟩

/-- the point `p` is processed without error -/
theorem Prog.next {sc : Scen} {st : St} {n p d : Nat} (h : Prog sc st n p d) (hp : p < (pts sc n).length)
    (hb : ¬ BadPoint n ((pts sc n)[p])) (hall : ∀ c ∈ ((pts sc n)[p]).cands, Ent st c) : Prog sc st n (p + 1) 0 := by
  refine ⟨h.ent, fun i pt hi hpt => ?_, fun pt _ c hc => nomatch hc⟩
  rcases Nat.lt_succ_iff_lt_or_eq.mp hi with hi | rfl
  · exact h.before i pt hi hpt
  · cases (List.getElem?_eq_getElem hp).symm.trans hpt
    exact ⟨hb, hall⟩

/-- past the last point -/
theorem Prog.last {sc : Scen} {st : St} {n p d : Nat} (h : Prog sc st n p d) (hp : ¬ p < (pts sc n).length) :
    Prog sc st n (pts sc n).length 0 :=
  ⟨h.ent, fun i pt hi hpt => h.before i pt (by omega) hpt,
   fun pt hpt => absurd (List.getElem?_eq_some_iff.mp hpt).1 (Nat.lt_irrefl _)⟩

theorem Prog.all {sc : Scen} {st : St} {n : Nat} (h : Prog sc st n (pts sc n).length 0) {pt : Point}
    (hpt : pt ∈ pts sc n) : ¬ BadPoint n pt ∧ ∀ c ∈ pt.cands, Ent st c := by
  obtain ⟨i, hi⟩ := List.mem_iff_getElem?.mp hpt
  exact h.before i pt (List.getElem?_eq_some_iff.mp hi).1 hi

theorem Passed.mono {sc : Scen} {st st' : St} (h : Passed sc st) (hE : ∀ c, Ent st c → Ent st' c)
    (hs : ∀ f ∈ st'.stack, (∃ g ∈ st.stack, g.name = f.name ∧ g.p = f.p) ∨ Prog sc st' f.name f.p 0)
    (hl : ∀ n, st'.l1 n ≠ none → st.l1 n ≠ none ∨ (¬ CbFault sc n ∧ Prog sc st' n (pts sc n).length 0)) :
    Passed sc st' :=
  ⟨fun f hf => (hs f hf).elim (fun ⟨g, hg, e1, e2⟩ => e1 ▸ e2 ▸ (h.stk g hg).mono hE) id,
   fun n hn => (hl n hn).elim (fun h' => ⟨(h.pub n h').1, (h.pub n h').2.mono hE⟩) id⟩

theorem passed_move {sc : Scen} {st st' : St} (g : Good sc st) (hr : st.status = .running) (h : Passed sc st)
    (m : Move sc st st') (hE : ∀ n, Ent st n → Ent st' n) : Passed sc st' := by
  have old : ∀ {l1 : Nat → Option Obj}, l1 = st.l1 →
      ∀ n, l1 n ≠ none → st.l1 n ≠ none ∨ (¬ CbFault sc n ∧ Prog sc st' n (pts sc n).length 0) :=
    fun e n hn => Or.inl (e ▸ hn)
  cases m with
  | idle hl hs hf => exact h.mono hE (fun f hf' => Or.inl ⟨f, hs ▸ hf', rfl, rfl⟩) (old hl)
  | got c o he hn hl hs hf => exact h.mono hE (fun f hf' => Or.inl (bump_same (hs ▸ hf'))) (old hl)
  | enter c hc hl hs hf =>
    refine h.mono hE (fun f hf' => ?_) (old hl)
    rcases List.mem_cons.mp (hs ▸ hf') with rfl | hf'
    · exact Or.inr ⟨hc, fun i pt hi => absurd hi (Nat.not_lt_zero i), fun pt _ c' hc' => nomatch hc'⟩
    · exact Or.inl ⟨f, hf', rfl, rfl⟩
  | next f rest hs0 hp hd hb hl hs hf =>
    have hf0 : f ∈ st.stack := hs0 ▸ List.mem_cons_self
    refine h.mono hE (fun f' hf' => ?_) (old hl)
    rcases List.mem_cons.mp (hs ▸ hf') with rfl | hf'
    · refine Or.inr (((h.stk f hf0).next hp hb fun c hc => ?_).mono hE)
      rw [← acc_full (g.acc f hf0) hp hd] at hc
      obtain ⟨o, ho, rfl⟩ := List.mem_map.mp hc
      exact (g.obj.2 (not_failed_of_running hr)).acc f hf0 o ho
    · exact Or.inl ⟨f', hs0 ▸ List.mem_cons_of_mem _ hf', rfl, rfl⟩
  | publish f rest pub hs0 hp hcb hn he hl hs hf =>
    refine h.mono hE (fun f' hf' => Or.inl ?_) (fun n hn' => ?_)
    · obtain ⟨g', hg', e⟩ := bump_same (hs ▸ hf')
      exact ⟨g', hs0 ▸ List.mem_cons_of_mem _ hg', e⟩
    · by_cases hnf : n = f.name
      · subst hnf; exact Or.inr ⟨hcb, ((h.stk f (hs0 ▸ List.mem_cons_self)).last hp).mono hE⟩
      · exact Or.inl (by rwa [hl, upd_other _ _ _ _ hnf] at hn')

theorem passed_run (sc : Scen) (wf : Lc.WF sc) (k : Nat) : ¬ Failed (run sc k (init sc)) → Passed sc (run sc k (init sc)) := by
  refine (run_induct sc wf (fun st => ¬ Failed st → Passed sc st) (fun _ => ⟨?_, ?_⟩) (fun st g hr h out => ?_) k).2
  · intro f hf; cases hf
  · intro n hn; exact absurd rfl hn
  · rcases out with ⟨x, s, hF, _⟩ | ⟨_, m, hE⟩
    · exact fun h => absurd ⟨x, s, hF⟩ h
    · exact fun _ => passed_move g hr (h (not_failed_of_running hr)) m hE

/-- after a successful start every reachable name is published … -/
theorem done_reach_published (sc : Scen) (wf : Lc.WF sc) (k : Nat) (hd : (run sc k (init sc)).status = .done) (n : Nat)
    (hn : Reach sc n) : (run sc k (init sc)).l1 n ≠ none := by
  have hnf : ¬ Failed (run sc k (init sc)) := fun ⟨x, s, h⟩ => by rw [hd] at h; cases h
  have hP := passed_run sc wf k hnf
  have hq := (Lc.inv_run sc k).quiet (by rw [hd]; intro h; cases h)
  induction hn with
  | root h => exact done_all_published sc k hd _ h
  | cand _ hp hc ih =>
    rcases ((hP.pub _ ih).2.all hp).2 _ hc with h | h
    · simp [Lc.snames, hq] at h
    · exact h

/-- … and has no static fault -/
theorem done_no_fault (sc : Scen) (wf : Lc.WF sc) (k : Nat) (hd : (run sc k (init sc)).status = .done) (n : Nat)
    (hn : Reach sc n) : ¬ StaticFault sc n := by
  have hnf : ¬ Failed (run sc k (init sc)) := fun ⟨x, s, h⟩ => by rw [hd] at h; cases h
  obtain ⟨h3, h4⟩ := (passed_run sc wf k hnf).pub n (done_reach_published sc wf k hd n hn)
  obtain ⟨h1, h2⟩ := h4.ent
  rintro (h | ⟨hw, h⟩ | h | ⟨pt, hpt, h⟩)
  · exact h h1
  · obtain ⟨hc, hp⟩ := h2 hw
    rcases h with h | h
    · rw [hc] at h; cases h
    · exact hp h
  · exact h3 h
  · exact (h4.all hpt).1 h

end Ioc.M2.Sx
