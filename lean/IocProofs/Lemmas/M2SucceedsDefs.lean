/-
  Vocabulary of the success characterisation of the factory machine (C02_succeeds, C09_fault_fails, C10_run_perm_partial):
  predicates on the SCENARIO alone — the machine is not mentioned.
    NoSubstitution   no post-processor replaces an instance (GetEarlyBeanReference and InitializeComponent return the
                     registered object)
    Reach            the names the start can ever ask for: boot ++ eager, closed under "candidate of a point of"
    StaticFault      the fault sites that are met whenever the component is created: unknown name, configuration
                     failure, failing initialization callback, a required point whose candidates are only the holder
                     itself, a required point with an unassignable candidate
    NoFault          no reached name has a static fault, and no reached name has a failing early-reference factory
                     (that one only matters when the early reference is asked for, which depends on the order: see
                     C10_counterexample_early)
    NoFaultOn sc S   a decidable certificate for NoFault: a list S that contains the roots, is closed under candidates
                     and is fault free
-/
import IocProofs.Lemmas.M2LogDeps
import IocProofs.Lemmas.M2StepFault
namespace Ioc.M2.Sx
open Ioc.M2

/-- no post-processor substitutes a component -/
def NoSubstitution (sc : Scen) : Prop := ∀ n, sc.earlyO n = raw n ∧ sc.afterO n = raw n

/-- the names a start can ask for -/
inductive Reach (sc : Scen) : Nat → Prop
  | root {n : Nat} (h : n ∈ sc.boot ++ sc.eager) : Reach sc n
  | cand {n c : Nat} {pt : Point} (hn : Reach sc n) (hp : pt ∈ pts sc n) (hc : c ∈ pt.cands) : Reach sc c

theorem reach_iff_root (sc : Scen) (n : Nat) : Reach sc n ↔ Lc.Root sc n := by
  constructor
  · intro h
    induction h with
    | root h => exact ⟨_, h, Lc.Reaches.refl _⟩
    | cand _ hp hc ih =>
      obtain ⟨r, hr, hrn⟩ := ih
      exact ⟨r, hr, Lc.Reaches.tail hrn ⟨_, hp, hc⟩⟩
  · rintro ⟨r, hr, h⟩
    induction h with
    | refl => exact Reach.root hr
    | tail _ hn ih =>
      obtain ⟨pt, hp, hc⟩ := hn
      exact Reach.cand ih hp hc

/-- `c` is a candidate of some point of `n` (computable, for concrete paths) -/
def needsB (sc : Scen) (n c : Nat) : Bool := (pts sc n).any (fun pt => pt.cands.contains c)

theorem Reach.edge {sc : Scen} {n : Nat} (hn : Reach sc n) (c : Nat) (h : needsB sc n c = true) : Reach sc c := by
  obtain ⟨pt, hp, hc⟩ := List.any_eq_true.mp h
  exact Reach.cand hn hp (by simpa using hc)

/-- a required point that has candidates, all of them the holder itself -/
def SelfOnly (n : Nat) (pt : Point) : Prop := pt.required = true ∧ pt.cands ≠ [] ∧ ∀ c ∈ pt.cands, c = n

/-- a required point with a candidate (other than the holder) that cannot be assigned to the field -/
def Unassignable (n : Nat) (pt : Point) : Prop := pt.required = true ∧ ∃ c ∈ pt.cands, c ≠ n ∧ c ∈ pt.incompat

def BadPoint (n : Nat) (pt : Point) : Prop := SelfOnly n pt ∨ Unassignable n pt

/-- the fault sites that are met whenever `n` is created, whatever the order and the post-processors -/
def StaticFault (sc : Scen) (n : Nat) : Prop :=
  n ∉ sc.names ∨
  (sc.wired n = true ∧ (sc.cfgOk n = false ∨ sc.points n = none)) ∨
  Lc.CbFault sc n ∨
  ∃ pt ∈ pts sc n, BadPoint n pt

instance (n : Nat) (pt : Point) : Decidable (BadPoint n pt) := by
  unfold BadPoint SelfOnly Unassignable; infer_instance
instance (sc : Scen) (n : Nat) : Decidable (Lc.CbFault sc n) := by unfold Lc.CbFault; infer_instance
instance (sc : Scen) (n : Nat) : Decidable (StaticFault sc n) := by unfold StaticFault; infer_instance

/-- what `enter` checks -/
def EnteredOk (sc : Scen) (n : Nat) : Prop :=
  n ∈ sc.names ∧ (sc.wired n = true → sc.cfgOk n = true ∧ sc.points n ≠ none)

structure NoFault (sc : Scen) : Prop where
  static : ∀ n, Reach sc n → ¬ StaticFault sc n
  early : ∀ n, Reach sc n → sc.fEarly n = false

/-- decidable certificate: `S` contains the roots, is closed under candidates and is fault free -/
def NoFaultOn (sc : Scen) (S : List Nat) : Prop :=
  (∀ n ∈ sc.boot ++ sc.eager, n ∈ S) ∧
  (∀ n ∈ S, ∀ pt ∈ pts sc n, ∀ c ∈ pt.cands, c ∈ S) ∧
  (∀ n ∈ S, ¬ StaticFault sc n ∧ sc.fEarly n = false)

instance (sc : Scen) (S : List Nat) : Decidable (NoFaultOn sc S) := by unfold NoFaultOn; infer_instance

theorem noFault_of_on {sc : Scen} {S : List Nat} (h : NoFaultOn sc S) : NoFault sc := by
  have sub : ∀ {n}, Reach sc n → n ∈ S := fun hn => by
    induction hn with
    | root hr => exact h.1 _ hr
    | cand _ hp hc ih => exact h.2.1 _ ih _ hp _ hc
  exact ⟨fun n hn => (h.2.2 n (sub hn)).1, fun n hn => (h.2.2 n (sub hn)).2⟩

theorem NoSubstitution.wf {sc : Scen} (ns : NoSubstitution sc) : Lc.WF sc :=
  ⟨fun n => by rw [(ns n).1]; rfl, fun n => by rw [(ns n).2]; rfl⟩

theorem NoSubstitution.initResult {sc : Scen} (ns : NoSubstitution sc) (n : Nat) : initResult sc n = raw n := by
  unfold M2.initResult; split
  · exact (ns n).2
  · rfl

/-- the candidates of a point that Inject keeps: everything but the holder itself -/
def nonSelf (n : Nat) (pt : Point) : List Nat := pt.cands.filter (· != n)

/-- the content of a field after a start without substitution: nothing when no candidate other than the holder exists or
    one of them is not assignable; otherwise the registered instances of all of them (slice) / of the first one -/
def expected (n : Nat) (pt : Point) : List Obj :=
  if nonSelf n pt = [] ∨ (nonSelf n pt).any (fun c => pt.incompat.contains c) = true then []
  else (if pt.slice then nonSelf n pt else (nonSelf n pt).take 1).map raw

/-- a bad point is a required point with candidates that would be left empty -/
theorem badPoint_iff (n : Nat) (pt : Point) :
    BadPoint n pt ↔ pt.required = true ∧ pt.cands ≠ [] ∧
      (nonSelf n pt = [] ∨ (nonSelf n pt).any (fun c => pt.incompat.contains c) = true) := by
  have h1 : nonSelf n pt = [] ↔ ∀ c ∈ pt.cands, c = n := by
    simp only [nonSelf, List.filter_eq_nil_iff, bne_iff_ne, ne_eq, Decidable.not_not]
  have h2 : (nonSelf n pt).any (fun c => pt.incompat.contains c) = true ↔ ∃ c ∈ pt.cands, c ≠ n ∧ c ∈ pt.incompat := by
    simp only [nonSelf, List.contains_eq_mem, List.any_filter, List.any_eq_true, Bool.and_eq_true, bne_iff_ne, ne_eq,
      decide_eq_true_eq]
  rw [h1, h2]
  constructor
  · rintro (⟨hr, hne, hall⟩ | ⟨hr, c, hc, hx⟩)
    · exact ⟨hr, hne, Or.inl hall⟩
    · exact ⟨hr, List.ne_nil_of_mem hc, Or.inr ⟨c, hc, hx⟩⟩
  · rintro ⟨hr, hne, hall | hx⟩
    · exact Or.inl ⟨hr, hne, hall⟩
    · exact Or.inr ⟨hr, hx⟩

/-- what Inject keeps of the objects collected for all candidates of a point, by name -/
theorem metas_names {f : Frame} {pt : Point} (h : f.acc.map (·.name) = pt.cands) :
    (Lc.metasOf f).map (·.name) = nonSelf f.name pt := by
  rw [nonSelf, ← h, List.filter_map]; rfl

/-- what Inject decides on a point all of whose candidates have been collected -/
theorem badPoint_iff_metas {f : Frame} {pt : Point} (h : f.acc.map (·.name) = pt.cands) :
    BadPoint f.name pt ↔ pt.required = true ∧ pt.cands ≠ [] ∧
      (Lc.metasOf f = [] ∨ (Lc.metasOf f).any (fun o => pt.incompat.contains o.name) = true) := by
  rw [badPoint_iff, ← metas_names h, List.map_eq_nil_iff, List.any_map]; rfl

end Ioc.M2.Sx
