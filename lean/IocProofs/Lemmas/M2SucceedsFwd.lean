/-
  Forward half of the success characterisation: a start fails only for a cause on a reachable name (`failed_cause`), so
  without substitution and without a fault on a reachable name it never fails (hence ends `done`, by termination), and
  every point of every created component holds exactly the registered instances of its non-self candidates
  (`expected`).
-/
import IocProofs.Lemmas.M2SucceedsAcc
import IocProofs.Lemmas.M2SucceedsRaw
import IocProofs.Lemmas.M2Term
namespace Ioc.M2.Sx
open Ioc.M2 Ioc.M2.Lc

/-- whatever the post-processors substitute, the name a start fails at is reached and has a cause -/
theorem failed_cause (sc : Scen) (wf : Lc.WF sc) (k : Nat) (x : Nat) (s : Stage)
    (h : (run sc k (init sc)).status = .failed x s) : Reach sc x ∧ Cause sc x := by
  refine (run_induct sc wf (fun st => ∀ x s, st.status = .failed x s → Reach sc x ∧ Cause sc x)
    (fun _ _ h => nomatch h) (fun st _ _ _ out x s hx => ?_) k).2 x s h
  rcases out with ⟨y, t, hy, _, c⟩ | ⟨h, _⟩
  · cases hy.symm.trans hx; exact c
  · exact absurd ⟨x, s, hx⟩ h

theorem nofail_run (sc : Scen) (ns : NoSubstitution sc) (nf : NoFault sc) (k : Nat) : ¬ Failed (run sc k (init sc)) := by
  rintro ⟨x, s, hF⟩
  obtain ⟨hx, h | h | h⟩ := failed_cause sc ns.wf k x s hF
  · exact nf.static x hx h
  · rw [nf.early x hx] at h; cases h
  · exact h (ns.initResult x)

theorem succeeds (sc : Scen) (ns : NoSubstitution sc) (nf : NoFault sc) : (final sc).status = .done := by
  have h1 := terminates_any sc
  have h2 := nofail_run sc ns nf (fuelBound sc)
  unfold final at *
  cases h : (run sc (fuelBound sc) (init sc)).status with
  | running => exact absurd h h1
  | done => rfl
  | failed x s => exact absurd ⟨x, s, h⟩ h2

theorem injected_raw (n : Nat) (pt : Point) : injected pt ((nonSelf n pt).map raw) = expected n pt := by
  have h : ((nonSelf n pt).map raw).any (fun o => pt.incompat.contains o.name) =
      (nonSelf n pt).any (fun c => pt.incompat.contains c) := by rw [List.any_map]; rfl
  simp only [injected, expected, List.map_eq_nil_iff, h, apply_ite (List.map raw), List.map_take]

theorem metas_raw {f : Frame} {cs : List Nat} (hacc : f.acc.map (·.name) = cs) (hraw : ∀ o ∈ f.acc, o = raw o.name) :
    metasOf f = (cs.filter (· != f.name)).map raw := by
  have h1 : f.acc = cs.map raw := by
    rw [← hacc, List.map_map]
    conv => lhs; rw [← List.map_id f.acc]
    exact List.map_congr_left (fun o ho => hraw o ho)
  unfold metasOf
  rw [h1, List.filter_map]
  rfl

/-- every point that has been processed holds its expected content -/
def Wired (sc : Scen) (st : St) : Prop :=
  ¬ Failed st → ∀ n i pt, (pts sc n)[i]? = some pt → Past st n i → st.fields n i = expected n pt

theorem wired_outcome {sc : Scen} {st st' : St} (g : Good sc st)
    (hraw : ∀ f ∈ st.stack, ∀ o ∈ f.acc, o = raw o.name) (h : Wired sc st) (hr : st.status = .running)
    (out : Outcome sc st st') : Wired sc st' := by
  rcases out with ⟨x, s, hF, _⟩ | ⟨_, m, _⟩
  · exact fun h => absurd ⟨x, s, hF⟩ h
  have hW := h (not_failed_of_running hr)
  intro _ n i pt hpt hpast
  unfold Past at hpast
  cases m with
  | idle hl hs hf => rw [hl, hs] at hpast; rw [hf]; exact hW n i pt hpt hpast
  | got c o he hn hl hs hf => rw [hl, hs] at hpast; rw [hf]; exact hW n i pt hpt (hpast.imp_right (bump_past ..).1)
  | enter c hc hl hs hf =>
    rw [hl, hs] at hpast
    rw [hf]
    refine hW n i pt hpt (hpast.imp_right fun ⟨f, hf', h⟩ => ?_)
    rcases List.mem_cons.mp hf' with rfl | hf'
    · exact absurd h.2 (Nat.not_lt_zero i)
    · exact ⟨f, hf', h⟩
  | next f rest hs0 hp hd hb hl hs hf =>
    rw [hl, hs] at hpast
    rw [hf]
    split
    · rename_i hni
      obtain ⟨rfl, rfl⟩ := hni
      cases (List.getElem?_eq_getElem hp).symm.trans hpt
      rw [metas_raw (acc_full (g.acc f (hs0 ▸ List.mem_cons_self)) hp hd) (hraw f (hs0 ▸ List.mem_cons_self))]
      exact injected_raw _ _
    · rename_i hni
      refine hW n i pt hpt (hpast.imp_right fun ⟨f', hf', hn', hlt⟩ => ?_)
      rcases List.mem_cons.mp hf' with rfl | hf'
      · exact ⟨f, hs0 ▸ List.mem_cons_self, hn',
          Nat.lt_of_le_of_ne (Nat.le_of_lt_succ hlt) (fun e => hni ⟨hn'.symm, e⟩)⟩
      · exact ⟨f', hs0 ▸ List.mem_cons_of_mem _ hf', hn', hlt⟩
  | publish f rest pub hs0 hp hcb hn he hl hs hf =>
    rw [hl, hs] at hpast
    rw [hf]
    refine hW n i pt hpt ?_
    rcases hpast.imp_right (bump_past ..).1 with hp' | ⟨f', hf', h⟩
    · by_cases hnf : n = f.name
      · subst hnf
        have hil : i < (pts sc f.name).length := (List.getElem?_eq_some_iff.mp hpt).1
        exact Or.inr ⟨f, hs0 ▸ List.mem_cons_self, rfl, Nat.lt_of_lt_of_le hil (Nat.le_of_not_lt hp)⟩
      · exact Or.inl (by rwa [upd_other _ _ _ _ hnf] at hp')
    · exact Or.inr ⟨f', hs0 ▸ List.mem_cons_of_mem _ hf', h⟩

theorem wired_run (sc : Scen) (ns : NoSubstitution sc) (k : Nat) : Wired sc (run sc k (init sc)) := by
  refine (run_induct sc ns.wf (fun st => M2.Inv sc st ∧ Wired sc st) ⟨M2.inv_init sc, ?_⟩
    (fun st g hr hi out => ⟨M2.inv_step sc ns.wf1 st hi.1,
      wired_outcome g (fun f hf o ho => cur_raw ns hi.1 (hi.1.acc f hf o ho).cur) hi.2 hr out⟩) k).2.2
  intro _ n i pt _ hp
  rcases hp with hp | ⟨f, hf, _⟩
  · simp [init] at hp
  · simp [init] at hf

/-- at the end of a start without substitution that did not fail, every point of every created component holds exactly
    the registered instances of its usable candidates -/
theorem fields_expected (sc : Scen) (ns : NoSubstitution sc) (hnf : ¬ Failed (final sc)) (n i : Nat) (pt : Point)
    (hpt : (pts sc n)[i]? = some pt) (hpub : (final sc).l1 n ≠ none) : (final sc).fields n i = expected n pt :=
  wired_run sc ns (fuelBound sc) hnf n i pt hpt (Or.inl hpub)

/-- a point without a static fault that is required and has candidates receives something -/
theorem expected_ne_nil {n : Nat} {pt : Point} (hreq : pt.required = true) (hne : pt.cands ≠ []) (hb : ¬ BadPoint n pt) :
    expected n pt ≠ [] := by
  have hc := fun h => hb ((badPoint_iff n pt).mpr ⟨hreq, hne, h⟩)
  rw [expected, if_neg hc, Ne, List.map_eq_nil_iff]
  cases hl : nonSelf n pt with
  | nil => exact absurd (Or.inl hl) hc
  | cons a t => cases pt.slice <;> simp

end Ioc.M2.Sx
