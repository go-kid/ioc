/-
  Two scenarios that differ only in the ORDER of the candidates of their points (`SameUpToOrder`) have the same reachable
  names and the same static faults; with the success characterisation this gives run-level order independence
  (C10_run_perm_partial).
-/
import IocProofs.Lemmas.M2SucceedsConv
namespace Ioc.M2.Sx
open Ioc.M2

/-- the same injection point with its candidates enumerated in another order -/
structure PointPerm (p q : Point) : Prop where
  cands : p.cands.Perm q.cands
  slice : p.slice = q.slice
  required : p.required = q.required
  incompat : ∀ c, c ∈ p.incompat ↔ c ∈ q.incompat

theorem PointPerm.symm {p q : Point} (h : PointPerm p q) : PointPerm q p :=
  ⟨h.cands.symm, h.slice.symm, h.required.symm, fun c => (h.incompat c).symm⟩

/-- point-wise relation of two lists of the same length -/
inductive All2 {α β : Type} (R : α → β → Prop) : List α → List β → Prop
  | nil : All2 R [] []
  | cons {a : α} {b : β} {l₁ : List α} {l₂ : List β} : R a b → All2 R l₁ l₂ → All2 R (a :: l₁) (b :: l₂)

/-- both fail to resolve, or both resolve to the same points (in scan order) up to the order of the candidates -/
def PointsRel : Option (List Point) → Option (List Point) → Prop
  | none, none => True
  | some a, some b => All2 PointPerm a b
  | _, _ => False

theorem All2.flip {α β : Type} {R : α → β → Prop} {S : β → α → Prop} (hi : ∀ x y, R x y → S y x) {a : List α}
    {b : List β} (h : All2 R a b) : All2 S b a := by
  induction h with
  | nil => exact .nil
  | cons h _ ih => exact .cons (hi _ _ h) ih

theorem All2.mem {α β : Type} {R : α → β → Prop} {a : List α} {b : List β} (h : All2 R a b) :
    ∀ x ∈ a, ∃ y ∈ b, R x y := by
  induction h with
  | nil => exact fun _ hx => nomatch hx
  | cons h _ ih =>
    intro x hx
    rcases List.mem_cons.mp hx with rfl | hx
    · exact ⟨_, List.mem_cons_self, h⟩
    · obtain ⟨y, hy, hr⟩ := ih x hx
      exact ⟨y, List.mem_cons_of_mem _ hy, hr⟩

theorem PointsRel.cases {a b : Option (List Point)} (h : PointsRel a b) :
    (a = none ∧ b = none) ∨ ∃ x y, a = some x ∧ b = some y ∧ All2 PointPerm x y := by
  cases a <;> cases b
  · exact Or.inl ⟨rfl, rfl⟩
  · exact h.elim
  · exact h.elim
  · exact Or.inr ⟨_, _, rfl, rfl, h⟩

theorem PointsRel.symm {a b : Option (List Point)} (h : PointsRel a b) : PointsRel b a := by
  rcases h.cases with ⟨rfl, rfl⟩ | ⟨x, y, rfl, rfl, h⟩
  · trivial
  · exact All2.flip (fun _ _ => PointPerm.symm) h

/-- same definitions, same work lists, same processors and faults; the points of every component are the same up to the
    order in which their candidates were enumerated -/
structure SameUpToOrder (sc sc' : Scen) : Prop where
  names : sc.names = sc'.names
  boot : sc.boot = sc'.boot
  eager : sc.eager = sc'.eager
  wired : ∀ n, sc.wired n = sc'.wired n
  logged : ∀ n, sc.logged n = sc'.logged n
  cfgOk : ∀ n, sc.cfgOk n = sc'.cfgOk n
  fBefore : ∀ n, sc.fBefore n = sc'.fBefore n
  fAps : ∀ n, sc.fAps n = sc'.fAps n
  fInit : ∀ n, sc.fInit n = sc'.fInit n
  fAfter : ∀ n, sc.fAfter n = sc'.fAfter n
  fEarly : ∀ n, sc.fEarly n = sc'.fEarly n
  earlyO : ∀ n, sc.earlyO n = sc'.earlyO n
  afterO : ∀ n, sc.afterO n = sc'.afterO n
  points : ∀ n, PointsRel (sc.points n) (sc'.points n)

/-- two scenarios that differ in their points only -/
theorem SameUpToOrder.of_points (sc : Scen) (points : Nat → Option (List Point))
    (h : ∀ n, PointsRel (sc.points n) (points n)) : SameUpToOrder sc { sc with points := points } :=
  ⟨rfl, rfl, rfl, fun _ => rfl, fun _ => rfl, fun _ => rfl, fun _ => rfl, fun _ => rfl, fun _ => rfl, fun _ => rfl,
    fun _ => rfl, fun _ => rfl, fun _ => rfl, h⟩

theorem SameUpToOrder.symm {sc sc' : Scen} (h : SameUpToOrder sc sc') : SameUpToOrder sc' sc :=
  ⟨h.names.symm, h.boot.symm, h.eager.symm, fun n => (h.wired n).symm, fun n => (h.logged n).symm,
   fun n => (h.cfgOk n).symm, fun n => (h.fBefore n).symm, fun n => (h.fAps n).symm, fun n => (h.fInit n).symm,
   fun n => (h.fAfter n).symm, fun n => (h.fEarly n).symm, fun n => (h.earlyO n).symm, fun n => (h.afterO n).symm,
   fun n => (h.points n).symm⟩

theorem SameUpToOrder.pts {sc sc' : Scen} (h : SameUpToOrder sc sc') (n : Nat) :
    All2 PointPerm (pts sc n) (pts sc' n) := by
  unfold M2.pts
  rw [← h.wired n]
  split
  · rcases (h.points n).cases with ⟨e, e'⟩ | ⟨x, y, e, e', hp⟩ <;> rw [e, e']
    · exact .nil
    · exact hp
  · exact .nil

theorem BadPoint.perm {n : Nat} {p q : Point} (h : PointPerm p q) (hb : BadPoint n p) : BadPoint n q := by
  rcases hb with ⟨hr, hne, hall⟩ | ⟨hr, c, hc, hcn, hi⟩
  · left
    refine ⟨h.required ▸ hr, fun hq => hne ?_, fun c hc => hall c (h.cands.mem_iff.mpr hc)⟩
    have hc := h.cands
    rw [hq] at hc
    exact hc.eq_nil
  · right
    exact ⟨h.required ▸ hr, c, h.cands.mem_iff.mp hc, hcn, (h.incompat c).mp hi⟩

theorem StaticFault.perm {sc sc' : Scen} (h : SameUpToOrder sc sc') {n : Nat} (hf : StaticFault sc n) :
    StaticFault sc' n := by
  rcases hf with hf | ⟨hw, hf⟩ | hf | ⟨pt, hpt, hb⟩
  · exact Or.inl (h.names ▸ hf)
  · refine Or.inr (Or.inl ⟨(h.wired n) ▸ hw, ?_⟩)
    rcases hf with hf | hf
    · exact Or.inl ((h.cfgOk n) ▸ hf)
    · rcases (h.points n).cases with ⟨_, e⟩ | ⟨x, y, e, _, _⟩
      · exact Or.inr e
      · rw [e] at hf; cases hf
  · refine Or.inr (Or.inr (Or.inl ?_))
    unfold Lc.CbFault at *
    rw [← h.wired n, ← h.fBefore n, ← h.fAps n, ← h.fInit n, ← h.fAfter n]
    exact hf
  · obtain ⟨q, hq, hpq⟩ := (h.pts n).mem pt hpt
    exact Or.inr (Or.inr (Or.inr ⟨q, hq, hb.perm hpq⟩))

theorem Reach.perm {sc sc' : Scen} (h : SameUpToOrder sc sc') {n : Nat} (hr : Reach sc n) : Reach sc' n := by
  induction hr with
  | root hn => exact Reach.root (by rw [← h.boot, ← h.eager]; exact hn)
  | cand _ hp hc ih =>
    obtain ⟨q, hq, hpq⟩ := (h.pts _).mem _ hp
    exact Reach.cand ih hq (hpq.cands.mem_iff.mp hc)

/-- the success characterisation as an equivalence: without substitution and without a failing early-reference factory on
    a reachable name, the start succeeds exactly when no reachable name has a static fault -/
theorem done_iff (sc : Scen) (ns : NoSubstitution sc) (he : ∀ n, Reach sc n → sc.fEarly n = false) :
    (final sc).status = .done ↔ ∀ n, Reach sc n → ¬ StaticFault sc n :=
  ⟨fun hd n hn => done_no_fault sc ns.wf _ hd n hn, fun h => succeeds sc ns ⟨h, he⟩⟩

theorem run_perm (sc sc' : Scen) (h : SameUpToOrder sc sc') (ns : NoSubstitution sc) (ns' : NoSubstitution sc')
    (he : ∀ n, Reach sc n → sc.fEarly n = false) :
    (final sc).status = .done ↔ (final sc').status = .done := by
  have he' : ∀ n, Reach sc' n → sc'.fEarly n = false := fun n hn => by rw [← h.fEarly n]; exact he n (hn.perm h.symm)
  rw [done_iff sc ns he, done_iff sc' ns' he']
  constructor
  · intro hs n hn hf; exact hs n (hn.perm h.symm) (hf.perm h.symm)
  · intro hs n hn hf; exact hs n (hn.perm h) (hf.perm h)

end Ioc.M2.Sx
