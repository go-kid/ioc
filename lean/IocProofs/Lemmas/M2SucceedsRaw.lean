/-
  Without substitution every object the machine ever holds is the registered instance of its name (`raw`).
  Bridge to the cache invariant of Lemmas/M2Inv.lean (C01/C03); in a file of its own because that development and
  the life-cycle development (namespace `Lc`) use the same short names (`Inv`, `WF`, `snames`, `inv_run`).
-/
import IocProofs.Lemmas.M2Inv
import IocProofs.Lemmas.M2SucceedsDefs
namespace Ioc.M2.Sx
open Ioc.M2

theorem NoSubstitution.wf1 {sc : Scen} (ns : NoSubstitution sc) : M2.WF sc := ⟨ns.wf.early_name, ns.wf.after_name⟩

theorem cur_raw {sc : Scen} (ns : NoSubstitution sc) {st : St} (hi : M2.Inv sc st) {o : Obj} (h : M2.Cur st o) :
    o = raw o.name := by
  rcases h with h | h
  · rcases hi.l1_src _ _ h with e | e
    · exact e.trans (ns o.name).1
    · exact e.trans (ns.initResult o.name)
  · exact (hi.l2_src _ _ h).trans (ns o.name).1

theorem l1_raw (sc : Scen) (ns : NoSubstitution sc) (k : Nat) (n : Nat) (o : Obj)
    (h : (run sc k (init sc)).l1 n = some o) : o = raw n := by
  have hi := M2.inv_run sc ns.wf1 k
  have hn := hi.l1_name n o h
  have := cur_raw ns hi (o := o) (Or.inl (by rw [hn]; exact h))
  rw [hn] at this; exact this

end Ioc.M2.Sx
