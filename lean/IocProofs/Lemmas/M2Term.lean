/-
  Termination of the factory machine (Ioc.Container, M2).

  Potential: every definition `n` owes `work sc n` steps until it is published (then 0); while it is on the creation
  stack its frame has already paid `progress` of them. `mu` = 1 + Σ owed + what is left of the two work lists while the
  machine runs, 0 once it has stopped. Every step from a running state strictly decreases `mu` (`mu_dec`); the invariant
  carried along (`TInv`) is the part of the cache protocol that termination needs: creation-stack names are distinct,
  registered, absent from l1 and present in l2/l3; every frame is inside its work list; every frame but the innermost
  waits on a candidate. No hypothesis on the scenario is needed: a cycle is cut because the second visit of a name finds
  its entry in l3/l2 (early exposure) and so never pushes a second frame.
-/
import IocProofs.Lemmas.M2Step
namespace Ioc.M2
namespace Term

theorem sum_take_le {α} (w : α → Nat) (l : List α) (k : Nat) : ((l.take k).map w).sum ≤ (l.map w).sum := by
  have := congrArg (fun l => (l.map w).sum) (List.take_append_drop k l)
  simp only [List.map_append, List.sum_append] at this
  omega

theorem sum_take_succ {α} (w : α → Nat) (l : List α) (k : Nat) (h : k < l.length) :
    ((l.take (k+1)).map w).sum = ((l.take k).map w).sum + w l[k] := by
  rw [List.take_succ_eq_append_getElem h, List.map_append, List.sum_append, List.map_singleton, List.sum_singleton]

theorem sum_le_of_pointwise (l : List Nat) (f g : Nat → Nat) (hle : ∀ x ∈ l, f x ≤ g x) :
    (l.map f).sum ≤ (l.map g).sum := by
  induction l with
  | nil => simp
  | cons a l ih =>
    simp only [List.map_cons, List.sum_cons]
    have := hle a (by simp)
    have := ih (fun x hx => hle x (by simp [hx]))
    omega

theorem sum_lt_of_pointwise (l : List Nat) (f g : Nat → Nat) (hle : ∀ x ∈ l, f x ≤ g x)
    (hlt : ∃ x ∈ l, f x < g x) : (l.map f).sum < (l.map g).sum := by
  obtain ⟨x, hx, hxlt⟩ := hlt
  obtain ⟨a, b, rfl⟩ := List.append_of_mem hx
  have := sum_le_of_pointwise a f g fun y hy => hle y (by simp [hy])
  have := sum_le_of_pointwise b f g fun y hy => hle y (by simp [hy])
  simp only [List.map_append, List.map_cons, List.sum_append, List.sum_cons]
  omega

/-- steps already paid by a frame: 1 for entering, one per finished point and candidate -/
def progress (sc : Scen) (f : Frame) : Nat :=
  1 + (((pts sc f.name).take f.p).map (fun p => p.cands.length + 1)).sum + f.d

/-- a frame is inside its work list -/
def FrameOK (sc : Scen) (f : Frame) : Prop :=
  f.p ≤ (pts sc f.name).length ∧
  (∀ h : f.p < (pts sc f.name).length, f.d ≤ ((pts sc f.name)[f.p]).cands.length) ∧
  (f.p = (pts sc f.name).length → f.d = 0)

/-- a frame that is waiting for a nested creation points at a candidate -/
def WaitOK (sc : Scen) (g : Frame) : Prop :=
  ∃ hp : g.p < (pts sc g.name).length, g.d < ((pts sc g.name)[g.p]).cands.length

theorem progress_lt (sc : Scen) (f : Frame) (h : FrameOK sc f) : progress sc f < work sc f.name := by
  unfold progress work
  obtain ⟨hp, hd, hz⟩ := h
  by_cases hlt : f.p < (pts sc f.name).length
  · have h1 := hd hlt
    have h2 := sum_take_succ (fun p => p.cands.length + 1) (pts sc f.name) f.p hlt
    have h3 := sum_take_le (fun p => p.cands.length + 1) (pts sc f.name) (f.p + 1)
    omega
  · have hz' := hz (by omega)
    have h3 := sum_take_le (fun p => p.cands.length + 1) (pts sc f.name) f.p
    omega

theorem progress_next (sc : Scen) (f : Frame) (hf : FrameOK sc f) (hp : f.p < (pts sc f.name).length)
    (hd : ¬ f.d < ((pts sc f.name)[f.p]).cands.length) (a : List Obj) :
    progress sc { f with p := f.p + 1, d := 0, acc := a } = progress sc f + 1 := by
  have h1 := hf.2.1 hp
  have h2 := sum_take_succ (fun p => p.cands.length + 1) (pts sc f.name) f.p hp
  simp only [progress]
  omega

def potAux (sc : Scen) (l1 : Nat → Option Obj) (stack : List Frame) (n : Nat) : Nat :=
  match l1 n with
  | some _ => 0
  | none =>
    match stack.find? (fun f => f.name == n) with
    | some f => work sc n - progress sc f
    | none => work sc n

/-- the frame of a name on top of the stack decides what that name still owes; the other names look below it -/
theorem potAux_cons (sc : Scen) (l1 : Nat → Option Obj) (f : Frame) (rest : List Frame) (n : Nat) :
    potAux sc l1 (f :: rest) n =
      if f.name = n then (if l1 n = none then work sc n - progress sc f else 0) else potAux sc l1 rest n := by
  unfold potAux
  by_cases h : f.name = n
  · cases hl : l1 n <;> simp [List.find?, h]
  · have : (f.name == n) = false := by simp [h]
    cases hl : l1 n <;> simp [List.find?, h, this]

theorem potAux_le_work (sc : Scen) (l1 : Nat → Option Obj) (stack : List Frame) (n : Nat) :
    potAux sc l1 stack n ≤ work sc n := by
  unfold potAux; split
  · omega
  · split <;> omega

/-- replacing the top frame by one with the same name and at least as much progress -/
theorem potAux_top (sc : Scen) (l1 : Nat → Option Obj) (f f' : Frame) (rest : List Frame) (hn : f'.name = f.name)
    (hp : progress sc f ≤ progress sc f') (n : Nat) :
    potAux sc l1 (f' :: rest) n ≤ potAux sc l1 (f :: rest) n := by
  rw [potAux_cons, potAux_cons, hn]
  split
  · split <;> omega
  · exact Nat.le_refl _

theorem potAux_self (sc : Scen) (l1 : Nat → Option Obj) (f f' : Frame) (rest : List Frame) (hn : f'.name = f.name)
    (hl : l1 f.name = none) : potAux sc l1 (f' :: rest) f.name = work sc f.name - progress sc f' := by
  rw [potAux_cons, if_pos hn, if_pos hl]

theorem potAux_published (sc : Scen) (l1 : Nat → Option Obj) (s : List Frame) (n : Nat) (o : Obj) (h : l1 n = some o) :
    potAux sc l1 s n = 0 := by
  simp [potAux, h]

/-- pushing a fresh name -/
theorem potAux_push (sc : Scen) (l1 : Nat → Option Obj) (stack : List Frame) (c : Nat) (n : Nat)
    (hs : stack.find? (fun x => x.name == c) = none) :
    potAux sc l1 (⟨c, 0, 0, []⟩ :: stack) n ≤ potAux sc l1 stack n := by
  rw [potAux_cons]
  split
  · rename_i h; subst h; unfold potAux; rw [hs]; cases l1 c <;> simp
  · exact Nat.le_refl _

theorem potAux_push_lt (sc : Scen) (l1 : Nat → Option Obj) (stack : List Frame) (c : Nat)
    (hl : l1 c = none) (hs : stack.find? (fun x => x.name == c) = none) :
    potAux sc l1 (⟨c, 0, 0, []⟩ :: stack) c < potAux sc l1 stack c := by
  rw [potAux_cons, if_pos rfl, if_pos hl]; unfold potAux; rw [hl, hs]
  simp [progress, work]

/-- the caller's frame receives an object -/
theorem potAux_bump (sc : Scen) (l1 : Nat → Option Obj) (stack : List Frame) (o : Obj) (n : Nat) :
    potAux sc l1 (Lc.bump stack o) n ≤ potAux sc l1 stack n := by
  cases stack with
  | nil => exact Nat.le_refl _
  | cons f rest => exact potAux_top sc l1 f { f with d := f.d + 1, acc := f.acc ++ [o] } rest rfl (by simp [progress]) n

theorem potAux_publish_le (sc : Scen) (l1 : Nat → Option Obj) (f : Frame) (rest : List Frame) (pub : Obj) (m : Nat) :
    potAux sc (upd l1 f.name (some pub)) (Lc.bump rest pub) m ≤ potAux sc l1 (f :: rest) m := by
  by_cases hm : m = f.name
  · rw [hm, potAux_published sc _ _ _ pub (upd_same ..)]; exact Nat.zero_le _
  · have := potAux_bump sc l1 rest pub m
    rw [potAux_cons, if_neg (Ne.symm hm)]
    unfold potAux at this ⊢
    rwa [upd_other _ _ _ _ hm]

end Term

open Term

/-- what is still owed while the machine runs -/
def muRun (sc : Scen) (st : St) : Nat :=
  (sc.names.map (potAux sc st.l1 st.stack)).sum + (st.todoBoot.length + st.todo.length)

/-- the termination measure: positive while running, 0 once stopped -/
def mu (sc : Scen) (st : St) : Nat :=
  if st.status = .running then 1 + muRun sc st else 0

namespace Term

theorem mu_running (sc : Scen) (st : St) (h : st.status = .running) : mu sc st = 1 + muRun sc st := by
  simp [mu, h]

theorem mu_congr (sc : Scen) (a b : St) (h : SameButLog a b) : mu sc a = mu sc b := by
  simp only [mu, muRun, h.l1, h.stack, h.todoBoot, h.todo, h.status]

theorem mu_lt_of (sc : Scen) (st st' : St) (hr : st.status = .running) (hr' : st'.status = .running)
    (hle : ∀ n ∈ sc.names, potAux sc st'.l1 st'.stack n ≤ potAux sc st.l1 st.stack n)
    (hcase : (∃ n ∈ sc.names, potAux sc st'.l1 st'.stack n < potAux sc st.l1 st.stack n) ∨
      st'.todoBoot.length + st'.todo.length < st.todoBoot.length + st.todo.length)
    (htodo : st'.todoBoot.length + st'.todo.length ≤ st.todoBoot.length + st.todo.length) :
    mu sc st' < mu sc st := by
  rw [mu_running sc st hr, mu_running sc st' hr']
  unfold muRun
  rcases hcase with h | h
  · have := sum_lt_of_pointwise sc.names _ _ hle h; omega
  · have := sum_le_of_pointwise sc.names _ _ hle; omega

end Term

structure TInvL (sc : Scen) (l1 l2 : Nat → Option Obj) (l3 : Nat → Bool) (s : List Frame) : Prop where
  nodup : (s.map (·.name)).Nodup
  l1_off : ∀ f ∈ s, l1 f.name = none
  on_has : ∀ f ∈ s, (l2 f.name).isSome ∨ l3 f.name = true
  stk_names : ∀ f ∈ s, f.name ∈ sc.names
  frames : ∀ f ∈ s, FrameOK sc f
  wait : ∀ g ∈ s.tail, WaitOK sc g

/-- creation-stack names are distinct, registered, not in l1, exposed in l2/l3; frames are inside their work lists and
    all but the innermost wait on a candidate -/
def TInv (sc : Scen) (st : St) : Prop := TInvL sc st.l1 st.l2 st.l3 st.stack

namespace Term

theorem tinv_congr (sc : Scen) (a b : St) (h : SameButLog a b) : TInv sc a ↔ TInv sc b := by
  simp only [TInv, h.l1, h.l2, h.l3, h.stack]

theorem mu_lt_top {sc : Scen} {st st' : St} {f : Frame} {rest : List Frame} (hi : TInv sc st) (hs : st.stack = f :: rest)
    (hr : st.status = .running) (hr' : st'.status = .running)
    (hle : ∀ n, potAux sc st'.l1 st'.stack n ≤ potAux sc st.l1 st.stack n)
    (hlt : st.l1 f.name = none → potAux sc st'.l1 st'.stack f.name ≤ work sc f.name - (progress sc f + 1))
    (htodo : st'.todoBoot.length + st'.todo.length ≤ st.todoBoot.length + st.todo.length) : mu sc st' < mu sc st := by
  unfold TInv at hi
  rw [hs] at hi
  have := progress_lt sc f (hi.frames f (by simp))
  have hl := hi.l1_off f (by simp)
  have := hlt hl
  refine mu_lt_of sc st st' hr hr' (fun n _ => hle n) (.inl ⟨f.name, hi.stk_names f (by simp), ?_⟩) htodo
  rw [hs, potAux_self sc _ f f rest rfl hl]
  omega

theorem tinvL_nil (sc : Scen) (l1 l2 : Nat → Option Obj) (l3 : Nat → Bool) : TInvL sc l1 l2 l3 [] := by
  constructor <;> simp

/-- the early-reference move l3 → l2 (or any change that keeps exposed names exposed) -/
theorem tinvL_expose (sc : Scen) (l1 l2 l2' : Nat → Option Obj) (l3 l3' : Nat → Bool) (s : List Frame)
    (h : TInvL sc l1 l2 l3 s)
    (hx : ∀ x, ((l2 x).isSome ∨ l3 x = true) → ((l2' x).isSome ∨ l3' x = true)) : TInvL sc l1 l2' l3' s :=
  ⟨h.nodup, h.l1_off, fun f hf => hx _ (h.on_has f hf), h.stk_names, h.frames, h.wait⟩

theorem not_exposed_off (sc : Scen) (l1 l2 : Nat → Option Obj) (l3 : Nat → Bool) (s : List Frame)
    (h : TInvL sc l1 l2 l3 s) (c : Nat) (h2 : l2 c = none) (h3 : l3 c = false) : ∀ f ∈ s, f.name ≠ c := by
  intro f hf hc
  rcases h.on_has f hf with h' | h'
  · rw [hc, h2] at h'; simp at h'
  · rw [hc, h3] at h'; simp at h'

theorem find_none_of_off (s : List Frame) (c : Nat) (h : ∀ f ∈ s, f.name ≠ c) :
    s.find? (fun x => x.name == c) = none := by
  rw [List.find?_eq_none]
  intro x hx hc
  simp only [beq_iff_eq] at hc
  exact h x hx hc

/-- pushing a name that is in no cache level -/
theorem tinvL_push (sc : Scen) (l1 l2 : Nat → Option Obj) (l3 : Nat → Bool) (s : List Frame)
    (h : TInvL sc l1 l2 l3 s) (c : Nat) (hc : c ∈ sc.names) (h1 : l1 c = none) (h2 : l2 c = none) (h3 : l3 c = false)
    (hw : ∀ g ∈ s, WaitOK sc g) : TInvL sc l1 l2 (upd l3 c true) (⟨c, 0, 0, []⟩ :: s) := by
  have hoff := not_exposed_off sc l1 l2 l3 s h c h2 h3
  exact ⟨List.nodup_cons.mpr ⟨fun hm => let ⟨f, hf, hfn⟩ := List.mem_map.mp hm; hoff f hf hfn, h.nodup⟩,
    List.forall_mem_cons.mpr ⟨h1, h.l1_off⟩,
    List.forall_mem_cons.mpr ⟨Or.inr (upd_same ..), fun f hf => by rw [upd_other _ _ _ _ (hoff f hf)]; exact h.on_has f hf⟩,
    List.forall_mem_cons.mpr ⟨hc, h.stk_names⟩, List.forall_mem_cons.mpr ⟨⟨Nat.zero_le _, fun _ => Nat.zero_le _, fun _ => rfl⟩, h.frames⟩, hw⟩

/-- the top frame advances -/
theorem tinvL_top (sc : Scen) (l1 l2 : Nat → Option Obj) (l3 : Nat → Bool) (f f' : Frame) (rest : List Frame)
    (h : TInvL sc l1 l2 l3 (f :: rest)) (hn : f'.name = f.name) (hf' : FrameOK sc f') :
    TInvL sc l1 l2 l3 (f' :: rest) := by
  obtain ⟨nd, h1, h2, h3, fr, w⟩ := h
  simp only [List.forall_mem_cons, List.map_cons, ← hn] at nd h1 h2 h3 fr
  exact ⟨nd, List.forall_mem_cons.mpr h1, List.forall_mem_cons.mpr h2, List.forall_mem_cons.mpr h3,
    List.forall_mem_cons.mpr ⟨hf', fr.2⟩, w⟩

/-- the caller's frame receives an object it was waiting for -/
theorem tinvL_bump (sc : Scen) (l1 l2 : Nat → Option Obj) (l3 : Nat → Bool) (s : List Frame) (o : Obj)
    (h : TInvL sc l1 l2 l3 s) (hw : ∀ g ∈ s, WaitOK sc g) : TInvL sc l1 l2 l3 (Lc.bump s o) := by
  cases s with
  | nil => exact h
  | cons f rest =>
    obtain ⟨hp, hd⟩ := hw f (by simp)
    exact tinvL_top sc l1 l2 l3 f { f with d := f.d + 1, acc := f.acc ++ [o] } rest h rfl ⟨Nat.le_of_lt hp, fun _ => hd, fun hh => by simp only at hh; omega⟩

/-- the top frame is published and its caller resumes -/
theorem tinvL_publish (sc : Scen) (l1 l2 : Nat → Option Obj) (l3 : Nat → Bool) (f : Frame) (rest : List Frame)
    (pub : Obj) (h : TInvL sc l1 l2 l3 (f :: rest)) :
    TInvL sc (upd l1 f.name (some pub)) (upd l2 f.name none) (upd l3 f.name false) (Lc.bump rest pub) := by
  obtain ⟨hnot, hnd⟩ := List.nodup_cons.mp h.nodup
  have hne : ∀ g ∈ rest, g.name ≠ f.name := fun g hg hgn => hnot (List.mem_map.mpr ⟨g, hg, hgn⟩)
  -- the frames below keep the invariant: the caches change at the published name only
  refine tinvL_bump sc _ _ _ rest pub
    ⟨hnd, fun g hg => by rw [upd_other _ _ _ _ (hne g hg)]; exact h.l1_off g (by simp [hg]),
     fun g hg => by rw [upd_other _ _ _ _ (hne g hg), upd_other _ _ _ _ (hne g hg)]; exact h.on_has g (by simp [hg]),
     fun g hg => h.stk_names g (by simp [hg]), fun g hg => h.frames g (by simp [hg]),
     fun g hg => h.wait g (List.mem_of_mem_tail hg)⟩ h.wait

/-- where a `doGetComponent` call starts from: every frame waits on a candidate, and the work lists have not grown — they
    are shorter when there is no frame -/
theorem src_wait {sc : Scen} {st st0 : St} {c : Nat} (src : Lc.Src sc st st0 c) (hi : TInv sc st) :
    (∀ g ∈ st0.stack, WaitOK sc g) ∧
    st0.todoBoot.length + st0.todo.length ≤ st.todoBoot.length + st.todo.length ∧
    (st0.stack = [] → st0.todoBoot.length + st0.todo.length < st.todoBoot.length + st.todo.length) := by
  cases src with
  | boot n t hs hb => simp [hs, hb]
  | todo n t hs hb ht => simp [hs, hb, ht]
  | cand f rest hs hp hd =>
    refine ⟨fun g hg => ?_, Nat.le_refl _, fun h => by rw [hs] at h; cases h⟩
    have hw := hi.wait
    rw [hs] at hg hw
    rcases List.mem_cons.mp hg with rfl | hg
    · exact ⟨hp, hd⟩
    · exact hw g hg

/-- the object looked up is in the cache (after the early-reference move l3 → l2, if that was needed) -/
theorem mu_hit {sc : Scen} {st st0 : St} {c : Nat} (src : Lc.Src sc st st0 c) (hi : TInv sc st)
    (hr : st.status = .running) (s : St) (o : Obj) (hr' : s.status = .running) (h1 : s.l1 = st0.l1)
    (hx : ∀ x, ((st0.l2 x).isSome ∨ st0.l3 x = true) → ((s.l2 x).isSome ∨ s.l3 x = true))
    (hs : s.stack = Lc.bump st0.stack o) (hb : s.todoBoot = st0.todoBoot) (ht : s.todo = st0.todo) :
    mu sc s < mu sc st ∧ TInv sc s := by
  obtain ⟨hw, hle, hlt⟩ := src_wait src hi
  obtain ⟨tb, t, sg, rfl⟩ := src.eq
  rw [← hb, ← ht] at hle hlt
  have hpot : ∀ m, potAux sc s.l1 s.stack m ≤ potAux sc st.l1 st.stack m := fun m => by
    rw [h1, hs]; exact potAux_bump sc _ _ o m
  constructor
  · cases h0 : st.stack with
    | nil => exact mu_lt_of sc st s hr hr' (fun m _ => hpot m) (.inr (hlt h0)) hle
    | cons f rest =>
      refine mu_lt_top hi h0 hr hr' hpot (fun h1f => ?_) hle
      rw [h1, hs]
      show potAux sc st.l1 (Lc.bump st.stack o) f.name ≤ _
      rw [h0, Lc.bump, potAux_self sc _ f { f with d := f.d + 1, acc := f.acc ++ [o] } rest rfl h1f]
      simp only [progress]
      omega
  · unfold TInv at hi ⊢
    rw [h1, hs]
    exact tinvL_bump sc _ _ _ _ o (tinvL_expose sc _ _ _ _ _ _ hi hx) hw

/-- a creation starts: the new frame has paid for its first step -/
theorem mu_push {sc : Scen} {st st0 : St} {c : Nat} (src : Lc.Src sc st st0 c) (hi : TInv sc st)
    (hr : st.status = .running) (s : St) (hs : SameButLog s (Lc.push st0 c)) (hc : c ∈ sc.names)
    (h1 : st0.l1 c = none) (h2 : st0.l2 c = none) (h3 : st0.l3 c = false) : mu sc s < mu sc st ∧ TInv sc s := by
  obtain ⟨hw, hle, _⟩ := src_wait src hi
  obtain ⟨tb, t, sg, rfl⟩ := src.eq
  unfold TInv at hi
  have hfind := find_none_of_off st.stack c (not_exposed_off sc _ _ _ _ hi c h2 h3)
  refine ⟨?_, (tinv_congr sc _ _ hs).mpr (tinvL_push sc _ _ _ _ hi c hc h1 h2 h3 hw)⟩
  rw [mu_congr sc _ _ hs]
  exact mu_lt_of sc st (Lc.push _ c) hr hr (fun m _ => potAux_push sc _ _ c m hfind)
    (Or.inl ⟨c, hc, potAux_push_lt sc _ _ c h1 hfind⟩) hle

/-- the top frame moves on to its next point -/
theorem mu_advance (sc : Scen) (st : St) (f : Frame) (rest : List Frame) (flds : Nat → Nat → List Obj)
    (hi : TInv sc st) (hr : st.status = .running) (hs : st.stack = f :: rest) (hp : f.p < (pts sc f.name).length)
    (hd : ¬ f.d < ((pts sc f.name)[f.p]).cands.length) :
    mu sc { st with fields := flds, stack := Lc.advance f :: rest } < mu sc st ∧
    TInv sc { st with fields := flds, stack := Lc.advance f :: rest } := by
  have hi0 := hi
  unfold TInv at hi ⊢
  rw [hs] at hi
  have hfo := hi.frames f (by simp)
  have hpn : progress sc (Lc.advance f) = progress sc f + 1 := progress_next sc f hfo hp hd []
  constructor
  · refine mu_lt_top hi0 hs hr hr (fun m => ?_) (fun h1 => ?_) (Nat.le_refl _)
    · rw [hs]
      exact potAux_top sc st.l1 f (Lc.advance f) rest rfl (by omega) m
    · exact Nat.le_of_eq (hpn ▸ potAux_self sc st.l1 f (Lc.advance f) rest rfl h1)
  · exact tinvL_top sc st.l1 st.l2 st.l3 f (Lc.advance f) rest hi rfl ⟨hp, fun _ => Nat.zero_le _, fun _ => rfl⟩

theorem mu_publish (sc : Scen) (st : St) (f : Frame) (rest : List Frame) (pub : Obj)
    (hr : st.status = .running) (hi : TInv sc st) (hs : st.stack = f :: rest) :
    mu sc (publish st f.name pub rest) < mu sc st ∧ TInv sc (publish st f.name pub rest) := by
  refine ⟨mu_lt_top hi hs hr hr (fun m => ?_) (fun _ => ?_) (Nat.le_refl _), ?_⟩
  · rw [Lc.publish_stack, hs]
    exact potAux_publish_le sc st.l1 f rest pub m
  · exact Nat.le_trans (Nat.le_of_eq (potAux_published sc _ _ _ pub (upd_same ..))) (Nat.zero_le _)
  · unfold TInv at hi ⊢
    rw [hs] at hi
    rw [Lc.publish_stack]
    exact tinvL_publish sc st.l1 st.l2 st.l3 f rest pub hi

/-- a step to a state that is still running strictly decreases the potential and keeps the invariant -/
theorem mu_stepR (sc : Scen) (st st' : St) (hi : TInv sc st) (hr : st.status = .running) (h : Lc.StepR sc st st')
    (hr' : st'.status = .running) : mu sc st' < mu sc st ∧ TInv sc st' := by
  cases h with
  | done hs hb ht => cases hr'
  | hit tb t sg c src o h => exact mu_hit src hi hr _ o hr' rfl (fun _ hx => hx) rfl rfl rfl
  | promote tb t sg c src h1 h2 h3 hf =>
    refine mu_hit src hi hr _ (sc.earlyO c) hr' (by simp) (fun x hx => ?_) rfl (by simp) (by simp)
    by_cases hxc : x = c
    · subst hxc; left; simp
    · simpa [upd, hxc] using hx
  | enter tb t sg c src h1 h2 h3 hn hok s hs hl => exact mu_push src hi hr _ hs hn h1 h2 h3
  | next f rest hs hp hd flds hf => exact mu_advance sc st f rest flds hi hr hs hp hd
  | fail s x why => cases hr'
  | publish f rest hs hp hcb pub hpub =>
    have hsame := initCallbacks_same sc st f.name
    rw [← mu_congr sc _ _ hsame]
    exact mu_publish sc _ f rest pub (hsame.status.trans hr) ((tinv_congr sc _ _ hsame).mpr hi) (hsame.stack.trans hs)

end Term

open Term

theorem mu_dec_running (sc : Scen) (st : St) (hi : TInv sc st) (hr : st.status = .running) :
    (step sc st).status = .running → mu sc (step sc st) < mu sc st ∧ TInv sc (step sc st) :=
  mu_stepR sc st _ hi hr (Lc.step_rel sc st hr)

theorem mu_dec (sc : Scen) (st : St) (hi : TInv sc st) (hr : st.status = .running) :
    mu sc (step sc st) < mu sc st := by
  by_cases h : (step sc st).status = .running
  · exact (mu_dec_running sc st hi hr h).1
  · rw [mu, if_neg h, mu_running sc st hr]; omega

namespace Term

/-- the invariant, as far as it matters: while running -/
def RInv (sc : Scen) (st : St) : Prop := st.status = .running → TInv sc st

theorem rinv_init (sc : Scen) : RInv sc (init sc) := fun _ => tinvL_nil sc _ _ _

theorem rinv_step (sc : Scen) (st : St) (h : RInv sc st) : RInv sc (step sc st) := by
  intro hr'
  by_cases hr : st.status = .running
  · exact (mu_dec_running sc st (h hr) hr hr').2
  · rw [Lc.step_not_running sc st hr] at hr'; exact absurd hr' hr

theorem run_bound (sc : Scen) (k : Nat) (st : St) (h : RInv sc st)
    (hr : (run sc k st).status = .running) : mu sc (run sc k st) + k ≤ mu sc st := by
  induction k with
  | zero => exact Nat.le_refl _
  | succ k ih =>
    rw [Lc.run_succ] at hr ⊢
    have hk : (run sc k st).status = .running :=
      Classical.byContradiction fun hk => by rw [Lc.step_not_running sc _ hk] at hr; exact hk hr
    have := mu_dec sc _ (Lc.run_inv sc (RInv sc) (rinv_step sc) k st h hk) hk
    have := ih hk
    omega

end Term

theorem tinv_reachable (sc : Scen) (k : Nat) (hr : (run sc k (init sc)).status = .running) :
    TInv sc (run sc k (init sc)) := Lc.run_inv sc (RInv sc) (rinv_step sc) k _ (rinv_init sc) hr

/-- the initial potential is exactly the explicit fuel bound -/
theorem mu_init_eq (sc : Scen) : mu sc (init sc) = fuelBound sc := by
  have hp : ∀ n, potAux sc (init sc).l1 (init sc).stack n = work sc n := by
    intro n; simp [potAux, init]
  simp only [mu, muRun, fuelBound]
  rw [if_pos (show (init sc).status = .running from rfl)]
  have : sc.names.map (potAux sc (init sc).l1 (init sc).stack) = sc.names.map (work sc) :=
    List.map_congr_left (fun n _ => hp n)
  rw [this]
  simp only [init]
  omega

/-- start-up stops within `fuelBound sc` steps, for every scenario whatsoever -/
theorem terminates_any (sc : Scen) : (final sc).status ≠ .running := by
  intro hr
  unfold final at hr
  have h := run_bound sc (fuelBound sc) (init sc) (rinv_init sc) hr
  have h2 := mu_init_eq sc
  have h3 := mu_running sc _ hr
  omega

/-- Well-formedness of a scenario as far as termination is concerned. Termination needs nothing about the scenario
    (`terminates_any`): names outside the registry fail in `enter`, duplicates in `names` only make the bound larger. The
    one field is a plainly true fact (the definition registry is a map keyed by name); `terminates` takes it and does
    not use it. -/
structure TermWF (sc : Scen) : Prop where
  names_nodup : sc.names.Nodup

theorem terminates (sc : Scen) (_wf : TermWF sc) : (final sc).status ≠ .running := terminates_any sc

theorem run_stable (sc : Scen) (k m : Nat) :
    (run sc k (init sc)).status ≠ .running → run sc (k + m) (init sc) = run sc k (init sc) := by
  intro h
  rw [run_add]; exact Lc.run_not_running sc m _ h

end Ioc.M2
