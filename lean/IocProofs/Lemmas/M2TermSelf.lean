/-
  The self filter of Inject (component_definition/property.go:72-81) in the factory machine (Ioc.Container, M2):
  no field ever holds its own holder, and a point whose only obtained candidates are the holder itself is an error when
  required and left empty when optional.
-/
import IocProofs.Lemmas.M2Term
namespace Ioc.M2
open Term

/-- no injection point holds (a version of) its own holder -/
def NoSelf (st : St) : Prop := ∀ h i o, o ∈ st.fields h i → o.name ≠ h

namespace Term

/-- the only write stores what went through the filter `o.name != f.name` -/
theorem noSelf_step (sc : Scen) (st : St) (h : NoSelf st) : NoSelf (step sc st) := by
  refine Lc.step_inv_of_rel sc NoSelf (fun st st' h _ hs => ?_) st h
  rcases hs.fields_eq with e | ⟨f, rest, _, _, e⟩
  · rw [NoSelf, e]; exact h
  · intro a i o ho
    rw [e] at ho
    simp only [upd2] at ho
    split at ho
    · rename_i hc
      exact hc.1 ▸ (Lc.metas_sub ho).2
    · exact h a i o ho

end Term

theorem noSelf_reachable (sc : Scen) (k : Nat) : NoSelf (run sc k (init sc)) :=
  Lc.run_inv sc NoSelf (noSelf_step sc) k _ (fun _ _ _ ho => by simp [init] at ho)

/-- the step taken when the top frame has collected a non-empty point and everything it obtained is the holder itself -/
theorem step_self_only (sc : Scen) (st : St) (f : Frame) (rest : List Frame)
    (hr : st.status = .running) (hs : st.stack = f :: rest)
    (hp : f.p < (pts sc f.name).length)
    (hd : f.d = ((pts sc f.name)[f.p]).cands.length)
    (hne : ((pts sc f.name)[f.p]).cands ≠ [])
    (hacc : ∀ o ∈ f.acc, o.name = f.name) :
    step sc st =
      if ((pts sc f.name)[f.p]).required then failAt st f.name
      else { st with stack := { f with p := f.p + 1, d := 0, acc := [] } :: rest } := by
  rcases Lc.step_inject_cases sc st f rest hr hs hp (by omega) with ⟨e, hc | ⟨ho, _⟩⟩ | ⟨e, _, hreq, _⟩ | ⟨_, _, hm, _⟩
  · exact absurd hc hne
  · rw [e, ho]; rfl
  · rw [e, hreq]; rfl
  · exact absurd (List.filter_eq_nil_iff.2 fun o ho => by simp [hacc o ho]) hm

end Ioc.M2
