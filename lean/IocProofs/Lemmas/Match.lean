/-
  Lemmas about Ioc.Match (M3): a closed form of `resolveOne`.
  The pipeline of one injection point is split into named stages
      discovered  →  qualified (qualifier)  →  survivors (self removal)  →  picked (choice loop)
  and `resolveOne_closed` shows that `resolveOne` is exactly their composition.  Nothing here changes the model;
  every stage is a sub-term of `narrow` / `resolveOne` given a name.
-/
import Ioc.Match
import IocProofs.Lemmas.TagConsume
namespace Ioc.Match
open Ioc Ioc.Tag

/-- the `byId` of `resolveOne`: first provider of the enumeration with that id -/
def byId (pop : List Prov) : Nat → Option Prov := fun i => pop.find? (fun p => p.id == i)

/-- the scanner's `Required` default applied to the parsed arguments -/
def effArgs (a0 : Args) : Args := if has a0 kRequired [] then a0 else setArg a0 kRequired []

/-- the func tag's method test (FuncName, or FuncNameAndResult for one of the `returns` items) -/
def methOK (fn : Bytes) (args : Args) (p : Prov) : Bool :=
  match find args kReturns with
  | some rs => rs.any (fun r => funcNameAndResult fn r p)
  | none => funcName fn p

/-- discovery predicate of a by-type point: assignable, and for the func tag exposing the method -/
def found (s : Slot) (fn : Bytes) (args : Args) (p : Prov) : Bool :=
  assignable s.kind p && (if s.isFunc then methOK fn args p else true)

/-- the non-nil Metas handed to filterDependencies -/
def discovered (pop : List Prov) (s : Slot) (v : Bytes) (args : Args) : List Nat :=
  (if s.isFunc then candidatesFunc pop s.kind v args else candidatesWire pop s.kind v).filterMap id

/-- the qualifier test of filterDependencies on one candidate -/
def qualPred (byId : Nat → Option Prov) (args : Args) (c : Nat) : Bool :=
  match byId c with
  | some p => (match p.qual with
      | some q => has args kQualifier [q]
      | none => false)
  | none => false

def qualFilter (byId : Nat → Option Prov) (args : Args) (r1 : List Nat) : List Nat :=
  match find args kQualifier with
  | some _ => r1.filter (qualPred byId args)
  | none => r1

/-- the holder is dropped when somebody else remains -/
def selfRemoved (holder : Nat) (r2 : List Nat) : List Nat :=
  if (r2.filter (· != holder)).isEmpty then r2 else r2.filter (· != holder)

/-- the value check of Inject on one candidate -/
def incompatPred (byId : Nat → Option Prov) (k : Kind) (c : Nat) : Bool :=
  match byId c with
  | some p => !injAssignable k p
  | none => true

/-- candidates after the qualifier filter -/
def qualified (pop : List Prov) (s : Slot) (v : Bytes) (a0 : Args) : List Nat :=
  qualFilter (byId pop) (effArgs a0) (discovered pop s v (effArgs a0))

/-- what the Primary / unnamed loop chooses from (single-valued points) -/
def survivorsOf (pop : List Prov) (s : Slot) (v : Bytes) (a0 : Args) : List Nat :=
  selfRemoved s.holder (qualified pop s v a0)

/-- `prop.Injects` at the end of the iteration -/
def picked (pop : List Prov) (s : Slot) (v : Bytes) (a0 : Args) : List Nat :=
  if s.kind.isSlice then qualified pop s v a0
  else match choose (byId pop) (survivorsOf pop s v a0) with
    | some c => [c]
    | none => []

theorem find_effArgs (a0 : Args) (k : Bytes) (hk : formatArgType? k ≠ some kRequired) :
    find (effArgs a0) k = find a0 k := by
  unfold effArgs; split
  · rfl
  · exact find_setRequired a0 k hk []

theorem kQualifier_ne : formatArgType? kQualifier ≠ some kRequired := by decide

theorem find_effArgs_qual (a0 : Args) : find (effArgs a0) kQualifier = find a0 kQualifier :=
  find_effArgs a0 kQualifier kQualifier_ne

theorem find_effArgs_returns (a0 : Args) : find (effArgs a0) kReturns = find a0 kReturns :=
  find_effArgs a0 kReturns (by decide)

theorem has_effArgs (a0 : Args) (k : Bytes) (hk : formatArgType? k ≠ some kRequired) (w : List Bytes) :
    has (effArgs a0) k w = has a0 k w := by
  simp only [has, find_effArgs a0 k hk]

-- stated for a variable key above: unfolding `has` at the literal key makes the kernel decode the string
theorem has_effArgs_qual (a0 : Args) (w : List Bytes) : has (effArgs a0) kQualifier w = has a0 kQualifier w :=
  has_effArgs a0 kQualifier kQualifier_ne w

theorem methOK_effArgs (fn : Bytes) (a0 : Args) (p : Prov) : methOK fn (effArgs a0) p = methOK fn a0 p := by
  simp only [methOK, find_effArgs_returns]

/-- the scanner default never changes whether a point is required -/
theorem isRequired_effArgs (a0 : Args) : isRequired (effArgs a0) = isRequired a0 := by
  unfold effArgs; split
  · rfl
  · next h => exact isRequired_marker a0 (by simpa using h)

theorem byId_some {pop : List Prov} {c : Nat} {p : Prov} (h : byId pop c = some p) : p ∈ pop ∧ p.id = c := by
  unfold byId at h
  have h1 := List.find?_some h
  exact ⟨List.mem_of_find?_eq_some h, by simpa using h1⟩

theorem eq_of_key_nodup {α β : Type} (key : α → β) :
    ∀ (l : List α), (l.map key).Nodup → ∀ a ∈ l, ∀ b ∈ l, key a = key b → a = b
  | [], _, a, ha, _, _, _ => by cases ha
  | x :: l, hnd, a, ha, b, hb, hk => by
    rw [List.map_cons, List.nodup_cons] at hnd
    rcases List.mem_cons.mp ha with rfl | ha' <;> rcases List.mem_cons.mp hb with rfl | hb'
    · rfl
    · exact absurd (hk ▸ List.mem_map_of_mem hb') hnd.1
    · exact absurd (hk ▸ List.mem_map_of_mem ha') hnd.1
    · exact eq_of_key_nodup key l hnd.2 a ha' b hb' hk

theorem find?_key_of_mem {α β : Type} [BEq β] [LawfulBEq β] (key : α → β) (l : List α) (hnd : (l.map key).Nodup)
    (a : α) (ha : a ∈ l) : l.find? (fun x => key x == key a) = some a := by
  cases h : l.find? (fun x => key x == key a) with
  | none =>
    rw [List.find?_eq_none] at h
    exact absurd (by simp) (h a ha)
  | some b =>
    have hb := List.mem_of_find?_eq_some h
    have hk : key b = key a := by simpa using List.find?_some h
    rw [eq_of_key_nodup key l hnd b hb a ha hk]

theorem byId_of_mem {pop : List Prov} (hid : (pop.map (·.id)).Nodup) {p : Prov} (hp : p ∈ pop) :
    byId pop p.id = some p :=
  find?_key_of_mem (fun q : Prov => q.id) pop hid p hp

theorem find?_key_perm {α β : Type} [BEq β] [LawfulBEq β] (key : α → β) {l l' : List α} (hperm : l.Perm l')
    (hnd : (l.map key).Nodup) (k : β) : l.find? (fun x => key x == k) = l'.find? (fun x => key x == k) := by
  have hnd' : (l'.map key).Nodup := (hperm.map key).nodup_iff.mp hnd
  cases h : l.find? (fun x => key x == k) with
  | some a =>
    have ha := List.mem_of_find?_eq_some h
    have hk : key a = k := by simpa using List.find?_some h
    subst hk
    exact (find?_key_of_mem key l' hnd' a (hperm.mem_iff.mp ha)).symm
  | none =>
    symm
    rw [List.find?_eq_none] at h ⊢
    intro x hx
    exact h x (hperm.mem_iff.mpr hx)

theorem byId_perm {pop pop' : List Prov} (hperm : pop.Perm pop') (hid : (pop.map (·.id)).Nodup) :
    byId pop = byId pop' := by
  funext c
  exact find?_key_perm (fun q : Prov => q.id) hperm hid c

theorem narrow_eq (byId : Nat → Option Prov) (holder : Nat) (k : Kind) (args : Args) (cs : List (Option Nat)) :
    narrow byId holder k args cs =
      if (cs.filterMap id).isEmpty then (if isRequired args then .fail else .skip)
      else if (qualFilter byId args (cs.filterMap id)).isEmpty then (if isRequired args then .fail else .skip)
      else if (qualFilter byId args (cs.filterMap id)).length > 1 && k.isSingle then
        match choose byId (selfRemoved holder (qualFilter byId args (cs.filterMap id))) with
        | some c => .ok [c]
        | none => .ok (selfRemoved holder (qualFilter byId args (cs.filterMap id)))
      else .ok (qualFilter byId args (cs.filterMap id)) := by
  rfl

theorem qualFilter_nil (byId : Nat → Option Prov) (args : Args) : qualFilter byId args [] = [] := by
  unfold qualFilter; split <;> rfl

theorem selfRemoved_eq_nil (holder : Nat) (l : List Nat) : selfRemoved holder l = [] ↔ l = [] := by
  unfold selfRemoved
  split
  · exact Iff.rfl
  · rename_i h
    constructor
    · intro e; rw [e] at h; simp at h
    · intro e; subst e; rfl

theorem selfRemoved_single (holder x : Nat) : selfRemoved holder [x] = [x] := by
  unfold selfRemoved
  by_cases h : x = holder <;> simp [h]

theorem chooseGo_nil (byId : Nat → Option Prov) (c : Nat) : chooseGo byId [] c = c := rfl

theorem choose_single (byId : Nat → Option Prov) (x : Nat) : choose byId [x] = some x := by
  simp only [choose, chooseGo]
  cases byId x with
  | none => rfl
  | some p => simp only; split
              · rfl
              · simp

theorem choose_eq_none_iff (byId : Nat → Option Prov) (l : List Nat) : choose byId l = none ↔ l = [] := by
  cases l <;> simp [choose]

theorem choose_isSome (byId : Nat → Option Prov) (l : List Nat) (h : l ≠ []) : ∃ c, choose byId l = some c := by
  cases l with
  | nil => exact absurd rfl h
  | cons m rest => exact ⟨_, rfl⟩

/-- `narrow` without its length test: for one remaining candidate the choice loop is the identity, and an empty
    candidate list stays empty under the qualifier filter -/
theorem narrow_closed (byId : Nat → Option Prov) (holder : Nat) (k : Kind) (args : Args) (cs : List (Option Nat)) :
    narrow byId holder k args cs =
      if qualFilter byId args (cs.filterMap id) = [] then (if isRequired args then .fail else .skip)
      else if k.isSlice then .ok (qualFilter byId args (cs.filterMap id))
      else match choose byId (selfRemoved holder (qualFilter byId args (cs.filterMap id))) with
        | some c => .ok [c]
        | none => .ok [] := by
  rw [narrow_eq]
  cases hr1 : cs.filterMap id with
  | nil => simp [qualFilter_nil]
  | cons a l =>
    generalize qualFilter byId args (a :: l) = r2
    match r2 with
    | [] => simp
    | [x] => cases hk : k.isSlice <;> simp [Kind.isSingle, hk, selfRemoved_single, choose_single]
    | x :: y :: t =>
      obtain ⟨c, hc⟩ := choose_isSome byId (selfRemoved holder (x :: y :: t)) (by simp [selfRemoved_eq_nil])
      cases hk : k.isSlice <;> simp [Kind.isSingle, hk, hc]

theorem resolveOne_unfold (pop : List Prov) (s : Slot) (v : Bytes) (a0 : Args) (hp : parse? s.tag = some (v, a0)) :
    resolveOne pop s =
      match narrow (byId pop) s.holder s.kind (effArgs a0)
          (if s.isFunc then candidatesFunc pop s.kind v (effArgs a0) else candidatesWire pop s.kind v) with
      | .fail => none
      | .skip => some { cands := [], slice := s.kind.isSlice, required := isRequired (effArgs a0), incompat := [] }
      | .ok l => some { cands := l, slice := s.kind.isSlice, required := isRequired (effArgs a0),
                        incompat := l.filter (incompatPred (byId pop) s.kind) } := by
  unfold resolveOne
  rw [hp]
  rfl

/-- CLOSED FORM of `resolveOne`: a start-up error exactly when a required point has no qualified candidate;
    otherwise the picked candidates, with the incompatible ones marked. -/
theorem resolveOne_closed (pop : List Prov) (s : Slot) (v : Bytes) (a0 : Args) (hp : parse? s.tag = some (v, a0)) :
    resolveOne pop s =
      if qualified pop s v a0 = [] ∧ isRequired a0 = true then none
      else some { cands := picked pop s v a0, slice := s.kind.isSlice, required := isRequired a0,
                  incompat := (picked pop s v a0).filter (incompatPred (byId pop) s.kind) } := by
  have hq : qualFilter (byId pop) (effArgs a0) ((if s.isFunc then candidatesFunc pop s.kind v (effArgs a0)
      else candidatesWire pop s.kind v).filterMap id) = qualified pop s v a0 := rfl
  rw [resolveOne_unfold pop s v a0 hp, narrow_closed, isRequired_effArgs, hq]
  unfold picked survivorsOf
  by_cases he : qualified pop s v a0 = []
  · cases isRequired a0 <;> cases s.kind.isSlice <;> simp [he, selfRemoved, choose]
  · cases s.kind.isSlice with
    | true => simp [he]
    | false => cases choose (byId pop) (selfRemoved s.holder (qualified pop s v a0)) <;> simp [he]

end Ioc.Match
