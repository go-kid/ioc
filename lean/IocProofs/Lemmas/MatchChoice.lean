/-
  Lemmas about the preference loop of filterDependencies (`chooseGo` / `choose`): what it picks,
  when the pick is forced (no tie), and that a forced pick does not depend on the order of the list.
-/
import IocProofs.Lemmas.Match
namespace Ioc.Match
open Ioc Ioc.Tag

/-- the candidate implements WirePrimary -/
def isPrim (byId : Nat → Option Prov) (m : Nat) : Bool :=
  match byId m with
  | some p => p.primary
  | none => false

/-- the candidate has no custom name (`!IsAlias()`) -/
def isUnn (byId : Nat → Option Prov) (m : Nat) : Bool :=
  match byId m with
  | some p => !p.custom
  | none => false

theorem chooseGo_cons (byId : Nat → Option Prov) (m : Nat) (rest : List Nat) (cand : Nat) :
    chooseGo byId (m :: rest) cand =
      if isPrim byId m then m else if isUnn byId m then chooseGo byId rest m else chooseGo byId rest cand := by
  cases h : byId m <;> simp [chooseGo, isPrim, isUnn, h]

/-- the loop in closed form: the FIRST Primary, else the LAST unnamed candidate, else what it started with -/
theorem chooseGo_eq (byId : Nat → Option Prov) (l : List Nat) (cand : Nat) :
    chooseGo byId l cand =
      (l.find? (isPrim byId)).getD (((l.filter (isUnn byId)).getLast?).getD cand) := by
  induction l generalizing cand with
  | nil => rfl
  | cons m ms ih =>
    rw [chooseGo_cons]
    cases hp : isPrim byId m <;> cases hu : isUnn byId m <;>
      simp [List.getLast?_cons, hp, hu, ih]

/-- what the property needs: membership, Primary wins, else unnamed wins -/
theorem choose_spec (byId : Nat → Option Prov) (l : List Nat) (r : Nat) (h : choose byId l = some r) :
    r ∈ l ∧
    ((∃ m ∈ l, isPrim byId m = true) → isPrim byId r = true) ∧
    ((∀ m ∈ l, isPrim byId m = false) → (∃ m ∈ l, isUnn byId m = true) → isUnn byId r = true) := by
  cases l with
  | nil => cases h
  | cons c cs =>
    obtain rfl := Option.some.inj h
    rw [chooseGo_eq]
    cases hf : (c :: cs).find? (isPrim byId) with
    | some m =>
      have hm := List.mem_of_find?_eq_some hf
      have hp : isPrim byId m = true := List.find?_some hf
      exact ⟨hm, fun _ => hp, fun hn => absurd hp (by simp [hn m hm])⟩
    | none =>
      have hnp : ∀ m ∈ c :: cs, ¬ isPrim byId m = true := List.find?_eq_none.mp hf
      have h2 : ∀ {P : Prop}, (∃ m ∈ c :: cs, isPrim byId m = true) → P := fun ⟨m, hm, hp⟩ => absurd hp (hnp m hm)
      cases hg : ((c :: cs).filter (isUnn byId)).getLast? with
      | some u =>
        have hu := List.mem_filter.mp (List.mem_of_getLast? hg)
        exact ⟨hu.1, h2, fun _ _ => hu.2⟩
      | none =>
        have hn := List.getLast?_eq_none_iff.mp hg
        exact ⟨List.mem_cons_self, h2, fun _ ⟨m, hm, hu⟩ => absurd (List.mem_filter.mpr ⟨hm, hu⟩) (by simp [hn])⟩

theorem choose_unique_primary (byId : Nat → Option Prov) (l : List Nat) (c : Nat) (hc : c ∈ l)
    (hcp : isPrim byId c = true) (huniq : ∀ m ∈ l, isPrim byId m = true → m = c) :
    choose byId l = some c := by
  obtain ⟨r, hr⟩ := choose_isSome byId l (List.ne_nil_of_mem hc)
  have := choose_spec byId l r hr
  rw [hr, huniq r this.1 (this.2.1 ⟨c, hc, hcp⟩)]

theorem choose_unique_unnamed (byId : Nat → Option Prov) (l : List Nat) (u : Nat) (hu : u ∈ l)
    (huc : isUnn byId u = true) (hnp : ∀ m ∈ l, isPrim byId m = false)
    (huniq : ∀ m ∈ l, isUnn byId m = true → m = u) :
    choose byId l = some u := by
  obtain ⟨r, hr⟩ := choose_isSome byId l (List.ne_nil_of_mem hu)
  have := choose_spec byId l r hr
  rw [hr, huniq r this.1 (this.2.2 hnp ⟨u, hu, huc⟩)]

/-- the equally ranked candidates the loop chooses among: the Primaries if any, else the unnamed if any, else all -/
def tiedSetL (byId : Nat → Option Prov) (l : List Nat) : List Nat :=
  if (l.filter (isPrim byId)).isEmpty then
    (if (l.filter (isUnn byId)).isEmpty then l else l.filter (isUnn byId))
  else l.filter (isPrim byId)

/-- more than one Primary, or no Primary and more than one unnamed, or neither and more than one candidate -/
def TiedL (byId : Nat → Option Prov) (l : List Nat) : Bool :=
  decide ((l.filter (isPrim byId)).length > 1) ||
  ((l.filter (isPrim byId)).isEmpty &&
    (decide ((l.filter (isUnn byId)).length > 1) ||
     ((l.filter (isUnn byId)).isEmpty && decide (l.length > 1))))

theorem filter_isEmpty_iff {α : Type} (q : α → Bool) (l : List α) :
    (l.filter q).isEmpty = true ↔ ∀ m ∈ l, q m = false := by
  rw [List.isEmpty_iff, List.filter_eq_nil_iff]
  constructor
  · intro h m hm; simpa using h m hm
  · intro h m hm; simp [h m hm]

theorem choose_mem_tiedSetL (byId : Nat → Option Prov) (l : List Nat) (c : Nat) (h : choose byId l = some c) :
    c ∈ tiedSetL byId l := by
  have sp := choose_spec byId l c h
  have ex : ∀ {q : Nat → Bool}, ¬ (l.filter q).isEmpty = true → ∃ m ∈ l, q m = true := fun hq => by
    simpa using hq
  unfold tiedSetL
  split
  · next hP =>
    split
    · exact sp.1
    · next hU => exact List.mem_filter.mpr ⟨sp.1, sp.2.2 ((filter_isEmpty_iff _ _).mp hP) (ex hU)⟩
  · next hP => exact List.mem_filter.mpr ⟨sp.1, sp.2.1 (ex hP)⟩

theorem length_one_of {α : Type} (l : List α) (h1 : l.isEmpty = false) (h2 : ¬ l.length > 1) : ∃ c, l = [c] := by
  match l, h1, h2 with
  | [c], _, _ => exact ⟨c, rfl⟩
  | _ :: _ :: _, _, h2 => simp at h2

/-- without a tie the tied set is a single candidate -/
theorem tiedSetL_single (byId : Nat → Option Prov) (l : List Nat) (hne : l ≠ []) (ht : TiedL byId l = false) :
    ∃ c, tiedSetL byId l = [c] := by
  unfold TiedL at ht
  unfold tiedSetL
  cases hP : (l.filter (isPrim byId)).isEmpty <;> rw [hP] at ht
  · exact length_one_of (l.filter (isPrim byId)) hP (by simpa using ht)
  cases hU : (l.filter (isUnn byId)).isEmpty <;> rw [hU] at ht
  · exact length_one_of (l.filter (isUnn byId)) hU (by simp at ht; omega)
  · exact length_one_of l (by simpa using hne) (by simp at ht; omega)

/-- the choice is FORCED when there is no tie -/
theorem choose_untied (byId : Nat → Option Prov) (l : List Nat) (c : Nat) (h : choose byId l = some c)
    (ht : TiedL byId l = false) : tiedSetL byId l = [c] := by
  have hne : l ≠ [] := List.ne_nil_of_mem (choose_spec byId l c h).1
  obtain ⟨d, hd⟩ := tiedSetL_single byId l hne ht
  have := choose_mem_tiedSetL byId l c h
  rw [hd] at this ⊢
  rw [List.mem_singleton.mp this]

theorem tiedSetL_perm (byId : Nat → Option Prov) {l l' : List Nat} (h : l.Perm l') :
    (tiedSetL byId l).Perm (tiedSetL byId l') := by
  unfold tiedSetL
  rw [(h.filter (isPrim byId)).isEmpty_eq, (h.filter (isUnn byId)).isEmpty_eq]
  split
  · split
    · exact h
    · exact h.filter _
  · exact h.filter _

theorem TiedL_perm (byId : Nat → Option Prov) {l l' : List Nat} (h : l.Perm l') : TiedL byId l = TiedL byId l' := by
  unfold TiedL
  rw [(h.filter (isPrim byId)).isEmpty_eq, (h.filter (isUnn byId)).isEmpty_eq,
    (h.filter (isPrim byId)).length_eq, (h.filter (isUnn byId)).length_eq, h.length_eq]

/-- ORDER INDEPENDENCE of the choice for an untied point -/
theorem choose_perm_untied (byId : Nat → Option Prov) {l l' : List Nat} (hperm : l.Perm l')
    (ht : TiedL byId l = false) : choose byId l = choose byId l' := by
  cases l with
  | nil => rw [hperm.nil_eq]
  | cons x xs =>
    obtain ⟨c, h⟩ := choose_isSome byId (x :: xs) (by simp)
    obtain ⟨c', h'⟩ := choose_isSome byId l' (by rintro rfl; simpa using hperm)
    have := tiedSetL_perm byId hperm
    rw [choose_untied byId _ c h ht, choose_untied byId l' c' h' (TiedL_perm byId hperm ▸ ht)] at this
    rw [h, h', List.singleton_perm_singleton.mp this]

theorem selfRemoved_perm (holder : Nat) {l l' : List Nat} (h : l.Perm l') :
    (selfRemoved holder l).Perm (selfRemoved holder l') := by
  unfold selfRemoved
  rw [(h.filter (· != holder)).isEmpty_eq]
  split
  · exact h
  · exact h.filter _

theorem qualFilter_perm (byId : Nat → Option Prov) (args : Args) {l l' : List Nat} (h : l.Perm l') :
    (qualFilter byId args l).Perm (qualFilter byId args l') := by
  unfold qualFilter
  split
  · exact h.filter _
  · exact h

theorem discovered_perm {pop pop' : List Prov} (hperm : pop.Perm pop') (hnm : (pop.map (·.name)).Nodup)
    (s : Slot) (v : Bytes) (args : Args) : (discovered pop s v args).Perm (discovered pop' s v args) := by
  unfold discovered
  cases s.isFunc
  · simp only [Bool.false_eq_true, if_false]
    unfold candidatesWire
    split
    · cases typeOption s.kind with
      | none => exact List.Perm.refl _
      | some f => exact ((hperm.filter f).map _).filterMap _
    · have e := find?_key_perm (fun q : Prov => q.name) hperm hnm v
      rw [e]
  · simp only [if_true]
    unfold candidatesFunc
    cases typeOption s.kind with
    | none => exact List.Perm.refl _
    | some f => exact ((hperm.filter _).map _).filterMap _

theorem qualified_perm {pop pop' : List Prov} (hperm : pop.Perm pop') (hid : (pop.map (·.id)).Nodup)
    (hnm : (pop.map (·.name)).Nodup) (s : Slot) (v : Bytes) (a0 : Args) :
    (qualified pop s v a0).Perm (qualified pop' s v a0) := by
  unfold qualified
  rw [← byId_perm hperm hid]
  exact qualFilter_perm _ _ (discovered_perm hperm hnm s v _)

theorem survivorsOf_perm {pop pop' : List Prov} (hperm : pop.Perm pop') (hid : (pop.map (·.id)).Nodup)
    (hnm : (pop.map (·.name)).Nodup) (s : Slot) (v : Bytes) (a0 : Args) :
    (survivorsOf pop s v a0).Perm (survivorsOf pop' s v a0) :=
  selfRemoved_perm _ (qualified_perm hperm hid hnm s v a0)

/-- a single-valued point holds what the choice loop picks among the survivors, if anything -/
theorem picked_of_single (pop : List Prov) (s : Slot) (v : Bytes) (a0 : Args) (hs : s.kind.isSlice = false) :
    picked pop s v a0 = (choose (byId pop) (survivorsOf pop s v a0)).toList := by
  unfold picked
  rw [hs]
  cases choose (byId pop) (survivorsOf pop s v a0) <;> rfl

theorem picked_single (pop : List Prov) (s : Slot) (v : Bytes) (a0 : Args) (hs : s.kind.isSlice = false) :
    (qualified pop s v a0 = [] ∧ picked pop s v a0 = []) ∨
    (∃ c, choose (byId pop) (survivorsOf pop s v a0) = some c ∧ picked pop s v a0 = [c]) := by
  rw [picked_of_single pop s v a0 hs]
  cases h : choose (byId pop) (survivorsOf pop s v a0) with
  | some c => exact .inr ⟨c, rfl, rfl⟩
  | none => exact .inl ⟨(selfRemoved_eq_nil s.holder _).mp ((choose_eq_none_iff _ _).mp h), rfl⟩

theorem selfRemoved_subset (holder : Nat) (l : List Nat) : ∀ c ∈ selfRemoved holder l, c ∈ l := by
  intro c hc
  unfold selfRemoved at hc
  split at hc
  · exact hc
  · exact (List.mem_filter.mp hc).1

/-- whatever is injected was qualified by the qualifier filter -/
theorem picked_subset_qualified (pop : List Prov) (s : Slot) (v : Bytes) (a0 : Args) :
    ∀ c ∈ picked pop s v a0, c ∈ qualified pop s v a0 := by
  intro c hc
  cases hs : s.kind.isSlice with
  | true => simpa [picked, hs] using hc
  | false =>
    rw [picked_of_single pop s v a0 hs, Option.mem_toList] at hc
    exact selfRemoved_subset _ _ _ (choose_spec _ _ _ hc).1

theorem picked_length_single (pop : List Prov) (s : Slot) (v : Bytes) (a0 : Args) (hs : s.kind.isSlice = false) :
    (picked pop s v a0).length ≤ 1 := by
  rcases picked_single pop s v a0 hs with ⟨_, h⟩ | ⟨d, _, h⟩ <;> rw [h] <;> simp

end Ioc.Match
