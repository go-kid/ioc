/-
  Lemmas about Ioc.Match at the level of one resolved point (`resolveOne`): soundness of what is injected,
  the by-name point, the empty optional point, the loop `resolveAll`, and order independence.
-/
import IocProofs.Lemmas.MatchSpec
namespace Ioc.Match
open Ioc Ioc.Tag

/-- reading a successful `resolveOne` through the closed form -/
theorem resolveOne_some {pop : List Prov} {s : Slot} {v : Bytes} {a0 : Args} {pt : RPoint}
    (hp : parse? s.tag = some (v, a0)) (h : resolveOne pop s = some pt) :
    pt.cands = picked pop s v a0 ∧ pt.slice = s.kind.isSlice ∧ pt.required = isRequired a0 ∧
    pt.incompat = (picked pop s v a0).filter (incompatPred (byId pop) s.kind) ∧
    (qualified pop s v a0 = [] → isRequired a0 = false) := by
  rw [resolveOne_closed pop s v a0 hp] at h
  split at h
  · cases h
  · next hn =>
    cases h
    exact ⟨rfl, rfl, rfl, rfl, fun he => by simpa [he] using hn⟩

theorem found_assignable {s : Slot} {v : Bytes} {a0 : Args} {p : Prov} (h : found s v a0 p = true) :
    assignable s.kind p = true := by
  unfold found at h
  simp only [Bool.and_eq_true] at h
  exact h.1

theorem found_methOK {s : Slot} {v : Bytes} {a0 : Args} {p : Prov} (hf : s.isFunc = true) (h : found s v a0 p = true) :
    methOK v a0 p = true := by
  unfold found at h
  simp only [Bool.and_eq_true, hf, if_true] at h
  exact h.2

theorem found_wire {s : Slot} (hf : s.isFunc = false) (v : Bytes) (a0 : Args) (p : Prov) :
    found s v a0 p = assignable s.kind p := by
  simp [found, hf]

/-- SOUNDNESS of a by-type point: everything injected passed the discovery test -/
theorem picked_found (pop : List Prov) (s : Slot) (v : Bytes) (a0 : Args) (hb : ByType s v) :
    ∀ c ∈ picked pop s v a0, ∃ p ∈ pop, p.id = c ∧ found s v a0 p = true :=
  fun c hc => mem_qualified_found pop s v a0 hb c (picked_subset_qualified pop s v a0 c hc)

theorem injAssignable_raw {k : Kind} {p : Prov} (h : p.inj = none) : injAssignable k p = assignable k p := by
  simp [injAssignable, h]

/-- no post-processor substitutes an object of another Go type (`hraw`): what was discovered by type is assignable -/
theorem picked_compat_nil (pop : List Prov) (hid : (pop.map (·.id)).Nodup) (hraw : ∀ p ∈ pop, p.inj = none)
    (s : Slot) (v : Bytes) (a0 : Args)
    (hb : ByType s v) : (picked pop s v a0).filter (incompatPred (byId pop) s.kind) = [] := by
  rw [List.filter_eq_nil_iff]
  intro c hc
  obtain ⟨p, hp, rfl, hf⟩ := picked_found pop s v a0 hb c hc
  unfold incompatPred
  rw [byId_of_mem hid hp]
  simp [injAssignable_raw (hraw p hp), found_assignable hf]

/-- a resolved by-type point: every candidate passed the discovery test, and nothing is marked incompatible unless a
    post-processor substitutes an object of another Go type -/
theorem resolveOne_sound {pop : List Prov} {s : Slot} {v : Bytes} {a0 : Args} {pt : RPoint} (hb : ByType s v)
    (hp : parse? s.tag = some (v, a0)) (h : resolveOne pop s = some pt) :
    (∀ c ∈ pt.cands, ∃ p ∈ pop, p.id = c ∧ found s v a0 p = true) ∧
    ((pop.map (·.id)).Nodup → (∀ p ∈ pop, p.inj = none) → pt.incompat = []) := by
  obtain ⟨hc, _, _, hi, _⟩ := resolveOne_some hp h
  exact ⟨hc ▸ picked_found pop s v a0 hb, fun hid hraw => hi ▸ picked_compat_nil pop hid hraw s v a0 hb⟩

theorem selfRemoved_ne (holder : Nat) (l : List Nat) (hex : ∃ d ∈ l, d ≠ holder) :
    ∀ c ∈ selfRemoved holder l, c ≠ holder := by
  intro c hc
  unfold selfRemoved at hc
  split at hc
  · rename_i he
    obtain ⟨d, hd, hne⟩ := hex
    rw [List.isEmpty_iff, List.filter_eq_nil_iff] at he
    exact absurd (by simpa using hne) (he d hd)
  · simpa using (List.mem_filter.mp hc).2

/-- a single-valued point never picks its own holder while somebody else is qualified -/
theorem picked_single_ne_holder (pop : List Prov) (s : Slot) (v : Bytes) (a0 : Args) (hs : s.kind.isSlice = false)
    (hex : ∃ d ∈ qualified pop s v a0, d ≠ s.holder) : ∀ c ∈ picked pop s v a0, c ≠ s.holder := by
  intro c hc
  rcases picked_single pop s v a0 hs with ⟨_, h⟩ | ⟨d, hd, h⟩
  · rw [h] at hc; cases hc
  · rw [h, List.mem_singleton] at hc
    exact hc ▸ selfRemoved_ne _ _ hex _ (choose_spec _ _ _ hd).1

theorem picked_single_length (pop : List Prov) (s : Slot) (v : Bytes) (a0 : Args) (hs : s.kind.isSlice = false)
    (hne : qualified pop s v a0 ≠ []) : (picked pop s v a0).length = 1 := by
  rcases picked_single pop s v a0 hs with ⟨h, _⟩ | ⟨d, _, h⟩
  · exact absurd h hne
  · rw [h]; rfl

/-- a single-valued point receives exactly what the ranking picks among the survivors -/
theorem resolveOne_of_choose (pop : List Prov) (s : Slot) (v : Bytes) (a0 : Args) (c : Nat)
    (hp : parse? s.tag = some (v, a0)) (hs : s.kind.isSlice = false)
    (hch : choose (byId pop) (survivorsOf pop s v a0) = some c) : ∃ pt, resolveOne pop s = some pt ∧ pt.cands = [c] := by
  have hc := (choose_spec _ _ _ hch).1
  have hne : qualified pop s v a0 ≠ [] := fun e => by
    unfold survivorsOf at hc; rw [e] at hc; cases hc
  rw [resolveOne_closed pop s v a0 hp, if_neg (fun h => hne h.1)]
  refine ⟨_, rfl, ?_⟩
  show picked pop s v a0 = [c]
  unfold picked; rw [hs, hch]; rfl

theorem qualFilter_none (byId : Nat → Option Prov) (args : Args) (l : List Nat) (h : find args kQualifier = none) :
    qualFilter byId args l = l := by
  unfold qualFilter; rw [h]

theorem resolveOne_named (pop : List Prov) (hid : (pop.map (·.id)).Nodup) (hnm : (pop.map (·.name)).Nodup)
    (s : Slot) (nm : Bytes) (a0 : Args) (p : Prov)
    (hf : s.isFunc = false) (hp : parse? s.tag = some (nm, a0)) (hv : nm ≠ [])
    (hk : (∃ t, s.kind = .ptr t) ∨ (∃ i, s.kind = .iface i))
    (hq : find a0 kQualifier = none) (hm : p ∈ pop) (hn : p.name = nm) :
    resolveOne pop s = some { cands := [p.id], slice := false, required := isRequired a0,
                              incompat := if injAssignable s.kind p then [] else [p.id] } := by
  have hs : s.kind.isSlice = false := by
    rcases hk with ⟨t, h⟩ | ⟨i, h⟩ <;> rw [h] <;> rfl
  have hadm : qualified pop s nm a0 = [p.id] := by
    unfold qualified
    rw [qualFilter_none _ _ _ (by rw [find_effArgs_qual]; exact hq)]
    exact discovered_named hnm s nm _ hf hv hk hm hn
  have hpk : picked pop s nm a0 = [p.id] := by
    unfold picked survivorsOf
    rw [hs, hadm, selfRemoved_single, choose_single]
    rfl
  rw [resolveOne_closed pop s nm a0 hp, hadm, hpk, hs]
  have hi : incompatPred (byId pop) s.kind p.id = !injAssignable s.kind p := by
    unfold incompatPred; rw [byId_of_mem hid hm]
  cases ha : injAssignable s.kind p <;> simp [List.filter, hi, ha]

theorem resolveOne_empty (pop : List Prov) (s : Slot) (v : Bytes) (a0 : Args)
    (hp : parse? s.tag = some (v, a0)) (he : qualified pop s v a0 = []) :
    resolveOne pop s = if isRequired a0 = true then none
      else some { cands := [], slice := s.kind.isSlice, required := false, incompat := [] } := by
  rw [resolveOne_closed pop s v a0 hp]
  have hpk : picked pop s v a0 = [] := by
    apply List.eq_nil_iff_forall_not_mem.mpr
    intro c hc
    have := picked_subset_qualified pop s v a0 c hc
    rw [he] at this; cases this
  cases hr : isRequired a0 <;> simp [he, hpk]

theorem qualified_nil_of_discovered_nil (pop : List Prov) (s : Slot) (v : Bytes) (a0 : Args)
    (h : discovered pop s v (effArgs a0) = []) : qualified pop s v a0 = [] := by
  unfold qualified; rw [h, qualFilter_nil]

theorem resolveAll_eq_mapM (pop : List Prov) (slots : List Slot) :
    resolveAll pop slots = slots.mapM (resolveOne pop) := by
  induction slots with
  | nil => rfl
  | cons s rest ih =>
    rw [List.mapM_cons, resolveAll, ih]
    cases resolveOne pop s with
    | none => rfl
    | some p =>
      cases List.mapM (resolveOne pop) rest <;> rfl

/-- success iff every field resolves, and then the i-th point is `resolveOne` of the i-th field -/
theorem resolveAll_some_iff (pop : List Prov) (slots : List Slot) (pts : List RPoint) :
    resolveAll pop slots = some pts ↔ slots.map (resolveOne pop) = pts.map some := by
  induction slots generalizing pts with
  | nil => cases pts <;> simp [resolveAll]
  | cons s rest ih =>
    rw [resolveAll, List.map_cons]
    cases h1 : resolveOne pop s with
    | none => cases pts <;> simp
    | some p =>
      cases pts with
      | nil => cases resolveAll pop rest <;> simp
      | cons a t =>
        rw [List.map_cons, List.cons.injEq, Option.some.injEq, ← ih t]
        cases resolveAll pop rest <;> simp

theorem eq_nil_perm {α : Type} {l l' : List α} (h : l.Perm l') : l = [] ↔ l' = [] := by
  constructor
  · intro e; subst e; exact h.nil_eq.symm
  · intro e; subst e; exact h.symm.nil_eq.symm

/-- the core of C10_choice_perm, relative to the parsed tag -/
theorem resolveOne_perm {pop pop' : List Prov} (hperm : pop.Perm pop') (hid : (pop.map (·.id)).Nodup)
    (hnm : (pop.map (·.name)).Nodup) (s : Slot) (v : Bytes) (a0 : Args) (hp : parse? s.tag = some (v, a0)) :
    (resolveOne pop s = none ∧ resolveOne pop' s = none) ∨
    ∃ a b, resolveOne pop s = some a ∧ resolveOne pop' s = some b ∧
      a.required = b.required ∧ a.slice = b.slice ∧
      (∃ bad : Nat → Bool, a.incompat = a.cands.filter bad ∧ b.incompat = b.cands.filter bad) ∧
      (s.kind.isSlice = true → a.cands.Perm b.cands) ∧
      (s.kind.isSlice = false → TiedL (byId pop) (survivorsOf pop s v a0) = false → a.cands = b.cands) ∧
      (s.kind.isSlice = false →
        (∀ c ∈ a.cands, c ∈ tiedSetL (byId pop) (survivorsOf pop s v a0)) ∧
        (∀ c ∈ b.cands, c ∈ tiedSetL (byId pop) (survivorsOf pop s v a0))) := by
  have hadm := qualified_perm hperm hid hnm s v a0
  have hsur := survivorsOf_perm hperm hid hnm s v a0
  have hby := byId_perm hperm hid
  rw [resolveOne_closed pop s v a0 hp, resolveOne_closed pop' s v a0 hp, ← hby]
  simp only [← eq_nil_perm hadm]
  split
  · exact .inl ⟨rfl, rfl⟩
  · refine .inr ⟨_, _, rfl, rfl, rfl, rfl, ⟨incompatPred (byId pop) s.kind, rfl, rfl⟩, fun hs => ?_, fun hs ht => ?_,
      fun hs => ⟨fun c hc => ?_, fun c hc => ?_⟩⟩
    · show (picked pop s v a0).Perm (picked pop' s v a0)
      unfold picked; rw [hs]; exact hadm
    · show picked pop s v a0 = picked pop' s v a0
      rw [picked_of_single _ _ _ _ hs, picked_of_single _ _ _ _ hs, ← hby, choose_perm_untied (byId pop) hsur ht]
    · change c ∈ picked pop s v a0 at hc
      rw [picked_of_single _ _ _ _ hs, Option.mem_toList] at hc
      exact choose_mem_tiedSetL _ _ _ hc
    · change c ∈ picked pop' s v a0 at hc
      rw [picked_of_single _ _ _ _ hs, ← hby, Option.mem_toList] at hc
      exact (tiedSetL_perm (byId pop) hsur).mem_iff.mpr (choose_mem_tiedSetL _ _ _ hc)

end Ioc.Match
