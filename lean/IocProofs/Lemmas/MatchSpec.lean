/-
  Lemmas about Ioc.Match: what the discovery stage finds (by type / func tag / by name) and what the
  qualifier filter accepts, in terms of the providers of the population.
-/
import IocProofs.Lemmas.MatchChoice
namespace Ioc.Match
open Ioc Ioc.Tag

/-- a by-type point: the func tag (its value part is the method name), or a wire tag with empty value part -/
def ByType (s : Slot) (v : Bytes) : Prop := s.isFunc = true ∨ v = []

/-- the qualifier rule on a provider: no qualifier argument accepts everybody; otherwise the provider must declare
    a qualifier that is one of the requested items -/
def qualOK (args : Args) (p : Prov) : Bool :=
  match find args kQualifier with
  | none => true
  | some _ => (match p.qual with
      | some q => has args kQualifier [q]
      | none => false)

theorem found_effArgs (s : Slot) (fn : Bytes) (a0 : Args) (p : Prov) : found s fn (effArgs a0) p = found s fn a0 p := by
  simp only [found, methOK_effArgs]

theorem qualOK_effArgs (a0 : Args) (p : Prov) : qualOK (effArgs a0) p = qualOK a0 p := by
  simp only [qualOK, find_effArgs_qual, has_effArgs_qual]

theorem filterMap_id_map_some {α : Type} (g : α → Nat) (l : List α) :
    (l.map (fun p => some (g p))).filterMap id = l.map g := by
  induction l with
  | nil => rfl
  | cons a t ih => simp [ih]

/-- discovery by type: exactly the providers passing the type test (and the method test), in enumeration order -/
theorem discovered_byType (pop : List Prov) (s : Slot) (v : Bytes) (args : Args) (hb : ByType s v) :
    discovered pop s v args = (pop.filter (found s v args)).map (·.id) := by
  unfold discovered found assignable
  cases hf : s.isFunc
  · obtain rfl : v = [] := hb.resolve_left (by simp [hf])
    simp only [Bool.false_eq_true, if_false, candidatesWire, List.isEmpty_nil, if_true, Bool.and_true]
    cases typeOption s.kind with
    | none => simp
    | some f => exact filterMap_id_map_some _ _
  · simp only [if_true, candidatesFunc]
    cases typeOption s.kind with
    | none => simp
    | some f =>
      simp only
      rw [filterMap_id_map_some]
      congr 1
      apply List.filter_congr
      intro p _
      unfold methOK
      cases find args kReturns <;> rfl

/-- discovery by name: the first provider carrying the name — for single pointer / interface fields only -/
theorem discovered_byName (pop : List Prov) (s : Slot) (v : Bytes) (args : Args) (hf : s.isFunc = false) (hv : v ≠ []) :
    discovered pop s v args =
      match s.kind with
      | .ptr _ => ((pop.find? (fun p => p.name == v)).map (·.id)).toList
      | .iface _ => ((pop.find? (fun p => p.name == v)).map (·.id)).toList
      | _ => [] := by
  unfold discovered
  have hv' : v.isEmpty = false := by cases v with
    | nil => exact absurd rfl hv
    | cons a t => rfl
  simp only [hf, Bool.false_eq_true, if_false, candidatesWire, hv']
  cases s.kind <;> simp only [List.filterMap_nil] <;>
    cases pop.find? (fun p => p.name == v) <;> rfl

theorem qualPred_of_mem {pop : List Prov} (hid : (pop.map (·.id)).Nodup) (args : Args) {p : Prov} (hp : p ∈ pop)
    (qs : List Bytes) (hq : find args kQualifier = some qs) :
    qualPred (byId pop) args p.id = qualOK args p := by
  unfold qualPred qualOK
  rw [byId_of_mem hid hp, hq]
  rfl

/-- after the qualifier filter: exactly the discovered providers the qualifier rule accepts, in enumeration order -/
theorem qualified_byType (pop : List Prov) (hid : (pop.map (·.id)).Nodup) (s : Slot) (v : Bytes) (a0 : Args)
    (hb : ByType s v) :
    qualified pop s v a0 = (pop.filter (fun p => found s v a0 p && qualOK a0 p)).map (·.id) := by
  unfold qualified qualFilter
  rw [discovered_byType pop s v _ hb, funext (found_effArgs s v a0), find_effArgs_qual]
  cases hq : find a0 kQualifier with
  | none => simp [qualOK, hq]
  | some qs =>
    simp only
    rw [List.filter_map, List.filter_filter]
    congr 1
    apply List.filter_congr
    intro p hp
    simp only [Function.comp]
    rw [qualPred_of_mem hid (effArgs a0) hp qs (by rw [find_effArgs_qual, hq]), qualOK_effArgs, Bool.and_comm]

/-- the qualified list of a by-type point holds exactly the compatible, qualifier-passing providers -/
theorem mem_qualified_iff (pop : List Prov) (hid : (pop.map (·.id)).Nodup) (s : Slot) (v : Bytes) (a0 : Args)
    (hb : ByType s v) (c : Nat) :
    c ∈ qualified pop s v a0 ↔ ∃ p ∈ pop, p.id = c ∧ found s v a0 p = true ∧ qualOK a0 p = true := by
  simp only [qualified_byType pop hid s v a0 hb, List.mem_map, List.mem_filter, Bool.and_eq_true]
  exact ⟨fun ⟨p, ⟨hm, h⟩, e⟩ => ⟨p, hm, e, h⟩, fun ⟨p, hm, e, h⟩ => ⟨p, ⟨hm, h⟩, e⟩⟩

/-- without the id hypothesis: every qualified candidate comes from a discovered provider -/
theorem mem_qualified_found (pop : List Prov) (s : Slot) (v : Bytes) (a0 : Args) (hb : ByType s v) :
    ∀ c ∈ qualified pop s v a0, ∃ p ∈ pop, p.id = c ∧ found s v a0 p = true := by
  intro c hc
  have hc' : c ∈ discovered pop s v (effArgs a0) := by
    unfold qualified qualFilter at hc
    split at hc
    · exact (List.mem_filter.mp hc).1
    · exact hc
  rw [discovered_byType pop s v _ hb, List.mem_map] at hc'
  obtain ⟨p, hp, rfl⟩ := hc'
  rw [List.mem_filter, found_effArgs] at hp
  exact ⟨p, hp.1, rfl, hp.2⟩

theorem has_single_mem (a : Args) (k q : Bytes) (qs : List Bytes) (hf : find a k = some qs)
    (h : has a k [q] = true) : q ∈ qs := by
  simp only [has, hf, List.isEmpty_cons, Bool.false_eq_true, if_false, List.any_eq_true] at h
  obtain ⟨x, hx, hc⟩ := h
  simp at hc
  exact hc ▸ hx

/-- with a qualifier argument, every qualified candidate declares one of the requested qualifiers -/
theorem mem_qualified_qual (pop : List Prov) (s : Slot) (v : Bytes) (a0 : Args) (qs : List Bytes)
    (hq : find a0 kQualifier = some qs) :
    ∀ c ∈ qualified pop s v a0, ∃ p ∈ pop, p.id = c ∧ ∃ q, p.qual = some q ∧ q ∈ qs := by
  intro c hc
  have hq' : find (effArgs a0) kQualifier = some qs := by rw [find_effArgs_qual, hq]
  simp only [qualified, qualFilter, hq', List.mem_filter, qualPred] at hc
  cases hb : byId pop c with
  | none => simp [hb] at hc
  | some p =>
    obtain ⟨hm, hi⟩ := byId_some hb
    cases hqq : p.qual with
    | none => simp [hb, hqq] at hc
    | some q => exact ⟨p, hm, hi, q, hqq, has_single_mem _ _ _ _ hq' (by simpa [hb, hqq] using hc.2)⟩

theorem map_id_nodup_of_filter {pop : List Prov} (hid : (pop.map (·.id)).Nodup) (f : Prov → Bool) :
    ((pop.filter f).map (·.id)).Nodup :=
  (List.filter_sublist.map _).nodup hid

/-- the by-name point of a single pointer / interface field, names unique: exactly the named provider -/
theorem discovered_named {pop : List Prov} (hnm : (pop.map (·.name)).Nodup) (s : Slot) (v : Bytes) (args : Args)
    (hf : s.isFunc = false) (hv : v ≠ []) (hk : (∃ t, s.kind = .ptr t) ∨ (∃ i, s.kind = .iface i))
    {p : Prov} (hp : p ∈ pop) (hn : p.name = v) : discovered pop s v args = [p.id] := by
  rw [discovered_byName pop s v args hf hv]
  have e := find?_key_of_mem (fun q : Prov => q.name) pop hnm p hp
  rw [hn] at e
  rcases hk with ⟨t, h⟩ | ⟨i, h⟩ <;> rw [h] <;> simp only [e] <;> rfl

theorem discovered_absent (pop : List Prov) (s : Slot) (v : Bytes) (args : Args)
    (hf : s.isFunc = false) (hv : v ≠ []) (hno : ∀ p ∈ pop, p.name ≠ v) : discovered pop s v args = [] := by
  rw [discovered_byName pop s v args hf hv]
  have e : pop.find? (fun p => p.name == v) = none := by
    rw [List.find?_eq_none]
    intro p hp; simpa using hno p hp
  rw [e]
  cases s.kind <;> rfl

end Ioc.Match
