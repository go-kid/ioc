/-
  A string literal under `ofString` is turned into its characters by rewriting (`repeat rw [ofString_ofList]`, the literal
  being `String.ofList` of them), not by evaluation: `String.toList` decodes the UTF-8 byte array of the literal, which
  takes the kernel time quadratic in its length.
-/
import Ioc.Basic
namespace Ioc

theorem ofString_ofList (l : List Char) : ofString (String.ofList l) = l.map (fun c => UInt8.ofNat c.toNat) := by
  rw [ofString, String.toList_ofList]

end Ioc
