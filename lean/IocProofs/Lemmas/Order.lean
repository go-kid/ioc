/-
  Lemmas for C12 (ordering contract): `sortOrdered` as three filters, consequences of the abstract sort specification,
  sorters that meet it, the invocation loops, and whole starts.
-/
import Ioc.Order
namespace Ioc.Order

variable {α : Type} (part : α → Part)

theorem partitionLoop_eq (l : List α) (p o n : List α) :
    partitionLoop part l (p, o, n) =
      (p ++ l.filter (isPrio part), o ++ l.filter (isOrd part), n ++ l.filter (isPlain part)) := by
  induction l generalizing p o n with
  | nil => simp [partitionLoop]
  | cons x rest ih =>
    simp only [partitionLoop]
    cases h : (part x).cls <;> simp [ih, isPrio, isOrd, isPlain, classOf, h]

theorem sortOrdered_eq (sort : (α → α → Bool) → List α → List α) (l : List α) :
    sortOrdered sort part l =
      sort (less part) (l.filter (isPrio part)) ++ sort (less part) (l.filter (isOrd part)) ++
        l.filter (isPlain part) := by
  simp [sortOrdered, partitionLoop_eq]

def Split3 (p q r : α → Bool) : Prop :=
  ∀ x, (p x = true ∧ q x = false ∧ r x = false) ∨ (p x = false ∧ q x = true ∧ r x = false) ∨
    (p x = false ∧ q x = false ∧ r x = true)

theorem Split3.perm {p q r : α → Bool} (h : Split3 p q r) (l : List α) :
    (l.filter p ++ l.filter q ++ l.filter r).Perm l := by
  induction l with
  | nil => simp
  | cons x rest ih =>
    rcases h x with ⟨h1, h2, h3⟩ | ⟨h1, h2, h3⟩ | ⟨h1, h2, h3⟩ <;>
      simp only [List.filter_cons, h1, h2, h3, if_true, Bool.false_eq_true, if_false]
    · exact ih.cons x
    · exact (List.perm_middle.append_right _).trans (ih.cons x)
    · exact List.perm_middle.trans (ih.cons x)

theorem filter_other {p q : α → Bool} {l : List α} (hl : ∀ x ∈ l, p x = true)
    (hpq : ∀ x, p x = true → q x = false) : l.filter q = [] :=
  List.filter_eq_nil_iff.mpr fun x hx => by simp [hpq x (hl x hx)]

/-- a decomposition into three blocks, one for each test, is determined by the whole list -/
theorem Split3.filter_blocks {p q r : α → Bool} (h : Split3 p q r) (a b c : List α)
    (ha : ∀ x ∈ a, p x = true) (hb : ∀ x ∈ b, q x = true) (hc : ∀ x ∈ c, r x = true) :
    (a ++ b ++ c).filter p = a ∧ (a ++ b ++ c).filter q = b ∧ (a ++ b ++ c).filter r = c := by
  have ex : ∀ x, (p x = true → q x = false ∧ r x = false) ∧ (q x = true → p x = false ∧ r x = false) ∧
      (r x = true → p x = false ∧ q x = false) := fun x => by
    rcases h x with ⟨h1, h2, h3⟩ | ⟨h1, h2, h3⟩ | ⟨h1, h2, h3⟩ <;> simp [h1, h2, h3]
  simp [List.filter_append, List.filter_eq_self.mpr ha, List.filter_eq_self.mpr hb, List.filter_eq_self.mpr hc,
    filter_other ha fun x h => ((ex x).1 h).1, filter_other ha fun x h => ((ex x).1 h).2,
    filter_other hb fun x h => ((ex x).2.1 h).1, filter_other hb fun x h => ((ex x).2.1 h).2,
    filter_other hc fun x h => ((ex x).2.2 h).1, filter_other hc fun x h => ((ex x).2.2 h).2]

theorem split3 : Split3 (isPrio part) (isOrd part) (isPlain part) := fun x => by
  cases h : (part x).cls <;> simp [isPrio, isOrd, isPlain, classOf, h]

variable {part}
variable {sort : (α → α → Bool) → List α → List α}

theorem sortOrdered_perm (hs : SortSpec part sort) (l : List α) : (sortOrdered sort part l).Perm l := by
  rw [sortOrdered_eq]
  exact (((hs _).1.append (hs _).1).append_right _).trans ((split3 part).perm l)

theorem sort_nil (hs : SortSpec part sort) : sort (less part) [] = [] :=
  List.Perm.eq_nil (hs []).1

theorem sortOrdered_nil (hs : SortSpec part sort) : sortOrdered sort part [] = [] :=
  List.Perm.eq_nil (sortOrdered_perm hs [])

/-- keys of a block: two sorted permutations of the same list show the same key sequence -/
theorem sorted_keys_unique {sort₁ sort₂ : (α → α → Bool) → List α → List α}
    (h1 : SortSpec part sort₁) (h2 : SortSpec part sort₂) (l : List α) :
    (sort₁ (less part) l).map (keyOf part) = (sort₂ (less part) l).map (keyOf part) :=
  List.Perm.eq_of_pairwise (le := fun a b : Int => a ≤ b) (fun _ _ _ _ hab hba => Int.le_antisymm hab hba)
    (List.pairwise_map.mpr (h1 l).2) (List.pairwise_map.mpr (h2 l).2)
    (((h1 l).1.trans (h2 l).1.symm).map _)

/-- inserting = splitting the list in two and putting the element in between -/
theorem insertSorted_split (lt : α → α → Bool) (x : α) (l : List α) :
    ∃ pre post, l = pre ++ post ∧ insertSorted lt x l = pre ++ x :: post := by
  induction l with
  | nil => exact ⟨[], [], rfl, rfl⟩
  | cons y ys ih =>
    simp only [insertSorted]
    split
    · exact ⟨[], y :: ys, rfl, rfl⟩
    · obtain ⟨pre, post, h1, h2⟩ := ih
      exact ⟨y :: pre, post, by simp [h1], by simp [h2]⟩

theorem insertSorted_perm (lt : α → α → Bool) (x : α) (l : List α) :
    (insertSorted lt x l).Perm (x :: l) := by
  obtain ⟨pre, post, rfl, e⟩ := insertSorted_split lt x l
  rw [e]
  exact List.perm_middle

theorem isort_perm (lt : α → α → Bool) (l : List α) : (isort lt l).Perm l := by
  induction l with
  | nil => exact .refl _
  | cons x xs ih => exact (insertSorted_perm lt x _).trans (ih.cons x)

theorem insertSorted_sorted (key : α → Int) (x : α) (l : List α)
    (h : l.Pairwise (fun a b => key a ≤ key b)) :
    (insertSorted (fun a b => decide (key a < key b)) x l).Pairwise (fun a b => key a ≤ key b) := by
  induction l with
  | nil => simp [insertSorted]
  | cons y ys ih =>
    obtain ⟨hy, hys⟩ := List.pairwise_cons.mp h
    simp only [insertSorted]
    split <;> rename_i hlt <;> simp only [decide_eq_true_eq] at hlt <;>
      simp only [List.pairwise_cons, (insertSorted_perm _ x ys).mem_iff, List.mem_cons, forall_eq_or_imp]
    · exact ⟨⟨by omega, fun z hz => by have := hy z hz; omega⟩, hy, hys⟩
    · exact ⟨⟨by omega, hy⟩, ih hys⟩

theorem isort_sorted (key : α → Int) (l : List α) :
    (isort (fun a b => decide (key a < key b)) l).Pairwise (fun a b => key a ≤ key b) := by
  induction l with
  | nil => exact .nil
  | cons x xs ih => exact insertSorted_sorted key x _ ih

theorem isort_spec (part : α → Part) : SortSpec part (fun lt l => isort lt l) := by
  intro l
  exact ⟨isort_perm _ l, isort_sorted (keyOf part) l⟩

/-- a sorter with the OPPOSITE tie order of `isort` that also meets the specification -/
theorem isortRev_spec (part : α → Part) : SortSpec part (fun lt l => isort lt l.reverse) := by
  intro l
  exact ⟨(isort_perm _ _).trans (List.reverse_perm l), isort_sorted (keyOf part) l.reverse⟩

/-- a second, different algorithm that meets the specification: core's stable merge sort with `¬ lt b a` -/
theorem mergeSort_spec (part : α → Part) :
    SortSpec part (fun lt l => l.mergeSort (fun a b => !lt b a)) := by
  intro l
  refine ⟨List.mergeSort_perm _ _, ?_⟩
  have h := List.pairwise_mergeSort (le := fun a b => !less part b a)
    (by intro a b c; simp [less]; omega) (by intro a b; simp [less]; omega) l
  exact h.imp (by intro a b; simp [less])

theorem takeUntil_prefix (stop : α → Bool) (l : List α) : takeUntil stop l <+: l := by
  induction l with
  | nil => exact List.nil_prefix
  | cons x rest ih =>
    simp only [takeUntil]
    split
    · exact ⟨rest, rfl⟩
    · exact List.cons_prefix_cons.mpr ⟨rfl, ih⟩

theorem takeUntil_all (stop : α → Bool) (l : List α) (h : ∀ x ∈ l, stop x = false) : takeUntil stop l = l := by
  induction l with
  | nil => rfl
  | cons x rest ih =>
    simp only [takeUntil, h x List.mem_cons_self, Bool.false_eq_true, if_false, List.cons.injEq, true_and]
    exact ih (fun y hy => h y (List.mem_cons_of_mem _ hy))

/-- everything before the last visited element did not stop; if some element stops, the last visited one does -/
theorem takeUntil_stops (stop : α → Bool) (l : List α) :
    (∀ x ∈ (takeUntil stop l).dropLast, stop x = false) ∧
    (l.any stop = true → ∃ x, (takeUntil stop l).getLast? = some x ∧ stop x = true) := by
  induction l with
  | nil => simp [takeUntil]
  | cons x rest ih =>
    simp only [takeUntil]
    cases hx : stop x with
    | true => simp [hx]
    | false =>
      simp only [Bool.false_eq_true, if_false, List.any_cons, hx, Bool.false_or]
      cases hr : takeUntil stop rest with
      | nil => exact ⟨by simp, fun h => by obtain ⟨y, hy, _⟩ := ih.2 h; simp [hr] at hy⟩
      | cons z zs =>
        rw [hr] at ih
        rw [List.dropLast_cons_cons, List.getLast?_cons_cons]
        exact ⟨List.forall_mem_cons.mpr ⟨hx, ih.1⟩, ih.2⟩

theorem runLoop_eq (fails : α → Bool) (l log : List α) :
    runLoop fails l log = (log ++ takeUntil fails l, l.any fails) := by
  induction l generalizing log with
  | nil => simp [runLoop, takeUntil]
  | cons x rest ih => cases hx : fails x <;> simp [runLoop, takeUntil, hx, ih]

theorem twoStepLoop_eq (res : α → Step) (l : List α) (log : List (Ev α)) :
    twoStepLoop res l log =
      (log ++ (takeUntil (fun x => (res x).stops) l).flatMap (fun x => (res x).evs x),
       l.any (fun x => (res x).stops)) := by
  induction l generalizing log with
  | nil => simp [twoStepLoop, takeUntil]
  | cons x rest ih =>
    simp only [twoStepLoop]
    split <;> rename_i h <;> simp [takeUntil, Step.stops, Step.evs, h, ih]

theorem registerLoop_ok (resolve : α → Option α) (l cpp : List α)
    (h : (registerLoop resolve l cpp).2 = false) :
    (registerLoop resolve l cpp).1 = cpp ++ l.filterMap resolve ∧ ∀ x ∈ l, (resolve x).isSome = true := by
  induction l generalizing cpp with
  | nil => simp [registerLoop]
  | cons x rest ih =>
    simp only [registerLoop] at h ⊢
    cases hx : resolve x with
    | none => simp [hx] at h
    | some q =>
      simp only [hx] at h ⊢
      obtain ⟨h1, h2⟩ := ih _ h
      exact ⟨by simp [h1, hx], by simpa [hx] using h2⟩

theorem registerLoop_total (r : α → α) (l cpp : List α) :
    registerLoop (fun x => some (r x)) l cpp = (cpp ++ l.map r, false) := by
  induction l generalizing cpp with
  | nil => simp [registerLoop]
  | cons x rest ih => simp [registerLoop, ih]

/-- the processors called are a prefix of the chain: all of it, with a component as the answer, when every callback
    answers with a component -/
theorem applyBefore_prefix {β : Type} (before : α → β → Res β) (l : List α) (cur : β) (log : List α) :
    ∃ done, (applyBefore before l cur log).1 = log ++ done ∧ done <+: l ∧
      ((∀ p b, ∃ c, before p b = .val c) → done = l ∧ ∃ v, (applyBefore before l cur log).2 = .val v) := by
  induction l generalizing cur log with
  | nil => exact ⟨[], by simp [applyBefore]⟩
  | cons x rest ih =>
    simp only [applyBefore]
    cases h : before x cur with
    | val c =>
      obtain ⟨done, h1, h2, h3⟩ := ih c (log ++ [x])
      exact ⟨x :: done, by simp [h1], List.cons_prefix_cons.mpr ⟨rfl, h2⟩,
        fun hall => ⟨by rw [(h3 hall).1], (h3 hall).2⟩⟩
    | _ =>
      refine ⟨[x], rfl, ⟨rest, rfl⟩, fun hall => ?_⟩
      obtain ⟨c, hc⟩ := hall x cur; rw [h] at hc; cases hc

theorem applyAfter_prefix {β : Type} (after : α → β → Res β) (l : List α) (cur : β) (log : List α) :
    ∃ done, (applyAfter after l cur log).1 = log ++ done ∧ done <+: l ∧
      ((∀ p b, ∃ c, after p b = .val c) → done = l ∧ (applyAfter after l cur log).2.isSome = true) := by
  induction l generalizing cur log with
  | nil => exact ⟨[], by simp [applyAfter]⟩
  | cons x rest ih =>
    simp only [applyAfter]
    cases h : after x cur with
    | val c =>
      obtain ⟨done, h1, h2, h3⟩ := ih c (log ++ [x])
      exact ⟨x :: done, by simp [h1], List.cons_prefix_cons.mpr ⟨rfl, h2⟩,
        fun hall => ⟨by rw [(h3 hall).1], (h3 hall).2⟩⟩
    | _ =>
      refine ⟨[x], rfl, ⟨rest, rfl⟩, fun hall => ?_⟩
      obtain ⟨c, hc⟩ := hall x cur; rw [h] at hc; cases hc

theorem applyAfter_log_prefix {β : Type} (after : α → β → Res β) (l : List α) (c : β) :
    (applyAfter after l c []).1 <+: l ∧
    ((∀ p b, ∃ c', after p b = .val c') → (applyAfter after l c []).1 = l ∧ (applyAfter after l c []).2.isSome = true) := by
  obtain ⟨d, e, p, h⟩ := applyAfter_prefix after l c []
  rw [List.nil_append] at e
  rw [e]
  exact ⟨p, h⟩

theorem any_perm {l₁ l₂ : List α} (p : l₁.Perm l₂) (f : α → Bool) : l₁.any f = l₂.any f := by
  rw [Bool.eq_iff_iff]
  simp only [List.any_eq_true, p.mem_iff]

theorem any_false {l : List α} {f : α → Bool} (h : ∀ x, f x = false) : l.any f = false := by
  simp [h]

theorem sorted_block_class (hs : SortSpec part sort) (p : α → Bool) (l : List α) :
    ∀ x ∈ sort (less part) (l.filter p), p x = true :=
  fun _ hx => (List.mem_filter.mp ((hs _).1.mem_iff.mp hx)).2

theorem plain_block_class (l : List α) : ∀ x ∈ l.filter (isPlain part), isPlain part x = true :=
  fun _ hx => (List.mem_filter.mp hx).2

theorem sortOrdered_filter_plain (hs : SortSpec part sort) (l : List α) :
    (sortOrdered sort part l).filter (isPlain part) = l.filter (isPlain part) := by
  rw [sortOrdered_eq]
  exact ((split3 part).filter_blocks _ _ _ (sorted_block_class hs (isPrio part) l)
    (sorted_block_class hs (isOrd part) l) (plain_block_class l)).2.2

theorem sortOrdered_classes (hs : SortSpec part sort) (l : List α) :
    (∀ x ∈ sort (less part) (l.filter (isPrio part)), classOf part x = .prio) ∧
    (∀ x ∈ sort (less part) (l.filter (isOrd part)), classOf part x = .ord) ∧
    (∀ x ∈ l.filter (isPlain part), classOf part x = .plain) :=
  ⟨fun x hx => of_decide_eq_true (sorted_block_class hs _ l x hx),
   fun x hx => of_decide_eq_true (sorted_block_class hs _ l x hx), fun x hx => of_decide_eq_true (plain_block_class l x hx)⟩

/-- the output has only one decomposition into a priority, an ordered and an unordered block -/
theorem sortOrdered_blocks (hs : SortSpec part sort) (l a b c : List α) (h : sortOrdered sort part l = a ++ b ++ c)
    (ha : ∀ x ∈ a, classOf part x = .prio) (hb : ∀ x ∈ b, classOf part x = .ord)
    (hc : ∀ x ∈ c, classOf part x = .plain) :
    a = sort (less part) (l.filter (isPrio part)) ∧ b = sort (less part) (l.filter (isOrd part)) ∧
    c = l.filter (isPlain part) := by
  have f1 := (split3 part).filter_blocks a b c (fun x hx => decide_eq_true (ha x hx)) (fun x hx => decide_eq_true (hb x hx))
    (fun x hx => decide_eq_true (hc x hx))
  have f2 := (split3 part).filter_blocks _ _ _ (sorted_block_class hs (isPrio part) l)
    (sorted_block_class hs (isOrd part) l) (plain_block_class (part := part) l)
  rw [← h, sortOrdered_eq] at f1
  exact ⟨f1.1.symm.trans f2.1, f1.2.1.symm.trans f2.2.1, f1.2.2.symm.trans f2.2.2⟩

/-- the whole contract as one relation between every earlier and every later element of the output -/
def Precedes (part : α → Part) (x y : α) : Prop :=
  (classOf part x).rank < (classOf part y).rank ∨
  ((classOf part x).rank = (classOf part y).rank ∧ (classOf part x = .plain ∨ keyOf part x ≤ keyOf part y))

theorem pairwise_precedes_block {c : Cls} {s : List α} (h : ∀ x ∈ s, classOf part x = c)
    (p : s.Pairwise fun a b => c = .plain ∨ keyOf part a ≤ keyOf part b) : s.Pairwise (Precedes part) :=
  (List.Pairwise.and_mem.mp p).imp fun ⟨hx, hy, hk⟩ => Or.inr ⟨by rw [h _ hx, h _ hy], by rwa [h _ hx]⟩

theorem precedes_blocks {c c' : Cls} {s t : List α} (h : ∀ x ∈ s, classOf part x = c)
    (h' : ∀ y ∈ t, classOf part y = c') (lt : c.rank < c'.rank) : ∀ x ∈ s, ∀ y ∈ t, Precedes part x y :=
  fun x hx y hy => Or.inl (by rwa [h x hx, h' y hy])

theorem sortOrdered_pairwise (hs : SortSpec part sort) (l : List α) :
    (sortOrdered sort part l).Pairwise (Precedes part) := by
  rw [sortOrdered_eq]
  obtain ⟨hA, hB, hC⟩ := sortOrdered_classes hs l
  refine List.pairwise_append.mpr ⟨List.pairwise_append.mpr
      ⟨pairwise_precedes_block hA ((hs _).2.imp Or.inr), pairwise_precedes_block hB ((hs _).2.imp Or.inr),
        precedes_blocks hA hB (by decide)⟩,
    pairwise_precedes_block hC (List.pairwise_of_forall fun _ _ => Or.inl rfl), fun x hx => ?_⟩
  rcases List.mem_append.mp hx with hx | hx
  · exact precedes_blocks hA hC (by decide) x hx
  · exact precedes_blocks hB hC (by decide) x hx

/-- what the correspondence compares: class and key of every output position -/
def ck (part : α → Part) (x : α) : Cls × Int := (classOf part x, keyOf part x)

/-- inside one class block the (class, key) view is determined by the keys, so two sorters agree on it -/
theorem block_ck_unique {sort₁ sort₂ : (α → α → Bool) → List α → List α}
    (h1 : SortSpec part sort₁) (h2 : SortSpec part sort₂) (p : α → Bool) (c : Cls)
    (hp : ∀ x, p x = true → classOf part x = c) (l : List α) :
    (sort₁ (less part) (l.filter p)).map (ck part) = (sort₂ (less part) (l.filter p)).map (ck part) := by
  have e : ∀ {sort} (hs : SortSpec part sort), (sort (less part) (l.filter p)).map (ck part) =
      ((sort (less part) (l.filter p)).map (keyOf part)).map (Prod.mk c) := fun hs => by
    rw [List.map_map]
    exact List.map_congr_left fun x hx => by simp [ck, hp x (sorted_block_class hs p l x hx)]
  rw [e h1, e h2, sorted_keys_unique h1 h2]

theorem sortOrdered_ck_unique {sort₁ sort₂ : (α → α → Bool) → List α → List α}
    (h1 : SortSpec part sort₁) (h2 : SortSpec part sort₂) (l : List α) :
    (sortOrdered sort₁ part l).map (ck part) = (sortOrdered sort₂ part l).map (ck part) := by
  simp only [sortOrdered_eq, List.map_append]
  rw [block_ck_unique h1 h2 (isPrio part) .prio fun _ => of_decide_eq_true,
    block_ck_unique h1 h2 (isOrd part) .ord fun _ => of_decide_eq_true]

theorem firsts_append (l₁ l₂ : List (Ev α)) : firsts (l₁ ++ l₂) = firsts l₁ ++ firsts l₂ := by
  induction l₁ with
  | nil => rfl
  | cons e rest ih => cases e <;> simp [firsts, ih]

theorem firsts_flatMap_evs (res : α → Step) (l : List α) :
    firsts (l.flatMap (fun x => (res x).evs x)) = l := by
  induction l with
  | nil => rfl
  | cons x rest ih =>
    rw [List.flatMap_cons, firsts_append, ih]
    cases h : res x <;> simp [Step.evs, firsts]

theorem seconds_append (l₁ l₂ : List (Ev α)) : seconds (l₁ ++ l₂) = seconds l₁ ++ seconds l₂ := by
  induction l₁ with
  | nil => rfl
  | cons e rest ih => cases e <;> simp [seconds, ih]

/-- the second calls go, in the same order, to exactly the visited elements whose first call asked for one -/
theorem seconds_flatMap_evs (res : α → Step) (l : List α) :
    seconds (l.flatMap (fun x => (res x).evs x)) =
      l.filter (fun x => match res x with | .next _ => true | _ => false) := by
  induction l with
  | nil => rfl
  | cons x rest ih =>
    rw [List.flatMap_cons, seconds_append, ih]
    cases h : res x <;> simp [Step.evs, seconds, h]

/-- the first calls of a two-step loop go to the list up to the first element that stops, the second calls to those of
    them that asked for one; an error is reported iff some element stops -/
theorem twoStepLoop_calls (res : α → Step) (l : List α) :
    firsts (twoStepLoop res l []).1 = takeUntil (fun x => (res x).stops) l ∧
    seconds (twoStepLoop res l []).1 =
      (firsts (twoStepLoop res l []).1).filter (fun x => match res x with | .next _ => true | _ => false) ∧
    (twoStepLoop res l []).2 = l.any (fun x => (res x).stops) := by
  simp only [twoStepLoop_eq, List.nil_append, firsts_flatMap_evs, seconds_flatMap_evs, true_and]

/-- the first calls of a two-step loop go to a prefix of the list, to all of it when nothing stops -/
theorem twoStepLoop_in_order (res : α → Step) (l : List α) :
    firsts (twoStepLoop res l []).1 <+: l ∧
    ((∀ x, (res x).stops = false) → firsts (twoStepLoop res l []).1 = l ∧ (twoStepLoop res l []).2 = false) := by
  obtain ⟨h1, -, h3⟩ := twoStepLoop_calls res l
  rw [h1, h3]
  exact ⟨takeUntil_prefix _ l, fun h => ⟨takeUntil_all _ l fun x _ => h x, any_false h⟩⟩

theorem initializeComponent_in_order {β : Type} (before after : α → β → Res β) (initFails : β → Bool)
    (procs : List α) (m : β) :
    (initializeComponent before after initFails procs m).1 <+: procs ∧
    (initializeComponent before after initFails procs m).2.1 <+: procs ∧
    ((∀ p b, ∃ c, before p b = .val c) → (∀ p b, ∃ c, after p b = .val c) → (∀ b, initFails b = false) →
      (initializeComponent before after initFails procs m).1 = procs ∧
      (initializeComponent before after initFails procs m).2.1 = procs ∧
      (initializeComponent before after initFails procs m).2.2.isSome = true) := by
  obtain ⟨d, e, p1, c1⟩ := applyBefore_prefix before procs m []
  unfold initializeComponent
  cases hb : applyBefore before procs m [] with
  | mk lb rb =>
    rw [hb] at e c1
    rw [List.nil_append] at e
    subst e
    cases rb with
    | val w =>
      obtain ⟨p2, c2⟩ := applyAfter_log_prefix after procs w
      dsimp only
      cases hi : initFails w with
      | true => exact ⟨p1, List.nil_prefix, fun _ _ h3 => by simp [h3 w] at hi⟩
      | false => exact ⟨p1, p2, fun h1 h2 _ => ⟨(c1 h1).1, c2 h2⟩⟩
    | _ => exact ⟨p1, List.nil_prefix, fun h1 _ _ => by obtain ⟨_, v, hv⟩ := c1 h1; cases hv⟩

theorem callRunners_eq (hs : SortSpec part sort) (fails : α → Bool) (rs : List α) :
    callRunners sort part fails rs = (takeUntil fails (sortOrdered sort part rs), rs.any fails) := by
  unfold callRunners
  split
  · next h =>
    obtain rfl : rs = [] := by simpa using h
    simp [sortOrdered_nil hs, takeUntil]
  · rw [runLoop_eq, any_perm (sortOrdered_perm hs rs)]; simp

theorem invokeRegister_resolved (r : α → α) (procs : List α) :
    invokeRegister sort part (fun x => some (r x)) procs [] = ((sortOrdered sort part procs).map r, false) := by
  simpa [invokeRegister] using registerLoop_total r (sortOrdered sort part procs) []

theorem invokeRegister_some (procs : List α) :
    invokeRegister sort part (fun x => some x) procs [] = (sortOrdered sort part procs, false) := by
  simpa using invokeRegister_resolved (sort := sort) (part := part) id procs

/-- A whole start in which the factory answers the registered processor `x` with `r x` (a decorator or proxy put around
    it by an earlier processor's PostProcessAfterInitialization, delegate:52-58 `processor = icp`).  The chain is
    `(sortOrdered sort part procs).map r`: every registered processor's position is decided by what the sorter sees of
    the REGISTERED processor; nothing is assumed about `part (r x)` (a decorator usually has neither `Order()` nor
    `Priority()`). -/
theorem start_resolved_in_order (hs : SortSpec part sort)
    (loadRes : α → Step) (r : α → α) (isInst : α → Bool) (instRes : α → Step)
    (before after : α → Unit → Res Unit) (runFails : α → Bool) (loaders procs runners : List α) :
    let g := start sort part loadRes (fun x => some (r x)) isInst instRes before after runFails loaders procs runners
    let chain := (sortOrdered sort part procs).map r
    firsts g.loads <+: sortOrdered sort part loaders ∧
    firsts g.inst <+: chain.filter isInst ∧
    g.before <+: chain ∧
    g.after <+: chain ∧
    g.runs <+: sortOrdered sort part runners ∧
    ((∀ x, (loadRes x).stops = false) → (∀ x, (instRes x).stops = false) →
     (∀ p b, ∃ c, before p b = .val c) → (∀ p b, ∃ c, after p b = .val c) → (∀ x, runFails x = false) →
       g.err = false ∧
       firsts g.loads = sortOrdered sort part loaders ∧
       firsts g.inst = chain.filter isInst ∧
       g.before = chain ∧
       g.after = chain ∧
       g.runs = sortOrdered sort part runners) := by
  intro g chain
  have hg : g = start sort part loadRes (fun x => some (r x)) isInst instRes before after runFails loaders procs runners := rfl
  have hc : chain = (sortOrdered sort part procs).map r := rfl
  clear_value g chain
  obtain ⟨pL, cL⟩ := twoStepLoop_in_order loadRes (sortOrdered sort part loaders)
  obtain ⟨pI, cI⟩ := twoStepLoop_in_order instRes (chain.filter isInst)
  obtain ⟨pB, pA, cC⟩ := initializeComponent_in_order before after (fun _ => false) chain ()
  have pR := takeUntil_prefix runFails (sortOrdered sort part runners)
  simp only [start, loadConfigure, resolveAfterInstantiation, invokeRegister_resolved, ← hc, callRunners_eq hs,
    Bool.false_eq_true, if_false] at hg
  split at hg
  · next h1 =>
    subst hg
    exact ⟨pL, List.nil_prefix, List.nil_prefix, List.nil_prefix, List.nil_prefix,
      fun n1 _ _ _ _ => by simp [(cL n1).2] at h1⟩
  · split at hg
    · next h2 =>
      subst hg
      exact ⟨pL, pI, List.nil_prefix, List.nil_prefix, List.nil_prefix, fun _ n2 _ _ _ => by simp [(cI n2).2] at h2⟩
    · split at hg <;> subst hg
      · next h3 =>
        exact ⟨pL, pI, pB, pA, List.nil_prefix, fun _ _ n3 n4 _ => absurd (cC n3 n4 fun _ => rfl).2.2 (by simp [h3])⟩
      · refine ⟨pL, pI, pB, pA, pR, fun n1 n2 n3 n4 n5 => ?_⟩
        obtain ⟨c1, c2, _⟩ := cC n3 n4 fun _ => rfl
        exact ⟨any_false n5, (cL n1).1, (cI n2).1, c1, c2, takeUntil_all _ _ fun x _ => n5 x⟩

theorem earlyRefLoop_prefix {β : Type} (isSmart : α → Bool) (get : α → β → Option β)
    (l : List α) (cur : β) (log : List α) :
    ∃ done, (earlyRefLoop isSmart get l cur log).1 = log ++ done ∧ done <+: l.filter isSmart ∧
      ((∀ p b, (get p b).isSome = true) →
        done = l.filter isSmart ∧ (earlyRefLoop isSmart get l cur log).2.isSome = true) := by
  induction l generalizing cur log with
  | nil => exact ⟨[], by simp [earlyRefLoop]⟩
  | cons x rest ih =>
    simp only [earlyRefLoop, List.filter_cons]
    cases hx : isSmart x with
    | false => exact ih cur log
    | true =>
      simp only [if_true]
      cases h : get x cur with
      | none => exact ⟨[x], rfl, ⟨_, rfl⟩, fun hall => absurd (hall x cur) (by simp [h])⟩
      | some c =>
        obtain ⟨done, h1, h2, h3⟩ := ih c (log ++ [x])
        exact ⟨x :: done, by simp [h1], List.cons_prefix_cons.mpr ⟨rfl, h2⟩,
          fun hall => ⟨by rw [(h3 hall).1], (h3 hall).2⟩⟩

/-- GetEarlyBeanReference calls the smart processors of the list front to back (a prefix ending at the first
    failing callback); all of them when no callback fails and the flag is set (or there is no smart processor) -/
theorem getEarlyBeanReference_in_order {β : Type} (hasInst : Bool) (isSmart : α → Bool) (get : α → β → Option β)
    (procs : List α) (m : β) :
    (getEarlyBeanReference hasInst isSmart get procs m).1 <+: procs.filter isSmart ∧
    ((hasInst = true ∨ procs.filter isSmart = []) → (∀ p b, (get p b).isSome = true) →
      (getEarlyBeanReference hasInst isSmart get procs m).1 = procs.filter isSmart ∧
      (getEarlyBeanReference hasInst isSmart get procs m).2.isSome = true) := by
  unfold getEarlyBeanReference
  cases hasInst with
  | true =>
    obtain ⟨done, h1, h2, h3⟩ := earlyRefLoop_prefix isSmart get procs m []
    rw [List.nil_append] at h1
    simp only [if_true, h1]
    exact ⟨h2, fun _ => h3⟩
  | false => exact ⟨List.nil_prefix, fun hf _ => ⟨(hf.resolve_left Bool.false_ne_true).symm, rfl⟩⟩

theorem start_early_nil (loadRes : α → Step) (resolve : α → Option α) (isInst : α → Bool) (instRes : α → Step)
    (before after : α → Unit → Res Unit) (runFails : α → Bool) (loaders procs runners : List α) :
    (start sort part loadRes resolve isInst instRes before after runFails loaders procs runners).early = [] := by
  simp only [start, apply_ite StartLog.early]
  cases (initializeComponent before after (fun _ => false) (invokeRegister sort part resolve procs []).1 ()).2.2 <;> simp

/-- a whole start with the probe in a circular reference: the early-reference callbacks are a prefix of the sorted
    smart processors, and all of them (with everything else as in `start`) when nothing stops -/
theorem startC_in_order (hs : SortSpec part sort)
    (loadRes : α → Step) (isInst : α → Bool) (instRes : α → Step)
    (before after : α → Unit → Res Unit) (runFails : α → Bool)
    (builtinInst : Bool) (isSmart : α → Bool) (get : α → Unit → Option Unit) (loaders procs runners : List α) :
    let g := startC sort part loadRes (fun x => some x) isInst instRes before after runFails builtinInst isSmart get
      loaders procs runners
    let s := start sort part loadRes (fun x => some x) isInst instRes before after runFails loaders procs runners
    g.early <+: (sortOrdered sort part procs).filter isSmart ∧
    ((∀ x, isSmart x = true → isInst x = true) →
     (∀ x, (loadRes x).stops = false) → (∀ x, (instRes x).stops = false) → (∀ p b, (get p b).isSome = true) →
       g = { s with early := (sortOrdered sort part procs).filter isSmart }) := by
  intro g s
  obtain ⟨gP, gA⟩ := getEarlyBeanReference_in_order (builtinInst || procs.any isInst) isSmart get
    (sortOrdered sort part procs) ()
  -- the flag is set as soon as one registered processor is smart
  have hflag : (∀ x, isSmart x = true → isInst x = true) →
      (builtinInst || procs.any isInst) = true ∨ (sortOrdered sort part procs).filter isSmart = [] := fun n0 => by
    cases ha : procs.any isInst with
    | true => exact Or.inl (Bool.or_true _)
    | false =>
      exact Or.inr (List.filter_eq_nil_iff.mpr fun x hx hsm =>
        List.any_eq_false.mp ha x ((sortOrdered_perm hs procs).mem_iff.mp hx) (n0 x hsm))
  simp only [g, startC, invokeRegister_some, Bool.or_false]
  split
  · next hc =>
    refine ⟨by rw [start_early_nil]; exact List.nil_prefix, fun _ n1 n2 _ => ?_⟩
    simp [loadConfigure, resolveAfterInstantiation, (twoStepLoop_in_order loadRes _).2 n1,
      (twoStepLoop_in_order instRes _).2 n2] at hc
  · split
    · next h3 => exact ⟨gP, fun n0 _ _ n3 => nomatch h3 ▸ (gA (hflag n0) n3).2⟩
    · exact ⟨gP, fun n0 _ _ n3 => by rw [(gA (hflag n0) n3).1]⟩

/-- pointwise relation of two lists of the same length (core has no `Forall₂`) -/
def Forall2 {β γ : Type} (R : β → γ → Prop) : List β → List γ → Prop
  | [], [] => True
  | a :: as, b :: bs => R a b ∧ Forall2 R as bs
  | _, _ => False

/-- what one Initialize does, in terms of the loaders `reg` registered at that moment (of which the slice `cur` is a
    rearrangement with the unordered ones in registration order) -/
def InitSpec (part : α → Part) (res : α → Step) (out : List (Ev α) × Bool) (reg : List α) : Prop :=
  ∃ s : List α, s.Perm reg ∧ s.Pairwise (Precedes part) ∧
    s.filter (isPlain part) = reg.filter (isPlain part) ∧
    firsts out.1 = takeUntil (fun x => (res x).stops) s ∧
    seconds out.1 = (firsts out.1).filter (fun x => match res x with | .next _ => true | _ => false) ∧
    out.2 = reg.any (fun x => (res x).stops)

theorem confInitialize_spec (hs : SortSpec part sort) (res : α → Step) (cur reg : List α)
    (hp : cur.Perm reg) (hf : cur.filter (isPlain part) = reg.filter (isPlain part)) :
    (confInitialize sort part res cur).1.Perm reg ∧
    (confInitialize sort part res cur).1.filter (isPlain part) = reg.filter (isPlain part) ∧
    InitSpec part res (confInitialize sort part res cur).2 reg := by
  unfold confInitialize
  split
  · next he =>
    obtain rfl : cur = [] := by simpa using he
    obtain rfl : reg = [] := hp.symm.eq_nil
    exact ⟨.refl _, rfl, [], by simp [firsts, seconds, takeUntil]⟩
  · have hsp := (sortOrdered_perm hs cur).trans hp
    have hsf := (sortOrdered_filter_plain hs cur).trans hf
    obtain ⟨h1, h2, h3⟩ := twoStepLoop_calls res (sortOrdered sort part cur)
    exact ⟨hsp, hsf, _, hsp, sortOrdered_pairwise hs cur, hsf, h1, h2, h3.trans (any_perm hsp _)⟩

theorem confRun_spec (hs : SortSpec part sort) (res : α → Step) (ops : List (ConfOp α)) (cur reg : List α)
    (hp : cur.Perm reg) (hf : cur.filter (isPlain part) = reg.filter (isPlain part)) :
    Forall2 (InitSpec part res) (confRun sort part res ops cur) (confRegistered ops reg) := by
  induction ops generalizing cur reg with
  | nil => exact True.intro
  | cons op rest ih =>
    cases op with
    | set ls => exact ih ls ls (List.Perm.refl _) rfl
    | add ls =>
      exact ih (cur ++ ls) (reg ++ ls) (hp.append_right ls) (by simp [List.filter_append, hf])
    | init =>
      obtain ⟨h1, h2, h3⟩ := confInitialize_spec hs res cur reg hp hf
      exact ⟨h3, ih _ _ h1 h2⟩

end Ioc.Order
