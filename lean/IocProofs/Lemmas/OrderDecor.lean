/-
  Lemmas for C12: post-processors that come back from the factory as ANOTHER instance (a decorator / proxy, see
  `start_resolved_in_order`), read back to the registered processors.
-/
import IocProofs.Lemmas.Order
namespace Ioc.Order

variable {α : Type}

theorem map_resolved_orig (r orig : α → α) (horig : ∀ x, orig (r x) = x) (l : List α) : (l.map r).map orig = l := by
  rw [List.map_map]
  exact List.map_id'' horig l

end Ioc.Order
