/-
  Lemmas for C12: one instance that reaches the singleton registry through several routes is ONE participant.
  `Ioc.Order.registerSingleton` / `registerAll` / `listed` model `registry.RegisterSingleton` under `app.SetComponents`.
-/
import Ioc.Order
namespace Ioc.Order

variable {α ν : Type} [DecidableEq ν]

theorem registerSingleton_eq (name : α → ν) (acc : List α) (x : α) :
    registerSingleton name acc x = if name x ∈ acc.map name then acc else acc ++ [x] := by
  simp [registerSingleton, List.mem_map]

theorem registerSingleton_taken (name : α → ν) (acc : List α) (x : α) (h : name x ∈ acc.map name) :
    registerSingleton name acc x = acc := by
  rw [registerSingleton_eq, if_pos h]

theorem registerSingleton_fresh (name : α → ν) (acc : List α) (x : α) (h : name x ∉ acc.map name) :
    registerSingleton name acc x = acc ++ [x] := by
  rw [registerSingleton_eq, if_neg h]

/-- registrations of names that are all taken change nothing -/
theorem foldl_register_absorb (name : α → ν) (regs acc : List α) (h : ∀ x ∈ regs, name x ∈ acc.map name) :
    regs.foldl (registerSingleton name) acc = acc := by
  induction regs with
  | nil => rfl
  | cons x r ih =>
    rw [List.foldl_cons, registerSingleton_taken name acc x (h x List.mem_cons_self)]
    exact ih fun y hy => h y (List.mem_cons_of_mem _ hy)

/-- one SetComponents call over instances with names of their own, some of them listed twice: each is stored once, in order -/
theorem foldl_register_listed (name : α → ν) (twice : α → Bool) (l acc : List α)
    (hn : (l.map name).Nodup) (hd : ∀ x ∈ l, name x ∉ acc.map name) :
    (listed twice l).foldl (registerSingleton name) acc = acc ++ l := by
  induction l generalizing acc with
  | nil => simp [listed]
  | cons x r ih =>
    obtain ⟨hxr, hr⟩ := List.nodup_cons.mp hn
    have h1 := registerSingleton_fresh name acc x (hd x List.mem_cons_self)
    have h2 := registerSingleton_taken name (acc ++ [x]) x (by simp)
    -- the second listing of `x` finds its name taken
    have hstep : (if twice x then [x, x] else [x]).foldl (registerSingleton name) acc = acc ++ [x] := by
      cases twice x <;> simp [h1, h2]
    rw [listed, List.flatMap_cons, List.foldl_append, hstep, ← listed, ih (acc ++ [x]) hr, List.append_assoc]
    · rfl
    · intro y hy hmem
      rcases List.mem_append.mp (List.map_append ▸ hmem) with hmem | hmem
      · exact hd y (List.mem_cons_of_mem _ hy) hmem
      · exact hxr (List.mem_singleton.mp hmem ▸ List.mem_map_of_mem hy)

/-- the application's own list (some components twice) followed by any further registrations of the same instances:
    the registry holds exactly the list, each instance once, in the order listed -/
theorem registerAll_routes (name : α → ν) (twice : α → Bool) (l extra : List α)
    (hn : (l.map name).Nodup) (he : ∀ x ∈ extra, name x ∈ l.map name) :
    registerAll name (listed twice l ++ extra) = l := by
  unfold registerAll
  rw [List.foldl_append, foldl_register_listed name twice l [] hn (by simp), List.nil_append]
  exact foldl_register_absorb name extra l he

theorem registerSingleton_nodup (name : α → ν) (acc : List α) (x : α) (h : (acc.map name).Nodup) :
    ((registerSingleton name acc x).map name).Nodup := by
  rw [registerSingleton_eq]
  split
  · exact h
  · next hx =>
    rw [List.map_append]
    refine List.nodup_append.2 ⟨h, by simp, fun a ha b hb e => hx ?_⟩
    rw [← List.mem_singleton.mp hb, ← e]; exact ha

/-- whatever is registered, however often: one entry per name -/
theorem registerAll_nodup (name : α → ν) (regs : List α) : ((registerAll name regs).map name).Nodup :=
  List.foldlRecOn (motive := fun acc => (acc.map name).Nodup) regs _ List.nodup_nil
    fun acc h x _ => registerSingleton_nodup name acc x h

theorem registerSingleton_mono (name : α → ν) (acc : List α) (x : α) (n : ν) (h : n ∈ acc.map name) :
    n ∈ (registerSingleton name acc x).map name := by
  rw [registerSingleton_eq]; split <;> simp [h]

theorem registerSingleton_self (name : α → ν) (acc : List α) (x : α) :
    name x ∈ (registerSingleton name acc x).map name := by
  rw [registerSingleton_eq]; split <;> simp [*]

theorem foldl_register_mem (name : α → ν) (regs acc : List α) (x : α) (hx : x ∈ regs) :
    name x ∈ (regs.foldl (registerSingleton name) acc).map name := by
  induction regs generalizing acc with
  | nil => cases hx
  | cons y r ih =>
    rcases List.mem_cons.1 hx with rfl | hr
    · exact List.foldlRecOn (motive := fun acc => name x ∈ acc.map name) r _ (registerSingleton_self name acc x)
        fun acc h z _ => registerSingleton_mono name acc z _ h
    · exact ih _ hr

/-- nobody is lost: every registered instance's name is in the registry -/
theorem registerAll_mem (name : α → ν) (regs : List α) (x : α) (hx : x ∈ regs) :
    name x ∈ (registerAll name regs).map name :=
  foldl_register_mem name regs [] x hx

end Ioc.Order
