/-
  Lemmas for C12: components supplied before instantiation (applyPostProcessBeforeInstantiation,
  ResolveBeforeInstantiation, the short-circuit of createComponent) and starts with several watched components.
-/
import IocProofs.Lemmas.Order
namespace Ioc.Order

variable {α : Type}

/-- the chain asks the InstantiationAware processors front to back, up to and including the first one that answers,
    and its answer is the answer of that processor (nil when nobody answers) -/
theorem applyBeforeInstantiation_eq {β : Type} (isInst : α → Bool) (bi : α → Res β) (l log : List α) :
    applyBeforeInstantiation isInst bi l log =
      (log ++ takeUntil (fun p => (bi p).answers) (l.filter isInst),
       match (l.filter isInst).find? (fun p => (bi p).answers) with
       | none => .nil
       | some p => bi p) := by
  induction l generalizing log with
  | nil => simp [applyBeforeInstantiation, takeUntil]
  | cons x rest ih =>
    simp only [applyBeforeInstantiation, List.filter_cons]
    cases hi : isInst x with
    | false => simp [ih]
    | true => cases hb : bi x <;> simp [takeUntil, hb, Res.answers, ih]

theorem applyBeforeInstantiation_log {β : Type} (isInst : α → Bool) (bi : α → Res β) (l log : List α) :
    (applyBeforeInstantiation isInst bi l log).1 =
      log ++ takeUntil (fun p => (bi p).answers) (l.filter isInst) := by
  rw [applyBeforeInstantiation_eq]

theorem applyBeforeInstantiation_res {β : Type} (isInst : α → Bool) (bi : α → Res β) (l log : List α) :
    (applyBeforeInstantiation isInst bi l log).2 =
      match (l.filter isInst).find? (fun p => (bi p).answers) with
      | none => .nil
      | some p => bi p := by
  rw [applyBeforeInstantiation_eq]

/-- when nobody answers, every InstantiationAware processor was asked -/
theorem applyBeforeInstantiation_all {β : Type} (isInst : α → Bool) (bi : α → Res β) (l : List α)
    (h : ∀ p, (bi p).answers = false) :
    applyBeforeInstantiation isInst bi l [] = (l.filter isInst, .nil) := by
  rw [applyBeforeInstantiation_eq, takeUntil_all _ _ fun x _ => h x, List.find?_eq_none.mpr (by simp [h])]
  rfl

/-- ResolveBeforeInstantiation asks a prefix of the InstantiationAware processors and then runs a prefix of the
    after-initialization chain -/
theorem resolveBeforeInstantiation_in_order {β : Type} (hasInst : Bool) (isInst : α → Bool) (bi : α → Res β)
    (after : α → β → Res β) (procs : List α) :
    (resolveBeforeInstantiation hasInst isInst bi after procs).1 <+: procs.filter isInst ∧
    (resolveBeforeInstantiation hasInst isInst bi after procs).2.1 <+: procs := by
  have pN : (applyBeforeInstantiation isInst bi procs []).1 <+: procs.filter isInst := by
    rw [applyBeforeInstantiation_log]; exact takeUntil_prefix _ _
  unfold resolveBeforeInstantiation
  split
  · split <;> rename_i h <;> rw [h] at pN
    · exact ⟨pN, List.nil_prefix⟩
    · exact ⟨pN, List.nil_prefix⟩
    · exact ⟨pN, (applyAfter_log_prefix after procs _).1⟩
  · exact ⟨List.nil_prefix, List.nil_prefix⟩

/-- a component supplied by the before-instantiation chain: the creation is the after-initialization chain over the
    supplied instance, nothing else -/
theorem createComponent_supplied {β : Type} (isInst : α → Bool) (bi : α → Res β) (instRes : α → Step)
    (before after : α → β → Res β) (initFails : β → Bool) (procs : List α) (raw c : β)
    (h : (applyBeforeInstantiation isInst bi procs []).2 = .val c) :
    createComponent true isInst bi instRes before after initFails procs raw =
      ({ binst := (applyBeforeInstantiation isInst bi procs []).1, after := (applyAfter after procs c []).1 },
       (applyAfter after procs c []).2) := by
  unfold createComponent resolveBeforeInstantiation
  cases hb : applyBeforeInstantiation isInst bi procs [] with
  | mk lb rb =>
    obtain rfl : rb = .val c := by rw [hb] at h; exact h
    cases ha : (applyAfter after procs c []).2 <;> simp [ha]

/-- a component nobody supplies (no InstantiationAware processor, or all of them answer nil): the ordinary creation -/
theorem createComponent_regular {β : Type} (hasInst : Bool) (isInst : α → Bool) (bi : α → Res β) (instRes : α → Step)
    (before after : α → β → Res β) (initFails : β → Bool) (procs : List α) (raw : β)
    (h : hasInst = false ∨ (applyBeforeInstantiation isInst bi procs []).2 = .nil) :
    createComponent hasInst isInst bi instRes before after initFails procs raw =
      (let lb := if hasInst then (applyBeforeInstantiation isInst bi procs []).1 else []
       let ri := resolveAfterInstantiation isInst instRes procs
       if ri.2 then ({ binst := lb, inst := ri.1 }, none) else
       let ic := initializeComponent before after initFails procs raw
       ({ binst := lb, inst := ri.1, before := ic.1, after := ic.2.1 }, ic.2.2)) := by
  unfold createComponent resolveBeforeInstantiation
  cases hasInst with
  | false => simp
  | true =>
    cases hb : applyBeforeInstantiation isInst bi procs [] with
    | mk lb rb =>
      obtain rfl : rb = .nil := by simpa [hb] using h
      simp

/-- whatever the callbacks answer: the four logs of one creation are prefixes of the chain (of its InstantiationAware
    part for the two instantiation callbacks) -/
theorem createComponent_in_order {β : Type} (hasInst : Bool) (isInst : α → Bool) (bi : α → Res β) (instRes : α → Step)
    (before after : α → β → Res β) (initFails : β → Bool) (procs : List α) (raw : β) :
    let r := createComponent hasInst isInst bi instRes before after initFails procs raw
    r.1.binst <+: procs.filter isInst ∧ firsts r.1.inst <+: procs.filter isInst ∧
    r.1.before <+: procs ∧ r.1.after <+: procs := by
  intro r
  obtain ⟨pN, pA⟩ := resolveBeforeInstantiation_in_order hasInst isInst bi after procs
  have pI := (twoStepLoop_in_order instRes (procs.filter isInst)).1
  obtain ⟨hB, hA, _⟩ := initializeComponent_in_order before after initFails procs raw
  simp only [r, createComponent]
  split <;> rename_i h <;> rw [h] at pN pA
  · exact ⟨pN, List.nil_prefix, List.nil_prefix, pA⟩
  · exact ⟨pN, List.nil_prefix, List.nil_prefix, pA⟩
  · split
    · exact ⟨pN, pI, List.nil_prefix, List.nil_prefix⟩
    · exact ⟨pN, pI, hB, hA⟩

/-- at most one entry per component, and whatever holds of every creation holds of every entry -/
theorem refreshLoop_entries {β γ : Type} (hasInst : Bool) (isInst : α → Bool) (bi : γ → α → Res β) (instRes : α → Step)
    (before after : α → β → Res β) (initFails : β → Bool) (procs : List α) (raw : γ → β)
    (P : CompLog α × Option β → Prop)
    (hP : ∀ c, P (createComponent hasInst isInst (bi c) instRes before after initFails procs (raw c)))
    (cs : List γ) (acc : List (CompLog α × Option β)) (hacc : ∀ r ∈ acc, P r) :
    (refreshLoop hasInst isInst bi instRes before after initFails procs raw cs acc).1.length ≤ acc.length + cs.length ∧
    ∀ r ∈ (refreshLoop hasInst isInst bi instRes before after initFails procs raw cs acc).1, P r := by
  induction cs generalizing acc with
  | nil => exact ⟨Nat.le_refl _, hacc⟩
  | cons c rest ih =>
    have hc : ∀ r ∈ acc ++ [createComponent hasInst isInst (bi c) instRes before after initFails procs (raw c)], P r :=
      fun r hr => (List.mem_append.mp hr).elim (hacc r) fun h => List.mem_singleton.mp h ▸ hP c
    simp only [refreshLoop]
    split
    · exact ⟨by simp only [List.length_append, List.length_cons, List.length_nil]; omega, hc⟩
    · exact ⟨by have := (ih _ hc).1; simp only [List.length_append, List.length_cons, List.length_nil] at this ⊢; omega, (ih _ hc).2⟩

theorem startB_in_order {β γ : Type} {sort : (α → α → Bool) → List α → List α} {part : α → Part}
    (hs : SortSpec part sort)
    (loadRes : α → Step) (hasInst : Bool) (isInst : α → Bool) (bi : γ → α → Res β) (instRes : α → Step)
    (before after : α → β → Res β) (runFails : α → Bool) (raw : γ → β) (cs : List γ)
    (loaders procs runners : List α) :
    let g := startB sort part loadRes (fun x => some x) hasInst isInst bi instRes before after runFails raw cs loaders procs runners
    firsts g.loads <+: sortOrdered sort part loaders ∧
    g.comps.length ≤ cs.length ∧
    (∀ r ∈ g.comps,
      r.1.binst <+: (sortOrdered sort part procs).filter isInst ∧
      firsts r.1.inst <+: (sortOrdered sort part procs).filter isInst ∧
      r.1.before <+: sortOrdered sort part procs ∧
      r.1.after <+: sortOrdered sort part procs) ∧
    g.runs <+: sortOrdered sort part runners := by
  intro g
  have pL := (twoStepLoop_in_order loadRes (sortOrdered sort part loaders)).1
  have pR := takeUntil_prefix runFails (sortOrdered sort part runners)
  obtain ⟨hlen, hall⟩ := refreshLoop_entries hasInst isInst bi instRes before after (fun _ => false)
    (sortOrdered sort part procs) raw
    (fun r => r.1.binst <+: (sortOrdered sort part procs).filter isInst ∧
      firsts r.1.inst <+: (sortOrdered sort part procs).filter isInst ∧
      r.1.before <+: sortOrdered sort part procs ∧ r.1.after <+: sortOrdered sort part procs)
    (fun c => createComponent_in_order hasInst isInst (bi c) instRes before after (fun _ => false) _ (raw c)) cs []
    (fun _ h => nomatch h)
  rw [List.length_nil, Nat.zero_add] at hlen
  have hg : g = startB sort part loadRes (fun x => some x) hasInst isInst bi instRes before after runFails raw cs loaders procs runners := rfl
  clear_value g
  simp only [startB, loadConfigure, invokeRegister_some, callRunners_eq hs, Bool.false_eq_true, if_false] at hg
  split at hg
  · subst hg; exact ⟨pL, Nat.zero_le _, fun _ h => (nomatch h), List.nil_prefix⟩
  · split at hg <;> subst hg
    · exact ⟨pL, hlen, hall, List.nil_prefix⟩
    · exact ⟨pL, hlen, hall, pR⟩

end Ioc.Order
