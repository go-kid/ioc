/-
  Lemmas about the two layers of the binder in the placeholder model (Ioc.Placeholder.Layers): with nothing set the
  layered lookup IS the lookup of the documents; after Set, the path that was set, the paths below it and the paths
  above it answer with what was set.
-/
import IocProofs.Lemmas.Placeholder
import IocProofs.Lemmas.ValueBinder
namespace Ioc.Placeholder

theorem splitDots_eq : splitDots = Value.splitDots := by
  funext s
  induction s with
  | nil => rfl
  | cons c rest ih => simp only [splitDots, Value.splitDots, ih]; cases Value.splitDots rest <;> rfl

theorem splitDots_ne_nil (s : Bytes) : splitDots s ≠ [] :=
  splitDots_eq ▸ Value.splitDots_ne_nil s

theorem splitDots_append (x y : Bytes) : splitDots (x ++ 46 :: y) = splitDots x ++ splitDots y :=
  splitDots_eq ▸ Value.splitDots_append x y

theorem lower_append_dot (x y : Bytes) : lower (x ++ 46 :: y) = lower x ++ 46 :: lower y := by
  simp [lower, lowerByte]

theorem searchOver_nil (p : List Bytes) (hp : p ≠ []) : searchOver [] p = none := by
  cases p with
  | nil => exact absurd rfl hp
  | cons k rest => simp [searchOver, alookup]

theorem shadowedFrom_nil (p : List Bytes) (fuel i : Nat) (hi : 0 < i) : shadowedFrom [] p fuel i = false := by
  induction fuel generalizing i with
  | zero => rfl
  | succ n ih =>
    simp only [shadowedFrom]
    by_cases h : i ≥ p.length
    · simp [h]
    · have hne : p.take i ≠ [] := by
        intro e
        have hl := congrArg List.length e
        rw [List.length_take, List.length_nil] at hl
        omega
      simp [h, searchOver_nil _ hne]

theorem shadowed_nil (p : List Bytes) : shadowed [] p = false := by
  unfold shadowed
  exact shadowedFrom_nil p _ 1 (by omega)

theorem getPath_no_set (cfg : Cfg) (p : List Bytes) (hp : p ≠ []) :
    (Layers.mk [] cfg).getPath p = search (.map cfg) p := by
  simp [Layers.getPath, searchOver_nil p hp, shadowed_nil]

theorem get_no_set (cfg : Cfg) (key : Bytes) : (Layers.mk [] cfg).get key = get cfg key := by
  unfold Layers.get get
  split
  · simp
  · exact getPath_no_set cfg _ (splitDots_ne_nil _)

theorem replL_no_set (cfg : Cfg) : replL ⟨[], cfg⟩ = repl cfg := by
  funext content
  simp only [replL, repl, get_no_set]

theorem processL_no_set (cfg : Cfg) (s : Bytes) : processL ⟨[], cfg⟩ s = process cfg s := by
  simp only [processL, process, replaceAll, loop, replL_no_set]

theorem searchOver_deepSet_same (p : List Bytes) (hp : p ≠ []) (m : Cfg) (v : CVal) :
    searchOver (deepSet m p v) p = nilToNone v := by
  fun_induction deepSet m p v <;> simp_all [searchOver, alookup_ainsert_same]

theorem searchOver_deepSet_below (p : List Bytes) (hp : p ≠ []) (q : List Bytes) (m vm : Cfg) :
    searchOver (deepSet m p (.map vm)) (p ++ q) = searchOver vm q := by
  generalize hv : CVal.map vm = v
  fun_induction deepSet m p v <;> subst hv <;> simp_all [searchOver, alookup_ainsert_same]
  cases q <;> rfl

theorem searchOver_deepSet_above (a : List Bytes) (ha : a ≠ []) (q : List Bytes) (hq : q ≠ []) (m : Cfg) (v : CVal) :
    ∃ sub, searchOver (deepSet m (a ++ q) v) a = some (.map sub) ∧ searchOver sub q = nilToNone v := by
  obtain ⟨q1, qs, rfl⟩ := List.exists_cons_of_ne_nil hq
  induction a generalizing m with
  | nil => exact absurd rfl ha
  | cons k rest ih =>
    cases rest with
    | nil =>
      simp only [List.cons_append, List.nil_append, deepSet, searchOver, alookup_ainsert_same, nilToNone]
      exact ⟨_, rfl, searchOver_deepSet_same _ hq _ v⟩
    | cons k2 rest2 =>
      obtain ⟨sub, h1, h2⟩ := ih (by simp)
        (match alookup k m with
          | some (.map m') => m'
          | _ => [])
      refine ⟨sub, ?_, h2⟩
      simp only [List.cons_append, deepSet, searchOver, alookup_ainsert_same]
      exact h1

theorem get_of_ne (l : Layers) (key : Bytes) (hk : key ≠ []) : l.get key = l.getPath (splitDots (lower key)) := by
  cases key with
  | nil => exact absurd rfl hk
  | cons _ _ => rfl

theorem get_of_over (l : Layers) (key : Bytes) (hk : key ≠ []) (v : CVal)
    (h : searchOver l.over (splitDots (lower key)) = some v) : l.get key = .val (some v) := by
  rw [get_of_ne l key hk, Layers.getPath, h]

theorem set_get (l : Layers) (path path' : Bytes) (v : CVal) (hp : path' ≠ []) (hc : lower path' = lower path)
    (hv : lowerKeys v ≠ .null) : (l.set path v).get path' = .val (some (lowerKeys v)) := by
  apply get_of_over _ _ hp
  simp only [Layers.set, hc]
  rw [searchOver_deepSet_same _ (splitDots_ne_nil _)]
  cases h : lowerKeys v <;> simp_all [nilToNone]

theorem set_seen_below (l : Layers) (a q : Bytes) (vm : Cfg) (w : CVal)
    (h : searchOver (lowerKeysM vm) (splitDots (lower q)) = some w) :
    (l.set a (.map vm)).get (a ++ 46 :: q) = .val (some w) := by
  apply get_of_over _ _ (by simp)
  simp only [Layers.set, lower_append_dot, splitDots_append, lowerKeys]
  rw [searchOver_deepSet_below _ (splitDots_ne_nil _)]
  exact h

theorem set_seen_through_ancestor (l : Layers) (a q : Bytes) (ha : a ≠ []) (v : CVal) :
    ∃ sub, (l.set (a ++ 46 :: q) v).get a = .val (some (.map sub)) ∧
      searchOver sub (splitDots (lower q)) = nilToNone (lowerKeys v) := by
  obtain ⟨sub, h1, h2⟩ := searchOver_deepSet_above (splitDots (lower a)) (splitDots_ne_nil _)
    (splitDots (lower q)) (splitDots_ne_nil _) l.over (lowerKeys v)
  refine ⟨sub, ?_, h2⟩
  apply get_of_over _ _ ha
  simp only [Layers.set, lower_append_dot, splitDots_append]
  exact h1

/-- the callback after Set: a placeholder that names a path with a value in the override layer resolves to that value -/
theorem replL_of_over (l : Layers) (content key : Bytes) (dflt : Option Bytes) (v : CVal) (hk : key ≠ [])
    (hs : splitColon content = (key, dflt)) (h : searchOver l.over (splitDots (lower key)) = some v)
    (hp : isAbsent (some v) = false) : replL l content = .ok (format v) := by
  simp [replL, hs, get_of_over l key hk v h, hp, formatOpt_of_present hp]

end Ioc.Placeholder
