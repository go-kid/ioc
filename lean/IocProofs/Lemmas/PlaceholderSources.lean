/-
  Lemmas about sources merged after the start in the placeholder model (Ioc.Placeholder.mergeKvs / Conf): what a
  document that says `p: v` leaves at the path p of the documents layer, and what a lookup answers then.
-/
import IocProofs.Lemmas.PlaceholderLayers
namespace Ioc.Placeholder

/-- what `searchMap` makes of the entry it found -/
def entryAnswer (x : CVal) : List Bytes → GetRes
  | [] => .val (nilToNone x)
  | q :: rest =>
    match x with
    | .map _ => search x (q :: rest)
    | .list _ => search x (q :: rest)
    | _ => .val none

theorem searchMap_cons (k : Bytes) (v : CVal) (more : Cfg) (p : Bytes) (rest : List Bytes) :
    searchMap ((k, v) :: more) p rest = if k = p then entryAnswer v rest else searchMap more p rest := by
  simp only [searchMap]
  split
  · cases rest
    · rfl
    · cases v <;> rfl
  · rfl

theorem searchMap_updKv (f : CVal → CVal) (k : Bytes) (d : CVal) (rest : List Bytes) (m : Cfg) :
    searchMap (updKv f k d m) k rest =
      match alookup k m with
      | none => entryAnswer d rest
      | some t => entryAnswer (f t) rest := by
  induction m with
  | nil => simp [updKv, searchMap_cons, alookup]
  | cons hd tl ih =>
    obtain ⟨k', v'⟩ := hd
    by_cases h : k' = k <;> simp [updKv, searchMap_cons, alookup, h, ih]

theorem mergeVal_of_not_map (t v : CVal) (ht : t.isMap = false) : mergeVal t v = v := by
  cases t <;> simp_all [mergeVal, CVal.isMap]

theorem mergeVal_map_not_map (a : Cfg) (v : CVal) (hv : v.isMap = false) : mergeVal (.map a) v = .map a := by
  cases v <;> simp_all [mergeVal, CVal.isMap]

theorem mergeKvs_single (a : Cfg) (k : Bytes) (v : CVal) :
    mergeKvs a [(k, v)] = updKv (fun t => mergeVal t v) k v a := by
  simp [mergeKvs]

theorem pathDoc_cons2 (k k2 : Bytes) (rest : List Bytes) (v : CVal) :
    pathDoc (k :: k2 :: rest) v = [(k, .map (pathDoc (k2 :: rest) v))] := rfl

/-- viper's mergeMaps with the document `p: v`: unless the binder holds a MAP at p, a search of p finds v -/
theorem search_merge_pathDoc (p : List Bytes) (hp : p ≠ []) (v : CVal) :
    ∀ conf : Cfg, mapAt conf p = false → search (.map (mergeKvs conf (pathDoc p v))) p = .val (nilToNone v) := by
  induction p with
  | nil => exact absurd rfl hp
  | cons k rest ih =>
    intro conf hm
    cases rest with
    | nil =>
      simp only [pathDoc, mergeKvs_single, search, searchMap_updKv]
      cases hl : alookup k conf with
      | none => simp [entryAnswer]
      | some t =>
        have ht : t.isMap = false := by
          cases t <;> simp_all [mapAt, CVal.isMap]
        simp [entryAnswer, mergeVal_of_not_map t v ht]
    | cons k2 rest2 =>
      have ih' := ih (by simp)
      have hfresh : search (.map (pathDoc (k2 :: rest2) v)) (k2 :: rest2) = .val (nilToNone v) := by
        have := ih' [] (by simp [mapAt, alookup])
        cases rest2 <;> simpa [pathDoc, mergeKvs, updKv] using this
      simp only [pathDoc_cons2, mergeKvs_single, search, searchMap_updKv]
      cases hl : alookup k conf with
      | none => simpa [entryAnswer] using hfresh
      | some t =>
        cases t with
        | map m' =>
          have hm' : mapAt m' (k2 :: rest2) = false := by simpa [mapAt, hl] using hm
          simpa [entryAnswer, mergeVal] using ih' m' hm'
        | _ => simpa [entryAnswer, mergeVal] using hfresh

theorem get_of_conf (l : Layers) (key : Bytes) (hk : key ≠ [])
    (ho : searchOver l.over (splitDots (lower key)) = none) (hs : shadowed l.over (splitDots (lower key)) = false) :
    l.get key = search (.map l.conf) (splitDots (lower key)) := by
  simp [get_of_ne l key hk, Layers.getPath, ho, hs]

theorem start_layers (base : Cfg) : (Conf.start base).layers = ⟨[], mergeDoc [] base⟩ := rfl

theorem step_setConfig_layers (c : Conf) (d : Cfg) :
    (c.step (.setConfig d)).layers = ⟨c.layers.over, mergeDoc c.layers.conf d⟩ := rfl

theorem step_addLoader_layers (c : Conf) (d : Cfg) :
    (c.step (.addLoader d)).layers = ⟨c.layers.over, mergeDoc (c.loaders.foldl mergeDoc c.layers.conf) d⟩ := by
  simp [Conf.step, Conf.initialize, List.foldl_append]

/-- a document saying `key: v`, merged into the configuration layer: the layer answers `v` at the key, unless it held a
    map at that path -/
theorem search_mergeDoc (conf doc : Cfg) (key : Bytes) (v : CVal)
    (hdoc : lowerKeysM doc = pathDoc (splitDots (lower key)) v) (hm : mapAt conf (splitDots (lower key)) = false) :
    search (.map (mergeDoc conf doc)) (splitDots (lower key)) = .val (nilToNone v) := by
  simp only [mergeDoc, hdoc]
  exact search_merge_pathDoc _ (splitDots_ne_nil _) v _ hm

/-- the callback when the documents layer answers: a present value is formatted, not an earlier answer, not the default -/
theorem replL_of_conf (l : Layers) (content key : Bytes) (dflt : Option Bytes) (v : CVal) (hk : key ≠ [])
    (hsp : splitColon content = (key, dflt)) (ho : searchOver l.over (splitDots (lower key)) = none)
    (hs : shadowed l.over (splitDots (lower key)) = false)
    (h : search (.map l.conf) (splitDots (lower key)) = .val (some v)) (hp : isAbsent (some v) = false) :
    replL l content = .ok (format v) := by
  simp [replL, hsp, get_of_conf l key hk ho hs, h, hp, formatOpt_of_present hp]

end Ioc.Placeholder
