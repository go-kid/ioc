/-
  Lemmas about M1 (Ioc.Registry): the cache invariant and its preservation by every primitive
  operation; `ExecClosed`, the induction principle over operation trees, and by it preservation of the
  invariant, monotonicity of publication, and the trace automata used by C04 (`earlyRun`: inside one
  creation; `absentRun`: after a failed creation).
-/
import Ioc.Registry
namespace Ioc
namespace Reg

theorem runsEarly_l1 (r : Reg) (n : Name) (b : Bool) (o : Obj) (h : r.l1? n = some o) : r.runsEarly n b = false := by
  simp [runsEarly, h]
theorem runsEarly_l2 (r : Reg) (n : Name) (b : Bool) (o : Obj) (h : r.l2? n = some o) : r.runsEarly n b = false := by
  simp [runsEarly, h]
theorem runsEarly_no_factory (r : Reg) (n : Name) (b : Bool) (h : n ∉ r.l3) : r.runsEarly n b = false := by
  simp [runsEarly, h]
@[simp] theorem runsEarly_false (r : Reg) (n : Name) : r.runsEarly n false = false := by
  simp [runsEarly]
theorem runsEarly_true (r : Reg) (n : Name) (h1 : r.l1? n = none) (h2 : r.l2? n = none) (h3 : n ∈ r.l3) :
    r.runsEarly n true = true := by
  simp [runsEarly, h1, h2, h3]

/-- `get` by cases, together with whether it ran the early-reference factory: answered from level 1 or 2; nothing there
    and no factory to run; the factory fails; the factory makes the early reference -/
theorem get_cases (r : Reg) (n : Name) (b : Bool) (e : Except Err Obj) :
    (∃ o, (r.l1? n = some o ∨ r.l1? n = none ∧ r.l2? n = some o) ∧ r.get n b e = (.ok (some o), r) ∧
      r.runsEarly n b = false) ∨
    (r.l1? n = none ∧ r.l2? n = none ∧ (b = false ∨ n ∉ r.l3) ∧ r.get n b e = (.ok none, r) ∧
      r.runsEarly n b = false) ∨
    (r.l1? n = none ∧ r.l2? n = none ∧ n ∈ r.l3 ∧ b = true ∧ r.runsEarly n b = true ∧
      ((∃ x, e = .error x ∧ r.get n b e = (.error x, r)) ∨
       (∃ o, e = .ok o ∧ r.get n b e = (.ok (some o), { r with l2 := aset n o r.l2, l3 := sdel n r.l3 })))) := by
  cases h1 : r.l1? n with
  | some o => exact .inl ⟨o, .inl rfl, get_l1 r n b e o h1, runsEarly_l1 r n b o h1⟩
  | none =>
    cases h2 : r.l2? n with
    | some o => exact .inl ⟨o, .inr ⟨rfl, rfl⟩, get_l2 r n b e o h1 h2, runsEarly_l2 r n b o h2⟩
    | none =>
      by_cases h3 : n ∈ r.l3
      · cases b with
        | false => exact .inr (.inl ⟨rfl, rfl, .inl rfl, get_not_allowed r n e h1 h2, runsEarly_false r n⟩)
        | true =>
          refine .inr (.inr ⟨rfl, rfl, h3, rfl, runsEarly_true r n h1 h2 h3, ?_⟩)
          cases e with
          | error x => exact .inl ⟨x, rfl, get_early_err r n x h1 h2 h3⟩
          | ok o => exact .inr ⟨o, rfl, get_early_ok r n o h1 h2 h3⟩
      · exact .inr (.inl ⟨rfl, rfl, .inr h3, get_no_factory r n b e h1 h2 h3, runsEarly_no_factory r n b h3⟩)

/-- l1 ∩ inCr = ∅, l2 ∪ l3 ⊆ inCr, l2 ∩ l3 = ∅, and the four containers hold every key once -/
structure Inv (r : Reg) : Prop where
  l1_inCr : ∀ n, r.l1? n ≠ none → n ∉ r.inCr
  l2_inCr : ∀ n, r.l2? n ≠ none → n ∈ r.inCr
  l3_inCr : ∀ n, n ∈ r.l3 → n ∈ r.inCr
  l2_l3 : ∀ n, r.l2? n ≠ none → n ∉ r.l3
  nd1 : (akeys r.l1).Nodup
  nd2 : (akeys r.l2).Nodup
  nd3 : r.l3.Nodup
  nd4 : r.inCr.Nodup

theorem inv_empty : empty.Inv := by
  constructor <;> simp [empty, l1?, l2?, akeys]

theorem Inv.get {r : Reg} (h : r.Inv) (n : Name) (b : Bool) (e : Except Err Obj) : (r.get n b e).2.Inv := by
  rcases get_cases r n b e with ⟨o, _, hg, _⟩ | ⟨_, _, _, hg, _⟩ | ⟨h1, h2, h3, _, _, ⟨x, _, hg⟩ | ⟨o, _, hg⟩⟩ <;> rw [hg]
  · exact h
  · exact h
  · exact h
  · have l2 : ∀ m, alookup m (aset n o r.l2) ≠ none → m = n ∨ r.l2? m ≠ none := fun m hm => by
      by_cases hmn : m = n <;> simp_all [l2?]
    exact { h with
      l2_inCr := fun m hm => (l2 m hm).elim (· ▸ h.l3_inCr n h3) (h.l2_inCr m)
      l3_inCr := fun m hm => h.l3_inCr m ((mem_sdel ..).1 hm).1
      l2_l3 := fun m hm hm3 => (l2 m hm).elim ((mem_sdel ..).1 hm3).2 (h.l2_l3 m · ((mem_sdel ..).1 hm3).1)
      nd2 := nodup_akeys_aset n o r.l2 h.nd2
      nd3 := nodup_sdel n r.l3 h.nd3 }

theorem Inv.beginCreate {r : Reg} (h : r.Inv) (n : Name) : (r.beginCreate n).2.Inv := by
  cases h1 : r.l1? n with
  | some o => rw [beginCreate_hit r n o h1]; exact h
  | none =>
    rw [beginCreate_miss r n h1]
    exact { h with
      l1_inCr := fun m hm hc => ((mem_sput ..).1 hc).elim (fun hmn => hm (hmn ▸ h1)) (h.l1_inCr m hm)
      l2_inCr := fun m hm => (mem_sput ..).2 (.inr (h.l2_inCr m hm))
      l3_inCr := fun m hm => (mem_sput ..).2 (.inr (h.l3_inCr m hm))
      nd4 := nodup_sput n r.inCr h.nd4 }

theorem Inv.addFactory {r : Reg} (h : r.Inv) (n : Name) (hc : n ∈ r.inCr) (h2 : r.l2? n = none) :
    (r.addFactory n).Inv :=
  { h with
    l3_inCr := fun m hm => ((mem_l3_addFactory ..).1 hm).elim (· ▸ hc) (h.l3_inCr m)
    l2_l3 := fun m hm h3 => ((mem_l3_addFactory ..).1 h3).elim (fun hmn => hm (hmn ▸ h2)) (h.l2_l3 m hm)
    nd3 := nodup_sput n r.l3 h.nd3 }

theorem Inv.startCreate {r : Reg} (h : r.Inv) (n : Name) (h2 : r.l2? n = none) : (r.startCreate n).Inv := by
  unfold Reg.startCreate
  dsimp only
  split
  · next hc => exact (h.beginCreate n).addFactory n (by simpa using hc) (by simpa using h2)
  · exact h.beginCreate n

/-- dropping `n` from levels 2 and 3 and from the names in creation keeps the invariant, whatever level 1 becomes at
    `n` (RemoveSingleton clears it, AddSingleton after a creation fills it) -/
theorem Inv.drop {r r' : Reg} (h : r.Inv) (n : Name) (e2 : r'.l2 = adel n r.l2) (e3 : r'.l3 = sdel n r.l3)
    (e4 : r'.inCr = sdel n r.inCr) (nd : (akeys r'.l1).Nodup) (h1 : ∀ m, m ≠ n → r'.l1? m = r.l1? m) : r'.Inv := by
  have l2 : ∀ m, r'.l2? m ≠ none → m ≠ n ∧ r.l2? m ≠ none := fun m hm => by
    by_cases hmn : m = n <;> simp_all [l2?]
  refine ⟨fun m hm => ?_, fun m hm => ?_, fun m hm => ?_, fun m hm => ?_, nd, e2 ▸ nodup_akeys_adel n r.l2 h.nd2,
    e3 ▸ nodup_sdel n r.l3 h.nd3, e4 ▸ nodup_sdel n r.inCr h.nd4⟩
  · rw [e4, mem_sdel]
    exact fun hc => h.l1_inCr m (h1 m hc.2 ▸ hm) hc.1
  · rw [e4, mem_sdel]
    exact ⟨h.l2_inCr m (l2 m hm).2, (l2 m hm).1⟩
  · rw [e3, mem_sdel] at hm
    rw [e4, mem_sdel]
    exact ⟨h.l3_inCr m hm.1, hm.2⟩
  · rw [e3, mem_sdel]
    exact fun h3 => h.l2_l3 m (l2 m hm).2 h3.1

theorem Inv.remove {r : Reg} (h : r.Inv) (n : Name) : (r.remove n).Inv :=
  h.drop n rfl rfl rfl (nodup_akeys_adel n r.l1 h.nd1) fun m hm => by simp [hm]

theorem Inv.endCreate {r : Reg} (h : r.Inv) (n : Name) (res : Except Err Obj) : (r.endCreate n res).Inv := by
  cases res with
  | error x => exact h.remove n
  | ok o => exact h.drop n rfl rfl rfl (nodup_akeys_aset n o r.l1 h.nd1) fun m hm => by simp [hm]

/-- AddSingleton called directly (not through endCreate) keeps the invariant for a name that is not in creation -/
theorem Inv.addSingleton {r : Reg} (h : r.Inv) (n : Name) (o : Obj) (hn : n ∉ r.inCr) : (r.addSingleton n o).Inv := by
  have e : sdel n r.inCr = r.inCr := List.filter_eq_self.2 fun a ha => bne_iff_ne.2 fun hh => hn (hh ▸ ha)
  have := h.endCreate n (.ok o)
  rwa [Reg.endCreate, e] at this

end Reg

open Reg

/-- `M` relates a registry to the outcome of running something on it.  It holds of a lookup (a doGetComponent whose
    first lookup answers is one), is passed on from the body of a creation to the creation, holds of the empty
    sequence and is passed on to `a :: as`. -/
structure ExecClosed (M : Reg → Reg × List Ev → Prop) : Prop where
  get : ∀ r n b e, M r ((r.get n b e).2, [lookupEv r n b e])
  create : ∀ r n body res, r.l1? n = none → r.l2? n = none → n ∉ r.l3 →
    M (r.startCreate n) (execs (r.startCreate n) body) →
    M r ((execs (r.startCreate n) body).1.endCreate n res,
      .begin n :: (execs (r.startCreate n) body).2 ++
        [.ret n (Ret.ofRes res) (((execs (r.startCreate n) body).1.endCreate n res).isInCreation n) false])
  nil : ∀ r, M r (r, [])
  cons : ∀ r a as, M r (exec r a) → M (exec r a).1 (execs (exec r a).1 as) →
    M r ((execs (exec r a).1 as).1, (exec r a).2 ++ (execs (exec r a).1 as).2)

mutual
theorem ExecClosed.exec {M : Reg → Reg × List Ev → Prop} (h : ExecClosed M) : (a : Act) → ∀ r, M r (exec r a)
  | .lookup n b e, r => by rw [exec_lookup]; exact h.get r n b e
  | .getOrCreate n early body res, r => by
    by_cases hg : (r.get n true early).1 = .ok none
    · obtain ⟨_, h1, h2, h3⟩ := get_miss r n true early hg
      rw [exec_create r n early body res hg]; exact h.create r n body res h1 h2 (h3 rfl) (h.execs body _)
    · rw [exec_answered r n early body res hg]; exact h.get r n true early
theorem ExecClosed.execs {M : Reg → Reg × List Ev → Prop} (h : ExecClosed M) : (as : List Act) → ∀ r, M r (execs r as)
  | [], r => by rw [execs_nil]; exact h.nil r
  | a :: as, r => by rw [execs_cons]; exact h.cons r a as (h.exec a r) (h.execs as _)
end

theorem inv_closed : ExecClosed fun r x => r.Inv → x.1.Inv where
  get _ n b e h := h.get n b e
  create _ n _ res _ h2 _ ih h := (ih (h.startCreate n h2)).endCreate n res
  nil _ h := h
  cons _ _ _ ih1 ih2 h := ih2 (ih1 h)

theorem exec_inv (r : Reg) (h : r.Inv) (a : Act) : (exec r a).1.Inv := inv_closed.exec a r h
theorem execs_inv (r : Reg) (h : r.Inv) (as : List Act) : (execs r as).1.Inv := inv_closed.execs as r h

/-- publication is final -/
theorem l1_mono_closed (m : Name) (o : Obj) : ExecClosed fun r x => r.l1? m = some o → x.1.l1? m = some o where
  get _ _ _ _ h := by simpa using h
  create _ n _ res h1 _ _ ih h := by
    have hmn : m ≠ n := fun hh => by rw [hh, h1] at h; cases h
    rw [(endCreate_other _ n m res hmn).1]
    exact ih (by simpa using h)
  nil _ h := h
  cons _ _ _ ih1 ih2 h := ih2 (ih1 h)

theorem execs_l1_mono (r : Reg) (m : Name) (o : Obj) (h : r.l1? m = some o) (as : List Act) :
    (execs r as).1.l1? m = some o :=
  (l1_mono_closed m o).execs as r h

/-- a published name: every call on it returns the published object, reports it as not in creation, runs no factory -/
theorem stable_closed (m : Name) (o : Obj) : ExecClosed fun r x =>
    r.Inv → r.l1? m = some o → ∀ ev ∈ x.2, ev.name = m → ev = .ret m (.obj o) false false where
  get r n b e hi h ev hev hname := by
    rw [List.mem_singleton.1 hev] at hname ⊢
    cases (show n = m from hname)
    have hc : m ∉ r.inCr := hi.l1_inCr m (by simp [h])
    simp [lookupEv, get_l1 r m b e o h, Ret.ofGet, runsEarly_l1 r m b o h, hc]
  create r n body res h1 h2 _ ih hi h ev hev hname := by
    have hmn : n ≠ m := fun hh => by rw [hh, h] at h1; cases h1
    simp only [List.mem_cons, List.mem_append, List.cons_append, List.not_mem_nil, or_false] at hev
    rcases hev with rfl | hev | rfl
    · exact absurd hname hmn
    · exact ih (hi.startCreate n h2) (by simpa using h) ev hev hname
    · exact absurd hname hmn
  nil _ _ _ _ hev := absurd hev List.not_mem_nil
  cons r a _ ih1 ih2 hi h ev hev :=
    (List.mem_append.1 hev).elim (ih1 hi h ev) (ih2 (exec_inv r hi a) ((l1_mono_closed m o).exec a r h) ev)

theorem execs_stable (r : Reg) (hi : r.Inv) (m : Name) (o : Obj) (h : r.l1? m = some o) (as : List Act) :
    ∀ ev ∈ (execs r as).2, ev.name = m → ev = .ret m (.obj o) false false :=
  (stable_closed m o).execs as r hi h

/-- one step of the automaton that reads the trace of the body of a creation of `n`.
    State = the early reference handed out so far.  `none` = the trace is not allowed. -/
def earlyStep (n : Name) (cur : Option Obj) : Ev → Option (Option Obj)
  | .begin m => if m = n then none else some cur           -- no second creation of n inside its creation
  | .ret m ret inCr ran =>
    if m = n then
      if inCr then
        match cur, ret, ran with
        | none, .obj e, true => some (some e)               -- the one successful run of the early factory
        | none, .none, false => some none                   -- early references not allowed, none taken yet
        | none, .err, true => some none                     -- the early factory failed: nothing is stored
        | some e, .obj e', false => if e = e' then some (some e) else none   -- afterwards: that object, no run
        | _, _, _ => none
      else none                                             -- n is reported in creation all the time
    else some cur

def earlyRun (n : Name) : Option Obj → List Ev → Option (Option Obj)
  | cur, [] => some cur
  | cur, ev :: rest =>
    match earlyStep n cur ev with
    | some c => earlyRun n c rest
    | none => none

theorem earlyRun_append (n : Name) (cur : Option Obj) (xs ys : List Ev) :
    earlyRun n cur (xs ++ ys) = (earlyRun n cur xs).bind (fun c => earlyRun n c ys) := by
  induction xs generalizing cur with
  | nil => simp [earlyRun]
  | cons x xs ih =>
    simp only [List.cons_append, earlyRun]
    cases earlyStep n cur x with
    | none => simp
    | some c => simpa using ih c

theorem earlyStep_other (n : Name) (cur : Option Obj) (ev : Ev) (h : ev.name ≠ n) : earlyStep n cur ev = some cur := by
  cases ev with
  | begin m => simp only [Ev.name] at h; simp [earlyStep, h]
  | ret m ret c ran => simp only [Ev.name] at h; simp [earlyStep, h]

/-- the transitions of the automaton: an event of another name; a call on `n` that returns nothing while no early
    reference exists; the call that makes the early reference `e`; a call that returns the existing one -/
theorem earlyStep_some {n : Name} {cur c' : Option Obj} {ev : Ev} (h : earlyStep n cur ev = some c') :
    (ev.name ≠ n ∧ c' = cur) ∨
    (cur = none ∧ c' = none ∧ (ev = .ret n .none true false ∨ ev = .ret n .err true true)) ∨
    ∃ e, c' = some e ∧ ((cur = none ∧ ev = .ret n (.obj e) true true) ∨ (cur = some e ∧ ev = .ret n (.obj e) true false)) := by
  by_cases hn : ev.name = n
  · cases ev with
    | begin m => simp_all [earlyStep, Ev.name]
    | ret m ret ic ran =>
      cases (show m = n from hn)
      cases ic
      · simp [earlyStep] at h
      · cases cur <;> cases ret <;> cases ran <;> simp [earlyStep] at h <;> simp [← h]
  · exact .inl ⟨hn, by rw [earlyStep_other n cur ev hn] at h; exact (Option.some.inj h).symm⟩

/-- objects returned by calls on `n` -/
def objsOf (n : Name) : List Ev → List Obj
  | [] => []
  | .ret m (.obj o) _ _ :: rest => if m = n then o :: objsOf n rest else objsOf n rest
  | _ :: rest => objsOf n rest

/-- calls on `n` that ran its early-reference factory and obtained an object -/
def okRuns (n : Name) : List Ev → Nat
  | [] => 0
  | .ret m (.obj _) _ true :: rest => if m = n then okRuns n rest + 1 else okRuns n rest
  | _ :: rest => okRuns n rest

/-- events of other names are not counted -/
theorem objsOf_other {n : Name} {ev : Ev} (h : ev.name ≠ n) (rest : List Ev) :
    objsOf n (ev :: rest) = objsOf n rest ∧ okRuns n (ev :: rest) = okRuns n rest := by
  cases ev with
  | begin m => exact ⟨rfl, rfl⟩
  | ret m ret ic ran => cases ret <;> cases ran <;> simp_all [objsOf, okRuns, Ev.name]

/-- once an early reference `e` exists: every later call on `n` returns `e`, reports `n` in creation,
    and does not run the factory; no creation of `n` starts -/
theorem earlyRun_some (n : Name) (e : Obj) (evs : List Ev) (c : Option Obj) (h : earlyRun n (some e) evs = some c) :
    c = some e ∧ (∀ ev ∈ evs, ev.name = n → ev = .ret n (.obj e) true false) ∧ okRuns n evs = 0 := by
  induction evs with
  | nil => simp [earlyRun] at h; simp [h.symm, okRuns]
  | cons ev rest ih =>
    simp only [earlyRun] at h
    cases hs : earlyStep n (some e) ev with
    | none => simp [hs] at h
    | some c' =>
      simp only [hs] at h
      rcases earlyStep_some hs with ⟨hn, rfl⟩ | ⟨hc, _⟩ | ⟨e', rfl, ⟨hc, _⟩ | ⟨hc, rfl⟩⟩
      · obtain ⟨h1, h2, h3⟩ := ih h
        exact ⟨h1, fun ev' hev hname => (List.mem_cons.1 hev).elim (fun h' => absurd (h' ▸ hname) hn) (h2 ev' · hname),
          by rw [(objsOf_other hn _).2, h3]⟩
      · cases hc
      · cases hc
      · cases hc
        obtain ⟨h1, h2, h3⟩ := ih h
        exact ⟨h1, fun ev' hev hname => (List.mem_cons.1 hev).elim id (h2 ev' · hname), by simpa [okRuns] using h3⟩

theorem objsOf_of_all (n : Name) (e : Obj) (evs : List Ev)
    (h : ∀ ev ∈ evs, ev.name = n → ev = .ret n (.obj e) true false) : ∀ o ∈ objsOf n evs, o = e := by
  induction evs with
  | nil => simp [objsOf]
  | cons ev rest ih =>
    have ih' := ih fun ev' hev' => h ev' (List.mem_cons_of_mem _ hev')
    by_cases hn : ev.name = n
    · rw [h ev List.mem_cons_self hn]
      simpa [objsOf] using ih'
    · rwa [(objsOf_other hn _).1]

/-- what an accepted trace means: one object, obtained by at most one successful run of the factory -/
theorem earlyRun_spec (n : Name) (cur : Option Obj) (evs : List Ev) (c : Option Obj) (h : earlyRun n cur evs = some c) :
    (∀ o ∈ objsOf n evs, c = some o) ∧ okRuns n evs ≤ 1 ∧
    (∀ ev ∈ evs, ev ≠ .begin n) ∧ (∀ ev ∈ evs, ∀ m ret ic ran, ev = .ret m ret ic ran → m = n → ic = true) := by
  induction evs generalizing cur with
  | nil => simp [objsOf, okRuns]
  | cons ev rest ih =>
    simp only [earlyRun] at h
    cases hs : earlyStep n cur ev with
    | none => simp [hs] at h
    | some c' =>
      simp only [hs] at h
      obtain ⟨i1, i2, i3, i4⟩ := ih c' h
      -- a call on `n` that reports it in creation is fine as the head of the trace
      have hd : ∀ r b, (∀ ev ∈ Ev.ret n r true b :: rest, ev ≠ .begin n) ∧
          ∀ ev ∈ Ev.ret n r true b :: rest, ∀ m ret ic ran, ev = .ret m ret ic ran → m = n → ic = true := fun _ _ =>
        ⟨List.forall_mem_cons.2 ⟨nofun, i3⟩, List.forall_mem_cons.2 ⟨fun _ _ _ _ h' _ => by cases h'; rfl, i4⟩⟩
      rcases earlyStep_some hs with ⟨hn, _⟩ | ⟨_, _, rfl | rfl⟩ | ⟨e, rfl, ⟨_, rfl⟩ | ⟨_, rfl⟩⟩
      · rw [(objsOf_other hn _).1, (objsOf_other hn _).2]
        exact ⟨i1, i2, List.forall_mem_cons.2 ⟨fun h' => hn (h' ▸ rfl), i3⟩,
          List.forall_mem_cons.2 ⟨fun m _ _ _ h' hm => absurd (h' ▸ hm) hn, i4⟩⟩
      · exact ⟨i1, i2, hd _ _⟩
      · exact ⟨i1, i2, hd _ _⟩
      · -- the call that makes the early reference: from now on it is `e`, and the factory does not run again
        obtain ⟨j1, _, j3⟩ := earlyRun_some n e rest c h
        refine ⟨?_, ?_, hd _ _⟩
        · rw [show objsOf n (.ret n (.obj e) true true :: rest) = e :: objsOf n rest from if_pos rfl]
          exact List.forall_mem_cons.2 ⟨j1, i1⟩
        · rw [show okRuns n (.ret n (.obj e) true true :: rest) = okRuns n rest + 1 from if_pos rfl, j3]
          exact Nat.le_refl 1
      · refine ⟨?_, i2, hd _ _⟩
        rw [show objsOf n (.ret n (.obj e) true false :: rest) = e :: objsOf n rest from if_pos rfl]
        exact List.forall_mem_cons.2 ⟨(earlyRun_some n e rest c h).1, i1⟩

/-- an accepted trace, read without its end state: all objects returned for `n` are one, and once one was returned every
    later call on `n` returns it without running the factory -/
theorem earlyRun_once (n : Name) (cur : Option Obj) (evs : List Ev) (c : Option Obj) (h : earlyRun n cur evs = some c) :
    (∀ a ∈ objsOf n evs, ∀ b ∈ objsOf n evs, a = b) ∧ okRuns n evs ≤ 1 ∧
    (∀ ev ∈ evs, ev ≠ .begin n) ∧ (∀ ev ∈ evs, ∀ m ret ic ran, ev = .ret m ret ic ran → m = n → ic = true) ∧
    (∀ pre post o, evs = pre ++ post → o ∈ objsOf n pre → ∀ ev ∈ post, ev.name = n → ev = .ret n (.obj o) true false) := by
  obtain ⟨p1, p2, p3, p4⟩ := earlyRun_spec n cur evs c h
  refine ⟨fun a ha b hb => Option.some.inj ((p1 a ha).symm.trans (p1 b hb)), p2, p3, p4, ?_⟩
  rintro pre post o rfl ho
  rw [earlyRun_append] at h
  cases hp : earlyRun n cur pre with
  | none => simp [hp] at h
  | some c' =>
    obtain rfl := (earlyRun_spec n cur pre c' hp).1 o ho
    exact (earlyRun_some n o post c (by simpa [hp] using h)).2.1

/-- `n` is being created: not published, and either its early reference or its factory is there -/
structure InCreation (r : Reg) (n : Name) : Prop where
  l1 : r.l1? n = none
  has : r.l2? n ≠ none ∨ n ∈ r.l3

/-- a GetSingleton on any name, seen from the name `n` in creation -/
theorem lookup_step (r : Reg) (hi : r.Inv) (n : Name) (hc : InCreation r n) (k : Name) (b : Bool) (e : Except Err Obj) :
    earlyStep n (r.l2? n) (lookupEv r k b e) = some ((r.get k b e).2.l2? n) ∧ InCreation (r.get k b e).2 n := by
  by_cases hk : n = k
  · subst hk
    have hcr : n ∈ r.inCr := hc.has.elim (hi.l2_inCr n) (hi.l3_inCr n)
    rcases get_cases r n b e with ⟨o, ho, hg, hr⟩ | ⟨_, h2, h3, hg, hr⟩ | ⟨_, h2, h3, rfl, hr, ⟨x, rfl, hg⟩ | ⟨o, rfl, hg⟩⟩ <;>
      simp only [lookupEv, hg, hr, Ret.ofGet, isInCreation_eq, hcr, decide_true]
    · have h2 : r.l2? n = some o := ho.elim (fun h => by rw [hc.l1] at h; cases h) (·.2)
      exact ⟨by simp [earlyStep, h2], hc⟩
    · exact ⟨by simp [earlyStep, h2], hc⟩
    · exact ⟨by simp [earlyStep, h2], hc⟩
    · exact ⟨by rw [h2]; simp [earlyStep, l2?], hc.l1, .inl (by simp [l2?])⟩
  · rw [earlyStep_other n _ _ (by simpa [lookupEv, Ev.name] using Ne.symm hk), get_l2?_other r k n b e hk]
    refine ⟨rfl, by simpa using hc.l1, ?_⟩
    rw [get_l2?_other r k n b e hk, get_l3_other r k n b e hk]
    exact hc.has

theorem InCreation.startCreate_self (r : Reg) (n : Name) (h1 : r.l1? n = none) : InCreation (r.startCreate n) n :=
  ⟨by simpa using h1, .inr (by rw [startCreate_eq r n h1]; simp)⟩

theorem InCreation.startCreate_other {r : Reg} {n : Name} (hc : InCreation r n) (k : Name) (h1 : r.l1? k = none) :
    InCreation (r.startCreate k) n := by
  refine ⟨by simpa using hc.l1, ?_⟩
  rcases hc.has with h | h
  · exact Or.inl (by simpa using h)
  · right; rw [startCreate_eq r k h1]; simp [h]

/-- inside a creation of `n` the automaton accepts the trace of every operation tree, its state being level 2 at `n` -/
theorem early_closed (n : Name) : ExecClosed fun r x =>
    r.Inv → InCreation r n → earlyRun n (r.l2? n) x.2 = some (x.1.l2? n) ∧ InCreation x.1 n where
  get r k b e hi hc := by
    obtain ⟨s, c⟩ := lookup_step r hi n hc k b e
    exact ⟨by simp [earlyRun, s], c⟩
  create r k body res h1 h2 h3 ih hi hc := by
    have hk : n ≠ k := fun h => by subst h; exact hc.has.elim (· h2) h3
    obtain ⟨s, c⟩ := ih (hi.startCreate k h2) (hc.startCreate_other k h1)
    obtain ⟨o1, o2, o3, _⟩ := endCreate_other (execs (r.startCreate k) body).1 k n res hk
    refine ⟨?_, ⟨by rw [o1]; exact c.l1, by rw [o2, o3]; exact c.has⟩⟩
    have hb : ∀ cur, earlyStep n cur (.begin k) = some cur := fun _ => earlyStep_other n _ _ (Ne.symm hk)
    have hr : ∀ cur ret ic, earlyStep n cur (.ret k ret ic false) = some cur :=
      fun _ _ _ => earlyStep_other n _ _ (Ne.symm hk)
    rw [l2?_startCreate] at s
    simp [earlyRun, earlyRun_append, hb, hr, s, o2]
  nil r _ hc := ⟨rfl, hc⟩
  cons r a as ih1 ih2 hi hc := by
    obtain ⟨s1, c1⟩ := ih1 hi hc
    obtain ⟨s2, c2⟩ := ih2 (exec_inv r hi a) c1
    exact ⟨by rw [earlyRun_append, s1]; simpa using s2, c2⟩

theorem exec_early (r : Reg) (hi : r.Inv) (n : Name) (hc : InCreation r n) :
    (a : Act) → earlyRun n (r.l2? n) (exec r a).2 = some ((exec r a).1.l2? n) ∧ InCreation (exec r a).1 n :=
  fun a => (early_closed n).exec a r hi hc

theorem execs_early (r : Reg) (hi : r.Inv) (n : Name) (hc : InCreation r n) :
    (as : List Act) → earlyRun n (r.l2? n) (execs r as).2 = some ((execs r as).1.l2? n) ∧ InCreation (execs r as).1 n :=
  fun as => (early_closed n).execs as r hi hc

/-- `n` is in none of the four containers -/
structure Absent (r : Reg) (n : Name) : Prop where
  l1 : r.l1? n = none
  l2 : r.l2? n = none
  l3 : n ∉ r.l3
  inCr : n ∉ r.inCr

theorem exec_create_last (r : Reg) (n : Name) (early : Except Err Obj) (body : List Act) (res : Except Err Obj)
    (hmiss : (r.get n true early).1 = .ok none) :
    (exec r (.getOrCreate n early body res)).2.getLast? = some (.ret n (Ret.ofRes res) false false) := by
  rw [exec_create r n early body res hmiss, List.getLast?_concat]
  cases res <;> simp

/-- a failed creation leaves nothing of `n` behind -/
theorem Absent.of_failed (r : Reg) (n : Name) (early : Except Err Obj) (body : List Act) (x : Err)
    (hmiss : (r.get n true early).1 = .ok none) : Absent (exec r (.getOrCreate n early body (.error x))).1 n := by
  rw [exec_create r n early body (.error x) hmiss]
  exact ⟨by simp, by simp, by simp, by simp⟩

def hasBegin (n : Name) : List Ev → Bool
  | [] => false
  | .begin m :: rest => decide (m = n) || hasBegin n rest
  | _ :: rest => hasBegin n rest

/-- until a creation of `n` begins, every call on `n` returns nil, reports "not in creation", runs no factory -/
def absentRun (n : Name) : List Ev → Bool
  | [] => true
  | .begin m :: rest => if m = n then true else absentRun n rest
  | .ret m ret ic ran :: rest =>
    if m = n then (decide (ret = .none) && !ic && !ran) && absentRun n rest else absentRun n rest

theorem hasBegin_append (n : Name) (xs ys : List Ev) : hasBegin n (xs ++ ys) = (hasBegin n xs || hasBegin n ys) := by
  induction xs with
  | nil => simp [hasBegin]
  | cons x xs ih => cases x <;> simp [hasBegin, ih, Bool.or_assoc]

theorem absentRun_append (n : Name) (xs ys : List Ev) :
    absentRun n (xs ++ ys) = (absentRun n xs && (hasBegin n xs || absentRun n ys)) := by
  induction xs with
  | nil => simp [absentRun, hasBegin]
  | cons x xs ih =>
    cases x with
    | begin m => by_cases hm : m = n <;> simp [absentRun, hasBegin, hm, ih]
    | ret m ret ic ran => by_cases hm : m = n <;> simp [absentRun, hasBegin, hm, ih, Bool.and_assoc]

theorem hasBegin_iff (n : Name) (xs : List Ev) : hasBegin n xs = true ↔ .begin n ∈ xs := by
  induction xs with
  | nil => simp [hasBegin]
  | cons x xs ih =>
    cases x with
    | begin m => simp [hasBegin, ih, eq_comm (a := m)]
    | ret m ret ic ran => simp [hasBegin, ih]

theorem lookupEv_absent (r : Reg) (n : Name) (ha : Absent r n) (b : Bool) (e : Except Err Obj) :
    r.get n b e = (.ok none, r) ∧ lookupEv r n b e = .ret n .none false false := by
  have hg := get_no_factory r n b e ha.l1 ha.l2 ha.l3
  refine ⟨hg, ?_⟩
  simp [lookupEv, hg, Ret.ofGet, runsEarly_no_factory r n b ha.l3, ha.inCr]

theorem Absent.startCreate_other {r : Reg} {n : Name} (ha : Absent r n) (k : Name) (hk : n ≠ k) (h1 : r.l1? k = none) :
    Absent (r.startCreate k) n := by
  refine ⟨by simpa using ha.l1, by simpa using ha.l2, ?_, ?_⟩
  · rw [startCreate_eq r k h1]; simp [hk, ha.l3]
  · rw [startCreate_eq r k h1]; simp [hk, ha.inCr]

/-- while `n` is absent the trace is accepted, and `n` stays absent unless a creation of `n` begins -/
theorem absent_closed (n : Name) : ExecClosed fun r x =>
    Absent r n → absentRun n x.2 = true ∧ (hasBegin n x.2 = false → Absent x.1 n) where
  get r k b e ha := by
    by_cases hk : n = k
    · subst hk
      obtain ⟨hg, hev⟩ := lookupEv_absent r n ha b e
      rw [hev, hg]
      exact ⟨by simp [absentRun], fun _ => ha⟩
    · exact ⟨by simp [absentRun, lookupEv, Ne.symm hk], fun _ => ⟨by simpa using ha.l1, by rw [get_l2?_other r k n b e hk]; exact ha.l2,
          by rw [get_l3_other r k n b e hk]; exact ha.l3, by simpa using ha.inCr⟩⟩
  create r k body res h1 _ _ ih ha := by
    by_cases hk : n = k
    · subst hk
      exact ⟨by simp [absentRun], by simp [hasBegin]⟩
    · have hkn : ¬ k = n := Ne.symm hk
      obtain ⟨s, c⟩ := ih (ha.startCreate_other k hk h1)
      refine ⟨by simp [absentRun, absentRun_append, hkn, s], fun hb => ?_⟩
      simp only [List.cons_append, hasBegin, hkn, decide_false, Bool.false_or, hasBegin_append, Bool.or_eq_false_iff] at hb
      have c' := c hb.1
      obtain ⟨o1, o2, o3, o4⟩ := endCreate_other (execs (r.startCreate k) body).1 k n res hk
      exact ⟨by rw [o1]; exact c'.l1, by rw [o2]; exact c'.l2, by rw [o3]; exact c'.l3, by rw [o4]; exact c'.inCr⟩
  nil r ha := ⟨rfl, fun _ => ha⟩
  cons r a as ih1 ih2 ha := by
    obtain ⟨s1, c1⟩ := ih1 ha
    rw [absentRun_append, hasBegin_append, s1]
    cases hb : hasBegin n (exec r a).2 with
    | true => simp
    | false => simpa using ih2 (c1 hb)

theorem exec_absent (r : Reg) (n : Name) (ha : Absent r n) :
    (a : Act) → absentRun n (exec r a).2 = true ∧ (hasBegin n (exec r a).2 = false → Absent (exec r a).1 n) :=
  fun a => (absent_closed n).exec a r ha

theorem execs_absent (r : Reg) (n : Name) (ha : Absent r n) :
    (as : List Act) → absentRun n (execs r as).2 = true ∧ (hasBegin n (execs r as).2 = false → Absent (execs r as).1 n) :=
  fun as => (absent_closed n).execs as r ha

end Ioc
