/-
  Lemmas about M1 (Ioc.Registry) at rest: the in-creation marks after an operation tree are among the marks before it
  (every creation drops its own mark on both exits), so a history that starts with no creation running ends with no
  creation running — and then, by the invariant (l2 ∪ l3 ⊆ inCr), levels 2 and 3 hold NOTHING: whatever failed, at
  whatever nesting depth, through however many enclosing creations the error passed, no early reference and no
  early-reference factory of a failed (or of any) creation is left behind.
-/
import IocProofs.Lemmas.Registry
namespace Ioc
open Reg

theorem inCr_sub_closed (k : Name) : ExecClosed fun r x => k ∈ x.1.inCr → k ∈ r.inCr where
  get _ _ _ _ h := by simpa using h
  create r n body res h1 _ _ ih hk := by
    have hkn : k ∈ (execs (r.startCreate n) body).1.inCr ∧ k ≠ n := by cases res <;> simpa using hk
    have h2 := ih hkn.1
    rw [startCreate_eq r n h1] at h2
    exact (by simpa using h2 : k = n ∨ k ∈ r.inCr).resolve_left hkn.2
  nil _ h := h
  cons _ _ _ ih1 ih2 h := ih1 (ih2 h)

/-- no operation tree leaves a mark behind that was not there before -/
theorem exec_inCr_sub (r : Reg) (k : Name) : (a : Act) → k ∈ (exec r a).1.inCr → k ∈ r.inCr :=
  fun a => (inCr_sub_closed k).exec a r

theorem execs_inCr_sub (r : Reg) (k : Name) : (as : List Act) → k ∈ (execs r as).1.inCr → k ∈ r.inCr :=
  fun as => (inCr_sub_closed k).execs as r

/-- a registry at rest (no creation running) that satisfies the invariant holds nothing in levels 2 and 3 -/
theorem Reg.Inv.rest_clean {r : Reg} (hi : r.Inv) (h0 : ∀ k, k ∉ r.inCr) (n : Name) :
    r.l2? n = none ∧ n ∉ r.l3 := by
  refine ⟨?_, fun h => h0 n (hi.l3_inCr n h)⟩
  cases h : r.l2? n with
  | none => rfl
  | some o => exact absurd (hi.l2_inCr n (by simp [h])) (h0 n)

/-- a lookup at rest answers from level 1 alone, changes nothing and runs no factory -/
theorem Reg.Inv.rest_get {r : Reg} (hi : r.Inv) (h0 : ∀ k, k ∉ r.inCr) (n : Name) (b : Bool) (e : Except Err Obj) :
    r.get n b e = (.ok (r.l1? n), r) ∧ r.runsEarly n b = false := by
  obtain ⟨h2, h3⟩ := hi.rest_clean h0 n
  refine ⟨?_, runsEarly_no_factory r n b h3⟩
  cases h1 : r.l1? n with
  | some o => exact get_l1 r n b e o h1
  | none => exact get_no_factory r n b e h1 h2 h3

/-- every history that starts at rest ends at rest, with levels 2 and 3 empty -/
theorem execs_rest (r : Reg) (hi : r.Inv) (h0 : ∀ k, k ∉ r.inCr) (as : List Act) :
    (∀ k, k ∉ (execs r as).1.inCr) ∧ ∀ n, (execs r as).1.l2? n = none ∧ n ∉ (execs r as).1.l3 := by
  have h0' : ∀ k, k ∉ (execs r as).1.inCr := fun k h => h0 k (execs_inCr_sub r k as h)
  exact ⟨h0', fun n => (execs_inv r hi as).rest_clean h0' n⟩

/-- the failure chain of an unknown name: creations of `n`, then of each of `ns` nested inside one another, the innermost
    one failing at once (no definition), every enclosing one failing with that error -/
def failChain (x : Err) : Name → List Name → Act
  | n, [] => .getOrCreate n (.error x) [] (.error x)
  | n, m :: ms => .getOrCreate n (.error x) [failChain x m ms] (.error x)

end Ioc
