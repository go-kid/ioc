/-
  Lemmas for C11: which property list every processor is handed.
  (i)  model: `Scan.handedLoop` hands every processor `all`, whatever the processors return; the recorder's filter of it is
       the custom scanner's properties;
  (ii) code: the regenerated ResolveAfterInstantiation, run by the MiniGo interpreter, hands every processor the value of
       `meta.GetAllProperties()` — for EVERY behaviour `ret` of the processors' PostProcessProperties.
-/
import IocProofs.Lemmas.Scan
import Ioc.SemScan
import IocProofs.Lemmas.GoEval
namespace Ioc.Scan

theorem handedLoop_eq (all : List Property) (rets : List PropsRet) :
    handedLoop all rets = rets.map (fun _ => all) := by
  induction rets with
  | nil => rfl
  | cons r rest ih => simp [handedLoop, ih]

/-- every property a processor builds carries the processor's own tag when its ExtractHandler (if any) leaves the tag empty -/
theorem propsOf_tag (d : TagProc) (hx : ∀ e, d.extract = some e → ∀ f t tv, e f = .yes t tv → t = [])
    (fields : List ScannedField) : ∀ q ∈ propsOf d fields, q.tag = d.tag := by
  intro q hq
  obtain ⟨f, _, t, tv, hr, rfl⟩ := (mem_propsOf d fields q).1 hq
  simp only [mkProperty]
  simp only [recognise] at hr
  split at hr
  · simp only [Extract.yes.injEq] at hr; exact hr.1.symm
  · cases hxe : d.extract with
    | none => simp [hxe] at hr
    | some e =>
      simp only [hxe] at hr
      cases he : e f with
      | no => simp [he] at hr
      | panic => simp [he] at hr
      | yes t' tv' =>
        simp only [he, Extract.yes.injEq] at hr
        have := hx e hxe f t' tv' he
        subst this
        simpa using hr.1.symm

theorem filter_tag_none (tag : Bytes) (l : List Property) (h : ∀ q ∈ l, q.tag ≠ tag) : ofTag tag l = [] := by
  simp only [ofTag, List.filter_eq_nil_iff]
  intro q hq; simpa using h q hq

theorem filter_tag_all (tag : Bytes) (l : List Property) (h : ∀ q ∈ l, q.tag = tag) : ofTag tag l = l := by
  simp only [ofTag, List.filter_eq_self]
  intro q hq; simpa using h q hq

theorem ofTag_append (tag : Bytes) (a b : List Property) : ofTag tag (a ++ b) = ofTag tag a ++ ofTag tag b := by
  simp [ofTag]

theorem valueExtract_tag (f : ScannedField) (t tv : Bytes) (h : valueExtract f = .yes t tv) : t = [] := by
  simp only [valueExtract] at h
  split at h
  · split at h
    · simp only [Extract.yes.injEq] at h; exact h.1.symm
    · cases h
  · cases h

theorem markerExtract_tag (f : ScannedField) (t tv : Bytes) (h : markerExtract f = .yes t tv) : t = [] := by
  simp only [markerExtract] at h
  split at h
  · simp only [Extract.yes.injEq] at h; exact h.1.symm
  · cases h

/-- of everything the built-in scanners and one custom scanner build, the properties carrying the custom tag are exactly
    the custom scanner's (its tag is none of the built-in ones) -/
theorem ofTag_builtin_custom (nt tag : Bytes) (hb : tag ∉ [tLogger, tPrefix, tValue, tWire, tFunc])
    (fields : List ScannedField) :
    ofTag tag (properties (builtinProcs ++ [customProc nt tag]) fields) = propsOf (customProc nt tag) fields := by
  simp only [List.mem_cons, List.not_mem_nil, or_false, not_or] at hb
  obtain ⟨h1, h2, h3, h4, h5⟩ := hb
  have none_ : ∀ e, (none : Option (ScannedField → Extract)) = some e → ∀ f t tv, e f = .yes t tv → t = [] := by
    intro e he; cases he
  simp only [properties, builtinProcs, List.cons_append, List.nil_append, List.flatMap_cons, List.flatMap_nil,
    List.append_nil, ofTag_append]
  rw [filter_tag_none tag (propsOf procLogger fields) (fun q hq => by
        rw [propsOf_tag procLogger none_ fields q hq]; exact fun h => h1 h.symm),
      filter_tag_none tag (propsOf procProperties fields) (fun q hq => by
        rw [propsOf_tag procProperties (fun e he f t tv h => by
          simp only [procProperties, Option.some.injEq] at he; subst he; exact markerExtract_tag f t tv h) fields q hq]
        exact fun h => h2 h.symm),
      filter_tag_none tag (propsOf procValue fields) (fun q hq => by
        rw [propsOf_tag procValue (fun e he f t tv h => by
          simp only [procValue, Option.some.injEq] at he; subst he; exact valueExtract_tag f t tv h) fields q hq]
        exact fun h => h3 h.symm),
      filter_tag_none tag (propsOf procWire fields) (fun q hq => by
        rw [propsOf_tag procWire none_ fields q hq]; exact fun h => h4 h.symm),
      filter_tag_none tag (propsOf procFunc fields) (fun q hq => by
        rw [propsOf_tag procFunc none_ fields q hq]; exact fun h => h5 h.symm),
      filter_tag_all tag (propsOf (customProc nt tag) fields) (fun q hq =>
        propsOf_tag (customProc nt tag) none_ fields q hq)]
  simp

end Ioc.Scan

namespace Ioc.Sem
open Ioc Ioc.Go

section hand
variable (procs : List Nat) (all : Val) (ret : Nat → Val → Val)

def handStep (p : Nat) (_ : Unit) (w : List (Nat × Val)) : Unit × List (Nat × Val) × Option Val :=
  ((), w ++ [(p, all)], none)

theorem handStep_loop (ps : List Nat) (w : List (Nat × Val)) :
    stepLoop (handStep all) ps () w = ((), w ++ ps.map (fun p => (p, all)), none) := by
  induction ps generalizing w with
  | nil => simp [stepLoop]
  | cons p rest ih => simp [stepLoop, handStep, ih]

def handBody : List Stmt :=
  match Progs.del_ResolveAfterInstantiation.body with
  | [.range _ _ _ b, _] => b
  | _ => []
theorem hand_shape : Progs.del_ResolveAfterInstantiation.body =
    [.range "_" "processor" (.glob "self.componentPostProcessors") handBody, .ret [.nil]] := rfl
theorem hand_params : Progs.del_ResolveAfterInstantiation.params = ["meta", "name"] := rfl

def envHand : Env := [("meta", .str "meta"), ("name", .str "n")]

attribute [local go_eval] handFn.eq_1 handFn.eq_2 handFn.eq_3 handFn.eq_4 handFn.eq_5 handFn.eq_6 handFn.eq_7
@[local go_eval] theorem handPrims_fn : (handPrims procs all ret).fn = handFn procs all ret := rfl

theorem hand_iter (i p : Nat) (w : List (Nat × Val)) :
    settle (rangeIter (handPrims procs all ret) "_" "processor" handBody i (encP p) envHand w) =
      some (envHand, (handStep all p () w).2.1, ctlOf (handStep all p () w).2.2) := by
  simp [go_eval, rangeIter, handBody, Progs.del_ResolveAfterInstantiation, envHand, encP, handStep, ctlOf]

/-- ResolveAfterInstantiation, regenerated: every processor is handed the value of `meta.GetAllProperties()`, whatever the
    processors before it returned -/
theorem resolveAfterInstantiation_hands_all (w : List (Nat × Val)) :
    run (handPrims procs all ret) Progs.del_ResolveAfterInstantiation [.str "meta", .str "n"] w =
      some (.nil, w ++ procs.map (fun p => (p, all))) := by
  have hloop := loopM_rounds encP (rangeIter (handPrims procs all ret) "_" "processor" handBody) (fun _ : Unit => envHand)
    (handStep all) (fun i p _ w => hand_iter procs all ret i p w) procs 0 () w
  rw [handStep_loop] at hloop
  simp only [envHand, handBody, Progs.del_ResolveAfterInstantiation] at hloop
  simp [go_eval, Progs.del_ResolveAfterInstantiation, hloop, ctlOf]

end hand
end Ioc.Sem
