/-
  Lemmas for C11: a component that is ITSELF a post-processor (`Scan.populateLoop`, the registration loop of
  InvokeBeanFactoryPostProcessors with the chain every created processor is populated by).
  (i)   the loop: final chain, and the chain of a processor = the processors sorted ahead of it;
  (ii)  the ordering contract (Order.sortOrdered under any sort meeting SortSpec) puts a holder that nothing may follow LAST, so
        it is populated by every other processor — the chain a plain component is populated by, minus the holder itself.
-/
import Ioc.Scan
import IocProofs.Lemmas.Order
namespace Ioc.Scan

variable {α : Type}

theorem populateLoop_final (l : List (RawPP α)) (cpp : List α) :
    (populateLoop l cpp).2 = cpp ++ l.map (·.id) := by
  induction l generalizing cpp with
  | nil => simp [populateLoop]
  | cons p rest ih => simp [populateLoop, ih, List.append_assoc]

/-- every entry of the result: a non-lazy processor, with the processors ahead of it (behind what was registered before) -/
theorem populateLoop_mem (l : List (RawPP α)) (cpp : List α) (h : α) (c : List α) :
    (h, c) ∈ (populateLoop l cpp).1 ↔
      ∃ pre p post, l = pre ++ p :: post ∧ p.id = h ∧ p.lazy = false ∧ c = cpp ++ pre.map (·.id) := by
  induction l generalizing cpp with
  | nil => simp [populateLoop]
  | cons q rest ih =>
    have key : (h, c) ∈ (populateLoop (q :: rest) cpp).1 ↔
        (q.lazy = false ∧ h = q.id ∧ c = cpp) ∨ (h, c) ∈ (populateLoop rest (cpp ++ [q.id])).1 := by
      cases hq : q.lazy <;> simp [populateLoop, hq]
    rw [key, ih]
    constructor
    · rintro (⟨hq, rfl, rfl⟩ | ⟨pre, p, post, rfl, hid, hlz, rfl⟩)
      · exact ⟨[], q, rest, rfl, rfl, hq, by simp⟩
      · exact ⟨q :: pre, p, post, rfl, hid, hlz, by simp⟩
    · rintro ⟨pre, p, post, hl, hid, hlz, rfl⟩
      cases pre with
      | nil => obtain ⟨rfl, rfl⟩ := List.cons.inj hl; exact .inl ⟨hlz, hid.symm, by simp⟩
      | cons q' pre' =>
        obtain ⟨rfl, rfl⟩ := List.cons.inj hl
        exact .inr ⟨pre', p, post, rfl, hid, hlz, by simp⟩

/-- one iteration: a non-lazy `q` is populated under the chain as it stands, everybody else later -/
theorem populatedBy_cons [DecidableEq α] (q : RawPP α) (l : List (RawPP α)) (cpp : List α) (h : α) :
    populatedBy (q :: l) cpp h =
      if q.lazy = false ∧ q.id = h then some cpp else populatedBy l (cpp ++ [q.id]) h := by
  simp only [populatedBy, populateLoop]
  cases q.lazy <;> by_cases e : q.id = h <;> simp [e]

/-- the first entry for `h`: nothing ahead of it carries the same identity -/
theorem populatedBy_split [DecidableEq α] (pre post : List (RawPP α)) (p : RawPP α) (cpp : List α)
    (hlz : p.lazy = false) (hpre : ∀ q ∈ pre, q.id ≠ p.id) :
    populatedBy (pre ++ p :: post) cpp p.id = some (cpp ++ pre.map (·.id)) := by
  induction pre generalizing cpp with
  | nil => simp [populatedBy_cons, hlz]
  | cons q pre' ih =>
    rw [List.cons_append, populatedBy_cons, if_neg fun h => hpre q List.mem_cons_self h.2,
      ih _ fun r hr => hpre r (List.mem_cons_of_mem _ hr), List.map_cons, List.append_assoc]
    rfl

/-- a lazy processor (or a stranger) is never populated by the loop -/
theorem populatedBy_none [DecidableEq α] (l : List (RawPP α)) (cpp : List α) (h : α)
    (hl : ∀ p ∈ l, p.id = h → p.lazy = true) : populatedBy l cpp h = none := by
  simp only [populatedBy, Option.map_eq_none_iff, List.find?_eq_none]
  intro e he
  obtain ⟨pre, p, post, hsplit, hid, hlz, _⟩ := (populateLoop_mem l cpp e.1 e.2).1 (by simpa using he)
  have := hl p (by simp [hsplit])
  intro heq
  have : p.lazy = true := this (by simpa [hid] using heq)
  simp [this] at hlz

open Ioc.Order in
/-- `h` is an element of `l` that the contract allows ahead of no other element ⇒ the sorted list ends with it -/
theorem sortOrdered_last {part : α → Order.Part} {sort : (α → α → Bool) → List α → List α}
    (hs : Order.SortSpec part sort) (l : List α) (hn : l.Nodup) (h : α) (hh : h ∈ l)
    (hlast : ∀ y ∈ l, y ≠ h → ¬ Order.Precedes part h y) :
    ∃ pre, Order.sortOrdered sort part l = pre ++ [h] ∧ ∀ y ∈ l, y ≠ h → y ∈ pre := by
  have hperm := Order.sortOrdered_perm hs l
  have hpw := Order.sortOrdered_pairwise hs l
  obtain ⟨a, b, hab⟩ := List.append_of_mem (hperm.mem_iff.2 hh)
  have hnd : (Order.sortOrdered sort part l).Nodup := hperm.nodup_iff.2 hn
  rw [hab] at hpw hnd hperm
  -- an element behind `h` would be preceded by it
  obtain rfl : b = [] := by
    cases b with
    | nil => rfl
    | cons y b' =>
      have hy : y ∈ l := hperm.mem_iff.1 (by simp)
      have hne : y ≠ h := fun e => by have := (List.nodup_append.1 hnd).2.1; simp [e] at this
      exact absurd ((List.pairwise_cons.1 (List.pairwise_append.1 hpw).2.1).1 y List.mem_cons_self) (hlast y hy hne)
  exact ⟨a, hab, fun y hy hne => by simpa [hne] using hperm.mem_iff.2 hy⟩

end Ioc.Scan
