/-
  C11, the tie of `Scan.populateLoop` to the code: the REGENERATED InvokeBeanFactoryPostProcessors
  (`Progs.del_InvokeBeanFactoryPostProcessors`, re-translated from /repo on every run), run by the MiniGo interpreter under an
  interpretation in which `factory.GetComponentByName` RECORDS `self.componentPostProcessors` AS IT IS AT THE CALL — the chain
  ResolveAfterInstantiation ranges over while the processor is created and populated as a component.

  The interpretation is Ioc.SemDelegate's `regFn` (same primitives, same answers) with that one record added; the proof follows
  IocProofs.Lemmas.SemDelegate (`invokeBeanFactoryPostProcessors_sem`), whose statement shapes are restated here (`pibStmt`, …)
  so that this file depends on the one regenerated program only.
  Result (`invoke_populates_sem`): for every list of factory processors, raw processors, sort result, LazyInit answers and
  GetComponentByName answers the program records, for every non-lazy processor in sorted order, the processors registered
  so far — `popModel`, which is `Scan.populateLoop` when every GetComponentByName returns the processor itself
  (`popModel_is_populateLoop`).  A rewrite that publishes the chain only after the loop records the chain of BEFORE the loop
  for every processor: a different term.
-/
import Ioc.SemDelegate
import IocProofs.Lemmas.GoEval
import IocProofs.Lemmas.ScanHolder
namespace Ioc.Sem
open Ioc Ioc.Go Ioc.Order

structure PopW where
  fcalls : List Nat := []               -- PostProcessComponentFactory calls
  defReg : Bool := false                -- applyDefinitionRegistryPostProcessors ran
  raw : Val := .nil                     -- self.rawComponentPostProcessors
  cpp : List Val := []                  -- self.componentPostProcessors
  pops : List (Nat × List Val) := []    -- GetComponentByName calls: (processor, self.componentPostProcessors at the call)

/-- `regFn` with the record: see the header -/
def popFn (fpFails : Nat → Bool) (drFails : Bool) (sorted : List Nat) (lazy : Nat → Bool) (getc : Nat → Option Nat)
    (isCPP : Nat → Bool) : String → List Val → PopW → Option (Val × PopW)
  | ".PostProcessComponentFactory", [.ref p 0, _], w => some (if fpFails p then errN else .nil, { w with fcalls := w.fcalls ++ [p] })
  | "errors.Wrapf", _, w => some (errN, w)
  | "self.applyDefinitionRegistryPostProcessors", [_], w => some (if drFails then errN else .nil, { w with defReg := true })
  | "$self", [], w => some (.ref 0 9, w)
  | "$self.rawComponentPostProcessors", [], w => some (w.raw, w)
  | "$self.componentPostProcessors", [], w => some (.list w.cpp, w)
  | "framework_helper.SortOrderedComponents", [_], w => some (.list (sorted.map encP), w)
  | ".set:rawComponentPostProcessors", [.ref 0 9, v], w => some (.tuple [], { w with raw := v })
  | ".set:componentPostProcessors", [.ref 0 9, .list vs], w => some (.tuple [], { w with cpp := vs })
  | "assert2:definition.LazyInit", [.ref p 0], w => some (.tuple [.ref p 3, .bool (lazy p)], w)
  | "framework_helper.GetComponentName", [.ref p 0], w => some (.int p, w)
  | ".GetComponentByName", [_, .int p], w =>
      some (match getc p.toNat with
            | none => .tuple [.nil, errN]
            | some q => .tuple [.ref q 4, .nil], { w with pops := w.pops ++ [(p.toNat, w.cpp)] })
  | "assert2:container.ComponentPostProcessor", [.ref q 4], w => some (.tuple [.ref q 0, .bool (isCPP q)], w)
  | "append", [.list vs, v], w => some (.list (vs ++ [v]), w)
  | _, _, _ => none

def popPrims (fpFails : Nat → Bool) (drFails : Bool) (sorted : List Nat) (lazy : Nat → Bool) (getc : Nat → Option Nat)
    (isCPP : Nat → Bool) : Prims PopW := { fn := popFn fpFails drFails sorted lazy getc isCPP }

def pibStmt (i : Nat) : Stmt := Progs.del_InvokeBeanFactoryPostProcessors.body.getD i .brk
theorem pib_body : Progs.del_InvokeBeanFactoryPostProcessors.body =
    [pibStmt 0, pibStmt 1, pibStmt 2, pibStmt 3, pibStmt 4, pibStmt 5, pibStmt 6] := rfl
theorem pib_params : Progs.del_InvokeBeanFactoryPostProcessors.params = ["factory", "factoryProcessors"] := rfl

def pibBody1 : List Stmt := match Progs.del_InvokeBeanFactoryPostProcessors.body with | .range _ _ _ b :: _ => b | _ => []
def pibBody2 : List Stmt :=
  match Progs.del_InvokeBeanFactoryPostProcessors.body with | [_, _, _, _, .range _ _ _ b, _, _] => b | _ => []

attribute [local go_eval] popFn.eq_1 popFn.eq_2 popFn.eq_3 popFn.eq_4 popFn.eq_5 popFn.eq_6 popFn.eq_7 popFn.eq_8 popFn.eq_9
  popFn.eq_10 popFn.eq_11 popFn.eq_12 popFn.eq_13 popFn.eq_14

section pop
variable (fpFails : Nat → Bool) (drFails : Bool) (sorted : List Nat) (lazy : Nat → Bool) (getc : Nat → Option Nat) (isCPP : Nat → Bool)

@[local go_eval] theorem popPrims_fn :
    (popPrims fpFails drFails sorted lazy getc isCPP).fn = popFn fpFails drFails sorted lazy getc isCPP := rfl

def pfpStep (p : Nat) (_ : Unit) (w : PopW) : Unit × PopW × Option Val :=
  ((), { w with fcalls := w.fcalls ++ [p] }, if fpFails p then some errN else none)

theorem pfpStep_loop (ps : List Nat) (w : PopW) :
    stepLoop (pfpStep fpFails) ps () w =
      ((), { w with fcalls := (runLoop fpFails ps w.fcalls).1 }, if (runLoop fpFails ps w.fcalls).2 then some errN else none) := by
  induction ps generalizing w with
  | nil => simp [stepLoop, runLoop]
  | cons p rest ih =>
    by_cases hf : fpFails p = true
    · simp [stepLoop, pfpStep, runLoop, hf]
    · simp [stepLoop, pfpStep, runLoop, hf, ih]

def popStep (p : Nat) (_ : Unit) (w : PopW) : Unit × PopW × Option Val :=
  if lazy p then ((), { w with cpp := w.cpp ++ [encP p] }, none) else
    match getc p with
    | none => ((), { w with pops := w.pops ++ [(p, w.cpp)] }, some errN)
    | some q => ((), { w with pops := w.pops ++ [(p, w.cpp)], cpp := w.cpp ++ [encP (if isCPP q then q else p)] }, none)

/-- the loop on the model: (who was created under which chain, the final chain, error?) -/
def popModel : List Nat → List Nat → List (Nat × List Nat) × List Nat × Bool
  | [], cpp => ([], cpp, false)
  | p :: rest, cpp =>
    if lazy p then popModel rest (cpp ++ [p]) else
      match getc p with
      | none => ([(p, cpp)], cpp, true)
      | some q =>
        let r := popModel rest (cpp ++ [if isCPP q then q else p])
        ((p, cpp) :: r.1, r.2)

def encPop (e : Nat × List Nat) : Nat × List Val := (e.1, e.2.map encP)

theorem popStep_loop (ps : List Nat) (w : PopW) (cpp0 : List Nat) (hw : w.cpp = cpp0.map encP) :
    stepLoop (popStep lazy getc isCPP) ps () w =
      ((), { w with pops := w.pops ++ (popModel lazy getc isCPP ps cpp0).1.map encPop,
                    cpp := (popModel lazy getc isCPP ps cpp0).2.1.map encP },
        if (popModel lazy getc isCPP ps cpp0).2.2 then some errN else none) := by
  induction ps generalizing w cpp0 with
  | nil => simp [stepLoop, popModel, ← hw]
  | cons p rest ih =>
    by_cases hl : lazy p = true
    · simp only [stepLoop, popStep, popModel, hl, if_true]
      rw [ih _ (cpp0 ++ [p]) (by simp [hw])]
    · obtain hg | ⟨q, hg⟩ : getc p = none ∨ ∃ q, getc p = some q := by cases getc p <;> simp
      · simp [stepLoop, popStep, popModel, hl, hg, hw, encPop]
      · simp only [stepLoop, popStep, popModel, hl, hg, if_false, Bool.false_eq_true]
        rw [ih _ (cpp0 ++ [if isCPP q then q else p]) (by simp [hw])]
        simp [List.append_assoc, encPop, hw]

abbrev PP := popPrims fpFails drFails sorted lazy getc isCPP

/-- what InvokeBeanFactoryPostProcessors does, with the chains recorded -/
def popInvokeModel (fprocs raw cpp0 : List Nat) : Val × PopW :=
  let fl := runLoop fpFails fprocs []
  if fl.2 then (errN, { fcalls := fl.1, raw := .list (raw.map encP), cpp := cpp0.map encP })
  else if drFails then (errN, { fcalls := fl.1, defReg := true, raw := .list (raw.map encP), cpp := cpp0.map encP })
  else
    let r := popModel lazy getc isCPP sorted cpp0
    (if r.2.2 then errN else .nil,
     { fcalls := fl.1, defReg := true, raw := if r.2.2 then .list (sorted.map encP) else .nil, cpp := r.2.1.map encP,
       pops := r.1.map encPop })

/-- InvokeBeanFactoryPostProcessors, regenerated, with the chain of every created processor -/
theorem invoke_populates_sem (fprocs raw cpp0 : List Nat) :
    run (PP fpFails drFails sorted lazy getc isCPP) Progs.del_InvokeBeanFactoryPostProcessors
        [.str "factory", .list (fprocs.map encP)] { raw := .list (raw.map encP), cpp := cpp0.map encP } =
      some (popInvokeModel fpFails drFails sorted lazy getc isCPP fprocs raw cpp0) := by
  have hl1 := loopM_state encP (rangeIter (PP fpFails drFails sorted lazy getc isCPP) "_" "processor" pibBody1)
    (fun _ : Unit => [("factory", .str "factory"), ("factoryProcessors", .list (fprocs.map encP))]) (pfpStep fpFails) (by
      intro i p _ w
      simp [go_eval, rangeIter_blank, pibBody1, Progs.del_InvokeBeanFactoryPostProcessors, encP, pfpStep, ctlOf, errN]
      cases fpFails p <;> rfl) fprocs 0 ()
  have hl2 (v : Val) := loopM_state encP (rangeIter (PP fpFails drFails sorted lazy getc isCPP) "_" "processor" pibBody2)
    (fun _ : Unit => [("err", v), ("factory", .str "factory"), ("factoryProcessors", .list (fprocs.map encP))])
    (popStep lazy getc isCPP) (by
      intro i p _ w
      rcases hg : getc p with _ | q <;>
        simp [go_eval, rangeIter_blank, pibBody2, Progs.del_InvokeBeanFactoryPostProcessors, encP, popStep, hg, ctlOf, errN]
      · cases lazy p <;> rfl
      · cases lazy p <;> cases isCPP q <;> rfl) sorted 0 ()
  have hr (w : PopW) := popStep_loop lazy getc isCPP sorted w cpp0
  simp only [pibBody1, pibBody2, Progs.del_InvokeBeanFactoryPostProcessors] at hl1 hl2
  simp [go_eval, Progs.del_InvokeBeanFactoryPostProcessors, hl1, hl2, pfpStep_loop, hr, popInvokeModel, errN]
  cases (runLoop fpFails fprocs []).2 <;> cases drFails <;> cases (popModel lazy getc isCPP sorted cpp0).2.2 <;>
    simp [go_eval]

end pop

/-- when every GetComponentByName succeeds and returns the processor it was asked for, the recorded chains and the final
    chain are `Scan.populateLoop`'s, and there is no error -/
theorem popModel_is_populateLoop (lazy : Nat → Bool) (isCPP : Nat → Bool) (ps cpp : List Nat) :
    popModel lazy (fun p => some p) isCPP ps cpp =
      ((Scan.populateLoop (ps.map fun p => ⟨p, lazy p⟩) cpp).1, (Scan.populateLoop (ps.map fun p => ⟨p, lazy p⟩) cpp).2, false) := by
  induction ps generalizing cpp with
  | nil => simp [popModel, Scan.populateLoop]
  | cons p rest ih =>
    cases hl : lazy p with
    | true => simp [popModel, Scan.populateLoop, hl, ih]
    | false => simp [popModel, Scan.populateLoop, hl, ih]

end Ioc.Sem
