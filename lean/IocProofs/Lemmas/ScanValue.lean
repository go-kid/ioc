/-
  The value part of a tag is handed over AS WRITTEN (C11): TagArg.Parse (Ioc.Tag.parse?) returns the text
  before the first comma byte for byte — leading and trailing white space included — whenever that text holds no
  bracket; NewProperty stores it unchanged (component_definition/property.go:21-33).
-/
import IocProofs.Lemmas.TagRound
namespace Ioc.Tag

/-- text without comma and without brackets -/
def PlainVal (v : Bytes) : Prop := ∀ b ∈ v, b ≠ cComma ∧ isLB b = false ∧ isRB b = false

instance (v : Bytes) : Decidable (PlainVal v) := by unfold PlainVal; exact inferInstance

theorem count_pos_of_mem (sep : UInt8) (pre post : Bytes) : 1 ≤ count sep (pre ++ sep :: post) := by
  rw [count_append]
  have : 1 ≤ count sep (sep :: post) := by simp [count]
  omega

/-- a comma after a plain value: the first part of the split is the value, whatever follows -/
theorem split_plain_comma (v rest : Bytes) (hv : PlainVal v) :
    ∃ parts, split cComma isLB isRB (v ++ cComma :: rest) = v :: parts := by
  unfold split
  have hc := count_pos_of_mem cComma v rest
  have hl : 1 ≤ (v ++ cComma :: rest).length := by simp; omega
  obtain ⟨k, hk⟩ : ∃ k, min (count cComma (v ++ cComma :: rest)) (v ++ cComma :: rest).length = k + 1 :=
    ⟨min (count cComma (v ++ cComma :: rest)) (v ++ cComma :: rest).length - 1, by omega⟩
  rw [hk]
  have hi : index cComma isLB isRB (v ++ cComma :: rest) = v.length :=
    index_toplevel cComma isLB isRB (by decide) (by decide) v rest (WFpre_plain _ _ _ _ hv)
  simp only [splitGo, hi]
  have hneg : ¬ ((v.length : Int) < 0) := by omega
  simp only [hneg, if_false, Int.toNat_natCast, List.take_left']
  exact ⟨_, rfl⟩

/-- no comma at all: the whole text is the value and there are no arguments -/
theorem parse?_plain (v : Bytes) (hv : PlainVal v) : parse? v = some (v, []) := by
  unfold parse?
  rw [split?_eq]
  have h0 : count cComma v = 0 := by
    unfold count
    rw [List.length_eq_zero_iff, List.filter_eq_nil_iff]
    intro b hb
    simpa using (hv b hb).1
  simp [split, h0, splitGo, parseExps?]

theorem parse?_plain_comma (v rest : Bytes) (hv : PlainVal v) :
    ∃ a, parse? (v ++ cComma :: rest) = some (v, a) := by
  unfold parse?
  rw [split?_eq]
  obtain ⟨parts, hp⟩ := split_plain_comma v rest hv
  rw [hp]
  obtain ⟨m, hm⟩ := parseExps?_total [] parts
  exact ⟨m, by simp [hm]⟩

end Ioc.Tag
