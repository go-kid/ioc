/-
  The regenerated programs of app/app.go (App.run, App.callRunners) compute the stage pipeline and the runner loop of M5.
-/
import Ioc.SemApp
import IocProofs.Lemmas.GoEval
namespace Ioc.Sem
open Ioc Ioc.Go Ioc.App

attribute [local go_eval] runFn.eq_1 runFn.eq_2 runFn.eq_3 runFn.eq_4 runFn.eq_5 runFn.eq_6
  crFn.eq_1 crFn.eq_2 crFn.eq_4 crFn.eq_5 crFn.eq_6
@[local go_eval] theorem runPrims_fn (fails : String → Bool) : (runPrims fails).fn = runFn fails := rfl
@[local go_eval] theorem crPrims_fn (rs : List Runner) (sorted : List Nat) : (crPrims rs sorted).fn = crFn rs sorted := rfl

/-- App.run calls initConfiguration, initFactory, refresh, callRunners in this order, each only when all earlier ones
    returned nil, and returns nil exactly when all four did — for every failure pattern -/
theorem app_run_sem (fails : String → Bool) :
    run (runPrims fails) Progs.app_run [] [] =
      some (if (stagesUntilFail fails theStages).2 then .nil else errA, (stagesUntilFail fails theStages).1) := by
  simp [go_eval, Progs.app_run, stageCall, errA]
  grind [stagesUntilFail, theStages]

/-- a failing stage is the last one called -/
theorem stagesUntilFail_stops (fails : String → Bool) (l : List String) (s : String)
    (hs : s ∈ (stagesUntilFail fails l).1) (hf : fails s = true) :
    (stagesUntilFail fails l).2 = false ∧ (stagesUntilFail fails l).1.getLast? = some s := by
  induction l with
  | nil => cases hs
  | cons a rest ih =>
    unfold stagesUntilFail at hs ⊢
    by_cases ha : fails a = true
    · rw [if_pos ha] at hs ⊢
      cases List.mem_singleton.mp hs; exact ⟨rfl, rfl⟩
    · rw [if_neg ha] at hs ⊢
      rcases List.mem_cons.mp hs with rfl | hm
      · exact absurd hf ha
      · obtain ⟨h2, hl⟩ := ih hm
        exact ⟨h2, by rw [List.getLast?_cons, hl]; rfl⟩

def encI (i : Nat) : Val := .ref i 0

def failsAt (rs : List Runner) (x : Nat) : Bool :=
  match rs[x]? with
  | some r => r.fails
  | none => true

theorem callIdx_cons (rs : List Runner) (x : Nat) (rest : List Nat) :
    callIdx rs (x :: rest) = if failsAt rs x then ([x], false) else (x :: (callIdx rs rest).1, (callIdx rs rest).2) := by
  unfold failsAt
  cases h : rs[x]? with
  | none => simp [callIdx, h]
  | some r => cases hf : r.fails <;> simp [callIdx, h, hf]

/-- an index loop whose body calls Run on `sorted[i]` and returns on error -/
theorem loopM_call (rs : List Runner) (sorted : List Nat) (f : Nat → Val → Env → RunW → Option (Env × RunW × Ctl)) (env : Env)
    (hf : ∀ i v w x, sorted[i]? = some x →
      f i v env w = some (env, { w with invoked := w.invoked ++ [x] }, if failsAt rs x then Ctl.ret errA else Ctl.norm)) :
    ∀ (suffix : List Nat) (k : Nat) (w : RunW), sorted.drop k = suffix →
      loopM f k (suffix.map encI) env w =
        some (env, { w with invoked := w.invoked ++ (callIdx rs suffix).1 },
              if (callIdx rs suffix).2 then Ctl.norm else Ctl.ret errA) := by
  intro suffix
  induction suffix with
  | nil => intro k w _; simp [loopM, callIdx]
  | cons x rest ih =>
    intro k w hd
    have hx : sorted[k]? = some x := by
      have := congrArg List.head? hd
      simpa [List.head?_drop] using this
    have hrest : sorted.drop (k + 1) = rest := by
      have := congrArg List.tail hd
      simpa [List.tail_drop] using this
    simp only [List.map_cons, loopM, hf k (encI x) w x hx, callIdx_cons]
    cases hfx : failsAt rs x with
    | true => simp
    | false =>
      simp only [Bool.false_eq_true, if_false]
      rw [ih (k + 1) _ hrest]
      simp [List.append_assoc]


def crStmt (i : Nat) : Stmt := Progs.app_callRunners.body.getD i .brk
theorem cr_body : Progs.app_callRunners.body = [crStmt 0, crStmt 1, crStmt 2, crStmt 3, crStmt 4, crStmt 5] := rfl
theorem cr_params : Progs.app_callRunners.params = [] := rfl

/-- what `Run` answers, in the terms of `loopM_call` -/
@[local go_eval] theorem crFn_Run (rs : List Runner) (sorted : List Nat) (i : Nat) (w : RunW) :
    crFn rs sorted ".Run" [.ref i 0] w = some (if failsAt rs i then errA else .nil, { w with invoked := w.invoked ++ [i] }) := by
  unfold failsAt
  rw [crFn.eq_3]
  rcases rs[i]? with _ | r <;> simp

def crLoop : List Stmt := match Progs.app_callRunners.body with | [_, _, _, .range _ _ _ b, _, _] => b | _ => []

/-- App.callRunners: nothing happens without runners; otherwise the runners are sorted, invoked in that order up to and
    including the first failing one, and only a complete pass clears the list and returns nil -/
theorem app_callRunners_sem (rs : List Runner) (sorted : List Nat) :
    run (crPrims rs sorted) Progs.app_callRunners [] {} =
      if rs.length = 0 then some (.nil, {})
      else some (if (callIdx rs sorted).2 then .nil else errA,
                 { invoked := (callIdx rs sorted).1, cleared := (callIdx rs sorted).2 }) := by
  have hloop (w : RunW) : loopM (rangeIter (crPrims rs sorted) "i" "_" crLoop) 0 (sorted.map fun i => Val.ref i 0)
      [("runners", .list (sorted.map fun i => Val.ref i 0))] w = _ :=
    loopM_call rs sorted _ _ (by
      intro i v w x hx
      have hget : (sorted.map fun i => Val.ref i 0)[i]? = some (.ref x 0) := by simp [hx]
      simp [go_eval, rangeIter, crLoop, Progs.app_callRunners, hget, errA]) sorted 0 w rfl
  simp only [crLoop, Progs.app_callRunners] at hloop
  simp [go_eval, Progs.app_callRunners, hloop]
  cases (callIdx rs sorted).2 <;> rfl

/-- the position-level loop is the model's `callRunners` on the runners at those positions -/
theorem callIdx_model (rs : List Runner) (sorted : List Nat) (hv : ∀ i ∈ sorted, i < rs.length) :
    App.callRunners (sorted.filterMap (fun i => rs[i]?)) =
      (((callIdx rs sorted).1).filterMap (fun i => rs[i]?), (callIdx rs sorted).2) := by
  induction sorted with
  | nil => simp [App.callRunners, callIdx]
  | cons i rest ih =>
    have hi : i < rs.length := hv i (by simp)
    have hget : rs[i]? = some rs[i] := by simp [hi]
    have ih' := ih (fun j hj => hv j (by simp [hj]))
    simp only [List.filterMap_cons, hget, App.callRunners, callIdx]
    cases hf : rs[i].fails with
    | true => simp [hget]
    | false => simp [hget, ih']

end Ioc.Sem
