/-
  The regenerated start options of package app (app/options.go) under the interpretation `Ioc.SemAppOptions`.
-/
import Ioc.SemAppOptions
import IocProofs.Lemmas.GoEval
namespace Ioc.Sem
open Ioc Ioc.Go

attribute [local go_eval] aoptFn.eq_1 aoptFn.eq_2 aoptFn.eq_3 aoptFn.eq_4 aoptFn.eq_5 aoptFn.eq_6 aoptFn.eq_7 aoptFn.eq_8
  aoptFn.eq_9 aoptFn.eq_10 aoptFn.eq_11
@[local go_eval] theorem aoptPrims_fn : aoptPrims.fn = aoptFn := rfl

theorem setRegistry_sem (r : Nat) (w : AW) :
    run aoptPrims Progs.aopt_SetRegistry [.ref r 2, .ref 0 1] w = some (.tuple [], { w with registry := r }) := by
  simp [go_eval, Progs.aopt_SetRegistry]

theorem setFactory_sem (f : Nat) (w : AW) :
    run aoptPrims Progs.aopt_SetFactory [.ref f 3, .ref 0 1] w = some (.tuple [], { w with factory := f }) := by
  simp [go_eval, Progs.aopt_SetFactory]

theorem setConfigure_sem (c : Nat) (w : AW) :
    run aoptPrims Progs.aopt_SetConfigure [.ref c 4, .ref 0 1] w = some (.tuple [], { w with configure := c }) := by
  simp [go_eval, Progs.aopt_SetConfigure]

theorem setConfig_sem (p : String) (w : AW) :
    run aoptPrims Progs.aopt_SetConfig [.str p, .ref 0 1] w =
      some (.tuple [], { w with cfgOps := w.cfgOps ++ [(w.configure, .addLoaders (.tuple [.str "file", .str p]))] }) := by
  simp [go_eval, Progs.aopt_SetConfig]

theorem setConfigLoader_sem (ls : Val) (w : AW) :
    run aoptPrims Progs.aopt_SetConfigLoader [ls, .ref 0 1] w =
      some (.tuple [], { w with cfgOps := w.cfgOps ++ [(w.configure, .setLoaders ls)] }) := by
  simp [go_eval, Progs.aopt_SetConfigLoader]

theorem addConfigLoader_sem (ls : Val) (w : AW) :
    run aoptPrims Progs.aopt_AddConfigLoader [ls, .ref 0 1] w =
      some (.tuple [], { w with cfgOps := w.cfgOps ++ [(w.configure, .addLoaders ls)] }) := by
  simp [go_eval, Progs.aopt_AddConfigLoader]

theorem setConfigBinder_sem (b : Val) (w : AW) :
    run aoptPrims Progs.aopt_SetConfigBinder [b, .ref 0 1] w =
      some (.tuple [], { w with cfgOps := w.cfgOps ++ [(w.configure, .setBinder b)] }) := by
  simp [go_eval, Progs.aopt_SetConfigBinder]

def scBody : List Stmt := match Progs.aopt_SetComponents.body with | [.range _ _ _ b] => b | _ => []
theorem sc_shape : Progs.aopt_SetComponents.body = [.range "_" "c" (.var "cs") scBody] := rfl
def opBody : List Stmt := match Progs.aopt_Options.body with | [.range _ _ _ b] => b | _ => []
theorem op_shape : Progs.aopt_Options.body = [.range "_" "op" (.var "ops") opBody] := rfl

def scStep (c : Val) (_ : Unit) (w : AW) : Unit × AW × Option Val :=
  ((), { w with registered := w.registered ++ [(w.registry, c)] }, none)

theorem scStep_loop (cs : List Val) (w : AW) :
    stepLoop scStep cs () w = ((), { w with registered := w.registered ++ cs.map (fun c => (w.registry, c)) }, none) := by
  induction cs generalizing w with
  | nil => simp [stepLoop]
  | cons c rest ih => simp [stepLoop, scStep, ih, List.append_assoc]

/-- SetComponents: every component, in the order given, into the registry the App holds WHEN THE OPTION RUNS -/
theorem setComponents_sem (cs : List Val) (w : AW) :
    run aoptPrims Progs.aopt_SetComponents [.list cs, .ref 0 1] w =
      some (.tuple [], { w with registered := w.registered ++ cs.map (fun c => (w.registry, c)) }) := by
  have hloop := loopM_rounds id (rangeIter aoptPrims "_" "c" scBody) (fun _ : Unit => [("cs", .list cs), ("s", .ref 0 1)]) scStep
    (by
      intro i c _ w
      simp [go_eval, rangeIter, scBody, Progs.aopt_SetComponents, scStep, ctlOf]) cs 0 () w
  simp only [scBody, Progs.aopt_SetComponents, List.map_id] at hloop
  simp [go_eval, Progs.aopt_SetComponents, hloop, scStep_loop, ctlOf]

def opStep (i : Nat) (_ : Unit) (w : AW) : Unit × AW × Option Val := ((), { w with applied := w.applied ++ [i] }, none)

theorem opStep_loop (ops : List Nat) (w : AW) :
    stepLoop opStep ops () w = ((), { w with applied := w.applied ++ ops }, none) := by
  induction ops generalizing w with
  | nil => simp [stepLoop]
  | cons i rest ih => simp [stepLoop, opStep, ih, List.append_assoc]

/-- Options: the given options, each once, in the order given -/
theorem options_sem (ops : List Nat) (w : AW) :
    run aoptPrims Progs.aopt_Options [.list (ops.map (fun i => Val.ref i 5)), .ref 0 1] w =
      some (.tuple [], { w with applied := w.applied ++ ops }) := by
  have hloop := loopM_rounds (fun i => Val.ref i 5) (rangeIter aoptPrims "_" "op" opBody)
    (fun _ : Unit => [("ops", .list (ops.map (fun i => Val.ref i 5))), ("s", .ref 0 1)]) opStep (by
      intro j i _ w
      simp [go_eval, rangeIter, opBody, Progs.aopt_Options, opStep, ctlOf]) ops 0 () w
  simp only [opBody, Progs.aopt_Options] at hloop
  simp [go_eval, Progs.aopt_Options, hloop, opStep_loop, ctlOf]

end Ioc.Sem
