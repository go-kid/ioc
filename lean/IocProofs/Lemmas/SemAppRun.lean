/-
  The regenerated App.initiate, App.Run and registry.RegisterSingleton under the interpretation `Ioc.SemAppRun`.
-/
import Ioc.SemAppRun
import IocProofs.Lemmas.GoEval
namespace Ioc.Sem
open Ioc Ioc.Go

attribute [local go_eval] aiFn.eq_1 aiFn.eq_2 aiFn.eq_3 aiFn.eq_4 aiFn.eq_5 aiFn.eq_6 aiFn.eq_7 aiFn.eq_8 aiFn.eq_9 aiFn.eq_10
  aiFn.eq_11 aiFn.eq_12 aiFn.eq_13 aiFn.eq_14 aiFn.eq_15 aiFn.eq_16 aiFn.eq_17
  arFn.eq_1 arFn.eq_2 arFn.eq_3 arFn.eq_4 arFn.eq_5 arFn.eq_6 arFn.eq_7 arFn.eq_8
  rsFn.eq_1 rsFn.eq_2 rsFn.eq_3 rsFn.eq_4 rsFn.eq_5
@[local go_eval] theorem aiPrims_fn (p : AIP) : (aiPrims p).fn = aiFn p := rfl
@[local go_eval] theorem arPrims_fn (p : ARP) : (arPrims p).fn = arFn p := rfl
@[local go_eval] theorem rsPrims_fn (nameOf : Nat → String) : (rsPrims nameOf).fn = rsFn nameOf := rfl

/-- initiate: a missing configure / registry / factory is reported (in that order) and NOTHING is set or registered; otherwise
    the factory is given the registry and the configure, and the App itself and the nine built-in processors are registered,
    in the order written -/
theorem initiate_sem (p : AIP) (w : List ACall) :
    run (aiPrims p) Progs.app_initiate [] w =
      some (if !p.hasConf then (.str "missing configure", w)
            else if !p.hasReg then (.str "missing registry", w)
            else if !p.hasFac then (.str "missing factory", w)
            else (.nil, w ++ [.setRegistry, .setConfigure] ++ builtinOrder.map ACall.register)) := by
  obtain ⟨c, r, f⟩ := p
  -- the configure and the registry are handed on to the factory's setters, which answer to the objects only
  cases c <;> cases r <;> simp [go_eval, Progs.app_initiate, loopM, rangeIter, builtinOrder]
  cases f <;> rfl

def runBody1 : List Stmt := match Progs.app_Run.body with | (.range _ _ _ b) :: _ => b | _ => []
def runRest : List Stmt := match Progs.app_Run.body with | _ :: rest => rest | _ => []
theorem run_shape : Progs.app_Run.body =
    (.range "_" "op" (.call "append..." [(.var "ops"), (.glob "globalOptions")]) runBody1) :: runRest := rfl

def optStep (i : Nat) (_ : Unit) (w : List ACall) : Unit × List ACall × Option Val := ((), w ++ [.option i], none)

theorem optStep_loop (l : List Nat) (w : List ACall) :
    stepLoop optStep l () w = ((), w ++ l.map ACall.option, none) := by
  induction l generalizing w with
  | nil => simp [stepLoop]
  | cons i rest ih => simp [stepLoop, optStep, ih, List.append_assoc]

def encOptE : Option String → Val
  | none => .nil
  | some e => .str e

/-- Run: the options given are applied first, in the order given, then the package-level ones; then `initiate`; when it
    fails, `Fatalf` is called — and when that returns (log level above Fatal) the start goes ON to `run` with whatever is
    unset, otherwise Run never returns; when `initiate` succeeds `run` is called once and its error returned as it is -/
theorem appRun_sem (p : ARP) (ops : List Nat) (w : List ACall) :
    run (arPrims p) Progs.app_Run [optVals ops] w =
      (if p.initErr.isSome && !p.fatalReturns then none
       else some (encOptE p.runErr, w ++ (ops ++ p.globals).map ACall.option ++ [.initiate, .run])) := by
  have hloop (e : Env) := loopM_rounds (fun i => Val.ref i 110) (rangeIter (arPrims p) "_" "op" runBody1) (fun _ : Unit => e)
    optStep (by
      intro j i _ w
      simp [go_eval, rangeIter, runBody1, Progs.app_Run, optStep, ctlOf]) (ops ++ p.globals) 0 () w
  simp only [runBody1, Progs.app_Run] at hloop
  obtain ⟨g, ie, re, fr⟩ := p
  cases ie <;> cases re <;>
    simp [go_eval, Progs.app_Run, optVals, ← List.map_append, hloop, optStep_loop, ctlOf, encOptE] <;>
    cases fr <;> rfl

/-- RegisterSingleton: a new name is stored; the SAME object again is a no-op; a different object under a name that is taken
    panics (`none`) and the registry keeps what it had -/
theorem registerSingleton_sem (nameOf : Nat → String) (i : Nat) (w : CMap) :
    run (rsPrims nameOf) Progs.sreg_RegisterSingleton [.ref i 0] w =
      (match cmLoad w (nameOf i) with
       | none => some (.tuple [], cmStore (nameOf i) i w)
       | some j => if j = i then some (.tuple [], w) else none) := by
  cases hl : cmLoad w (nameOf i) <;> simp [go_eval, Progs.sreg_RegisterSingleton, hl]

end Ioc.Sem
