/-
  The regenerated tag-argument functions of arg.go under the interpretation `Ioc.SemArgs`.
-/
import Ioc.SemArgs
import IocProofs.Lemmas.GoEval
namespace Ioc.Sem
open Ioc Ioc.Go

attribute [local go_eval] argFn.eq_1 argFn.eq_2 argFn.eq_3 argFn.eq_4 argFn.eq_5 argFn.eq_6 argFn.eq_7 argFn.eq_8 argFn.eq_9 argFn.eq_10
  argFn.eq_11 argFn.eq_12 argFn.eq_13 argFn.eq_14 argFn.eq_15 parseFn.eq_1 parseFn.eq_2 parseFn.eq_3 parseFn.eq_4 parseFn.eq_5
  parseFn.eq_6 parseFn.eq_7 parseFn.eq_8 parseFn.eq_9 parseFn.eq_10 parseFn.eq_11 strsVal valStrs_map

theorem valStrs_append (a b : List String) : valStrs (a.map Val.str ++ b.map Val.str) = a ++ b := by
  rw [← List.map_append, valStrs_map]

section args
variable (o : StrOps)

@[local go_eval] theorem argPrims_fn : (argPrims o).fn = argFn o := rfl

/-- formatArgType: the first character in upper case, the rest as it is -/
theorem argFmt_sem (k : String) (w : AM) :
    run (argPrims o) Progs.arg_formatArgType [.str k] w = some (.str (o.upper (o.takeS k 1) ++ o.dropS k 1), w) := by
  simp [go_eval, Progs.arg_formatArgType]

/-- Set: nothing for the empty name; else the formatted name holds EXACTLY the given values (an earlier entry is replaced) -/
theorem argSet_sem (k : String) (vs : List String) (w : AM) :
    run (argPrims o) Progs.arg_Set [.str k, strsVal vs] w =
      some (.tuple [], if k = "" then w else amSet (o.fmtKey k) vs w) := by
  simp [go_eval, Progs.arg_Set]
  split <;> rfl

/-- Add: nothing for the empty name; else the values are appended to what the formatted name holds -/
theorem argAdd_sem (k : String) (vs : List String) (w : AM) :
    run (argPrims o) Progs.arg_Add [.str k, strsVal vs] w =
      some (.tuple [], if k = "" then w else amSet (o.fmtKey k) ((amGet (o.fmtKey k) w).getD [] ++ vs) w) := by
  cases hg : amGet (o.fmtKey k) w <;> simp [go_eval, Progs.arg_Add, hg, valStrs_append] <;> split <;> rfl

/-- Find: the values stored under the formatted name, exactly as stored (empty items included), and whether there are any -/
theorem argFind_sem (k : String) (w : AM) :
    run (argPrims o) Progs.arg_Find [.str k] w =
      some (match amGet (o.fmtKey k) w with
            | some l => .tuple [strsVal l, .bool true]
            | none => .tuple [.nil, .bool false], w) := by
  cases hg : amGet (o.fmtKey k) w <;> simp [go_eval, Progs.arg_Find, hg]

/-- Has: the name is stored and (no value is asked for, or one of the wanted values is among the stored ones) -/
theorem argHas_sem (k : String) (wants : List String) (w : AM) :
    run (argPrims o) Progs.arg_Has [.str k, strsVal wants] w =
      some (.bool (match amGet (o.fmtKey k) w with
                   | none => false
                   | some l => wants.isEmpty || l.any (fun x => wants.contains x)), w) := by
  cases hg : amGet (o.fmtKey k) w <;> simp [go_eval, Progs.arg_Has, hg]
  cases wants <;> simp

end args
section inter

def iiBody : List Stmt := match Progs.arg_isIntersect.body with | [.range _ _ _ b, _] => b | _ => []
theorem ii_shape : Progs.arg_isIntersect.body = [.range "_" "a2" (.var "a") iiBody, .ret [.bool false]] := rfl
def iiInner : List Stmt := match iiBody with | [.range _ _ _ b] => b | _ => []

def noPrims : Prims Unit := { fn := fun _ _ _ => none }

/-- isIntersect: some element of the first list is an element of the second -/
theorem argIsIntersect_sem (a b : List String) :
    run noPrims Progs.arg_isIntersect [strsVal a, strsVal b] () = some (.bool (a.any (fun x => b.contains x)), ()) := by
  have hin (x : String) := loopM_any Val.str (rangeIter noPrims "_" "b2" iiInner)
    [("a2", .str x), ("a", .list (a.map Val.str)), ("b", .list (b.map Val.str))] (fun y => x == y) (.bool true) (by
      intro j y w
      simp [go_eval, rangeIter, iiInner, iiBody, Progs.arg_isIntersect]) b
  have hout := loopM_any Val.str (rangeIter noPrims "_" "a2" iiBody) [("a", .list (a.map Val.str)), ("b", .list (b.map Val.str))]
    (fun x => b.contains x) (.bool true) (by
      intro i x w
      simp only [iiInner, iiBody, Progs.arg_isIntersect] at hin
      simp [go_eval, rangeIter, iiBody, Progs.arg_isIntersect, hin]) a
  simp only [iiBody, Progs.arg_isIntersect] at hout
  simp [go_eval, Progs.arg_isIntersect, hout]
  split <;> simp_all

end inter

section parse
variable (o : StrOps)

def paBody : List Stmt := match Progs.arg_Parse.body with | [_, _, _, _, .range _ _ _ b, _] => b | _ => []
def paPre : List Stmt := Progs.arg_Parse.body.take 4
theorem pa_shape : Progs.arg_Parse.body = paPre ++ [.range "_" "exp" (.var "exps") paBody, .ret [.var "tag"]] := rfl

@[local go_eval] theorem parsePrims_fn : (parsePrims o).fn = parseFn o := rfl

def paStep (exp : String) (_ : Unit) (w : SetLog) : Unit × SetLog × Option Val := ((), w ++ [parseArg o exp], none)

theorem paStep_loop (es : List String) (w : SetLog) :
    stepLoop (paStep o) es () w = ((), w ++ es.map (parseArg o), none) := by
  induction es generalizing w with
  | nil => simp [stepLoop]
  | cons e rest ih => simp [stepLoop, paStep, ih]

/-- Parse: the text before the first top-level comma is the value part; every further part is ONE argument — without `=` the
    bare name with the single empty value, else the name before the first `=` and the blank-separated values behind it — handed
    to Set in the order written -/
theorem argParse_sem (tag : String) (w : SetLog) :
    run (parsePrims o) Progs.arg_Parse [.str tag] w =
      some (.str (o.splitC tag).1, w ++ (o.splitC tag).2.map (parseArg o)) := by
  have hloop := loopM_rounds Val.str (rangeIter (parsePrims o) "_" "exp" paBody)
    (fun _ : Unit => [("exps", .list ((o.splitC tag).2.map Val.str)),
      ("parts", .list (.str (o.splitC tag).1 :: (o.splitC tag).2.map Val.str)), ("tag", .str (o.splitC tag).1)])
    (paStep o) (by
      intro i exp _ w
      have h1 (k : Nat) : ¬ (k : Int) = -1 := by omega
      have h2 (k : Nat) : ((k : Int) + 1).toNat = k + 1 := by omega
      cases hi : o.indexEq exp <;>
        simp [go_eval, rangeIter, paBody, Progs.arg_Parse, paStep, parseArg, ctlOf, hi, h1, h2])
    (o.splitC tag).2 0 () w
  simp only [paBody, Progs.arg_Parse] at hloop
  simp [go_eval, Progs.arg_Parse, hloop, paStep_loop, ctlOf]
  intro h
  exact List.eq_nil_of_length_eq_zero (by omega)

end parse

theorem amGet_cons (k a : String) (b : List String) (m : AM) :
    amGet k ((a, b) :: m) = if a = k then some b else amGet k m := by
  by_cases h : a = k <;> simp [amGet, h]

theorem amGet_amSet (k k' : String) (v : List String) (m : AM) :
    amGet k' (amSet k v m) = if k = k' then some v else amGet k' m := by
  induction m with
  | nil => rw [amSet, amGet_cons]
  | cons e rest ih =>
    obtain ⟨a, b⟩ := e
    by_cases h : a = k
    · subst h; by_cases h' : a = k' <;> simp [amSet, amGet_cons, h']
    · simp only [amSet, h, if_false, amGet_cons, ih]
      by_cases h' : a = k' <;> simp [h']
      exact fun hk => absurd (hk ▸ h') h

end Ioc.Sem
