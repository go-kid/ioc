/-
  Semantic theorems for the REGENERATED functions of configure/binder/viper.go (interpretation: Ioc.SemBinder).
-/
import Ioc.SemBinder
import IocProofs.Lemmas.GoEval
namespace Ioc.Sem
open Ioc Ioc.Go

attribute [local go_eval] cvFn.eq_1 cvFn.eq_2 cvFn.eq_3 cvFn.eq_4 cvFn.eq_5 cvFn.eq_6 cvFn.eq_7 cvFn.eq_8 bgFn.eq_1 bgFn.eq_2 bgFn.eq_3
  bsFn.eq_1 bsFn.eq_2 bsFn.eq_3 bsFn.eq_4 bsFn.eq_5

section binder
variable (keq : Val → Val → Bool) (rec : Val → Heap → Val × Heap)

@[local go_eval] theorem cvPrims_fn : (cvPrims keq rec).fn = cvFn keq rec := rfl

/-- a typed nil map / list, and anything that is neither a map nor a list, is returned as it is; nothing is allocated -/
theorem cloneValue_asis (x : Val) (h : Heap)
    (hx : (assertMS h x = .tuple [.nil, .bool true] ∨ assertMS h x = .tuple [.nil, .bool false]) ∧
          (assertMS h x = .tuple [.nil, .bool false] →
            (assertMA h x = .tuple [.nil, .bool true] ∨ assertMA h x = .tuple [.nil, .bool false]) ∧
            (assertMA h x = .tuple [.nil, .bool false] →
              (assertL h x = .tuple [.nil, .bool true] ∨ assertL h x = .tuple [.nil, .bool false])))) :
    run (cvPrims keq rec) Progs.binder_cloneValue [x] h = some (x, h) := by
  obtain ⟨h1, h2⟩ := hx
  rcases h1 with h1 | h1
  · simp [go_eval, Progs.binder_cloneValue, h1]
  · obtain ⟨h3, h4⟩ := h2 h1
    rcases h3 with h3 | h3
    · simp [go_eval, Progs.binder_cloneValue, h1, h3]
    · rcases h4 h3 with h5 | h5 <;> simp [go_eval, Progs.binder_cloneValue, h1, h3, h5]

/-! the three clauses of the type switch -/

def cvT1 : List Stmt := match Progs.binder_cloneValue.body with
  | [.ifs _ _ [_, .ifs _ _ t1 _] _, _] => t1 | _ => []
def cvT2 : List Stmt := match Progs.binder_cloneValue.body with
  | [.ifs _ _ [_, .ifs _ _ _ [.ifs _ _ t2 _]] _, _] => t2 | _ => []
def cvT3 : List Stmt := match Progs.binder_cloneValue.body with
  | [.ifs _ _ [_, .ifs _ _ _ [.ifs _ _ _ [.ifs _ _ t3 _]]] _, _] => t3 | _ => []

theorem cv_shape : Progs.binder_cloneValue.body =
    [.ifs [] (.bool true) [.define ["$ts"] (.var "val"),
      .ifs [.define ["$v0", "$ok0"] (.assert2 (.var "$ts") "map[string]any")] (.var "$ok0") cvT1
        [.ifs [.define ["$v0", "$ok0"] (.assert2 (.var "$ts") "map[any]any")] (.var "$ok0") cvT2
          [.ifs [.define ["$v0", "$ok0"] (.assert2 (.var "$ts") "[]any")] (.var "$ok0") cvT3 []]]] [],
     .ret [.var "val"]] := rfl

def cvLoopBody : List Stmt := [.expr (.call ".setidx" [(.var "m"), (.var "k"), (.call "cloneValue" [(.var "e")])])]

def cvListBody : List Stmt := [.expr (.call ".setidx" [(.var "l"), (.var "i"), (.call "cloneValue" [(.var "e")])])]

/-- the loop over a map's entries, every round storing into object j what the recursive call returns -/
theorem loopM_cloneEntries (f : Nat → Val → Env → Heap → Out Heap) (env : Env) (j : Nat)
    (hf : ∀ i k v h, f i (.tuple [k, v]) env h = some (env, heapSetIdx keq (rec v h).2 j k (rec v h).1, .norm)) :
    ∀ (es : List (Val × Val)) (i : Nat) (h : Heap),
      loopM f i (es.map fun e => .tuple [e.1, e.2]) env h = some (env, cloneEntries keq rec j es h, .norm) := by
  intro es
  induction es with
  | nil => intro i h; rfl
  | cons e rest ih =>
    intro i h
    simp only [List.map_cons, loopM, hf, cloneEntries]
    exact ih _ _

theorem loopM_cloneItems (f : Nat → Val → Env → Heap → Out Heap) (env : Env) (j : Nat)
    (hf : ∀ i v h, f i v env h = some (env, heapSetIdx keq (rec v h).2 j (.int i) (rec v h).1, .norm)) :
    ∀ (es : List Val) (i : Nat) (h : Heap), loopM f i es env h = some (env, cloneItems keq rec j i es h, .norm) := by
  intro es
  induction es with
  | nil => intro i h; rfl
  | cons e rest ih =>
    intro i h
    simp only [loopM, hf, cloneItems]
    exact ih _ _

/-- a (non-nil) `map[string]any`: a NEW map object is returned; it holds, under the same keys, what the recursive call returns
    for each value; the map that was passed in is not written to -/
theorem cloneValue_mapS (i : Nat) (es : List (Val × Val)) (h : Heap) (hi : h[i]? = some (.mapS (some es))) :
    run (cvPrims keq rec) Progs.binder_cloneValue [.ref i 90] h =
      some (.ref h.length 90, cloneEntries keq rec h.length es (h ++ [.mapS (some [])])) := by
  have ha : assertMS h (.ref i 90) = .tuple [pairsVal es, .bool true] := by simp [assertMS, hi]
  have hloop := loopM_cloneEntries keq rec (rangeIterMap (cvPrims keq rec) "k" "e" cvLoopBody)
    [("m", .ref h.length 90), ("v", pairsVal es), ("$ok0", .bool true), ("$v0", pairsVal es), ("$ts", .ref i 90), ("val", .ref i 90)]
    h.length (by
      intro n k v h'
      simp [go_eval, rangeIterMap, cvLoopBody, onVal_pair]) es 0
  simp only [cvLoopBody, pairsVal] at hloop
  simp [go_eval, Progs.binder_cloneValue, ha, pairsVal, hloop]

/-- the same for a `map[any]any` -/
theorem cloneValue_mapA (i : Nat) (es : List (Val × Val)) (h : Heap) (hi : h[i]? = some (.mapA (some es))) :
    run (cvPrims keq rec) Progs.binder_cloneValue [.ref i 90] h =
      some (.ref h.length 90, cloneEntries keq rec h.length es (h ++ [.mapA (some [])])) := by
  have ha0 : assertMS h (.ref i 90) = .tuple [.nil, .bool false] := by simp [assertMS, hi]
  have ha : assertMA h (.ref i 90) = .tuple [pairsVal es, .bool true] := by simp [assertMA, hi]
  have hloop := loopM_cloneEntries keq rec (rangeIterMap (cvPrims keq rec) "k" "e" cvLoopBody)
    [("m", .ref h.length 90), ("v", pairsVal es), ("$ok0", .bool true), ("$v0", pairsVal es), ("$ok0", .bool false), ("$v0", .nil),
      ("$ts", .ref i 90), ("val", .ref i 90)]
    h.length (by
      intro n k v h'
      simp [go_eval, rangeIterMap, cvLoopBody, onVal_pair]) es 0
  simp only [cvLoopBody, pairsVal] at hloop
  simp [go_eval, Progs.binder_cloneValue, ha0, ha, pairsVal, hloop]

/-- a (non-nil) `[]any`: a NEW list of the same length; item i is what the recursive call returns for item i -/
theorem cloneValue_list (i : Nat) (es : List Val) (h : Heap) (hi : h[i]? = some (.lst (some es))) :
    run (cvPrims keq rec) Progs.binder_cloneValue [.ref i 90] h =
      some (.ref h.length 90, cloneItems keq rec h.length 0 es (h ++ [.lst (some (List.replicate es.length .nil))])) := by
  have ha0 : assertMS h (.ref i 90) = .tuple [.nil, .bool false] := by simp [assertMS, hi]
  have ha1 : assertMA h (.ref i 90) = .tuple [.nil, .bool false] := by simp [assertMA, hi]
  have ha : assertL h (.ref i 90) = .tuple [.list es, .bool true] := by simp [assertL, hi]
  have hloop := loopM_cloneItems keq rec (rangeIter (cvPrims keq rec) "i" "e" cvListBody)
    [("l", .ref h.length 90), ("v", .list es), ("$ok0", .bool true), ("$v0", .list es), ("$ok0", .bool false), ("$v0", .nil),
      ("$ok0", .bool false), ("$v0", .nil), ("$ts", .ref i 90), ("val", .ref i 90)]
    h.length (by
      intro n v h'
      simp [go_eval, rangeIter, cvListBody, onVal_pair]) es 0
  simp only [cvListBody] at hloop
  simp [go_eval, Progs.binder_cloneValue, ha0, ha1, ha, hloop]

/-! ### the objects that were passed in are never written -/

theorem heapSetIdx_other (h : Heap) (j : Nat) (k v : Val) (i : Nat) (hij : i ≠ j) : (heapSetIdx keq h j k v)[i]? = h[i]? := by
  unfold heapSetIdx
  split <;> try split
  all_goals simp [Ne.symm hij]

theorem heapSetIdx_length (h : Heap) (j : Nat) (k v : Val) : (heapSetIdx keq h j k v).length = h.length := by
  unfold heapSetIdx
  split <;> try split
  all_goals simp

/-- the recursive call only allocates: it leaves the first n objects as they are and does not shrink the heap -/
def RecFrame (rec : Val → Heap → Val × Heap) (n : Nat) : Prop :=
  ∀ e h, n ≤ h.length → (∀ i, i < n → (rec e h).2[i]? = h[i]?) ∧ h.length ≤ (rec e h).2.length

theorem cloneEntries_frame (n : Nat) (hrec : RecFrame rec n) :
    ∀ (es : List (Val × Val)) (h : Heap), n ≤ h.length → ∀ i, i < n → (cloneEntries keq rec n es h)[i]? = h[i]? := by
  intro es
  induction es with
  | nil => intro h _ i _; rfl
  | cons e rest ih =>
    intro h hn i hi
    obtain ⟨k, v⟩ := e
    simp only [cloneEntries]
    have hr := hrec v h hn
    rw [ih _ (by rw [heapSetIdx_length]; omega) i hi, heapSetIdx_other keq _ _ _ _ _ (by omega), hr.1 i hi]

theorem cloneItems_frame (n : Nat) (hrec : RecFrame rec n) :
    ∀ (es : List Val) (s : Nat) (h : Heap), n ≤ h.length → ∀ i, i < n → (cloneItems keq rec n s es h)[i]? = h[i]? := by
  intro es
  induction es with
  | nil => intro s h _ i _; rfl
  | cons e rest ih =>
    intro s h hn i hi
    simp only [cloneItems]
    have hr := hrec e h hn
    rw [ih _ _ (by rw [heapSetIdx_length]; omega) i hi, heapSetIdx_other keq _ _ _ _ _ (by omega), hr.1 i hi]

/-- Get: what viper holds under the path — all settings for the empty path — handed out THROUGH cloneValue, always -/
theorem binderGet_sem (b : VB) (path : String) (h : Heap) :
    run (bgPrims b) Progs.binder_Get [.str path] h = some (b.clone (if path = "" then b.all else b.get path) h) := by
  have hfn : (bgPrims b).fn = bgFn b := rfl
  simp [go_eval, Progs.binder_Get, hfn, onVal_pair]
  split <;> rfl

/-- Set: exactly one `Viper.Set(path, val)`, path and value as given -/
theorem binderSet_sem (me : Val → Option String) (path : String) (v : Val) (w : List VCall) :
    run (bsPrims me) Progs.binder_Set [.str path, v] w = some (.tuple [], w ++ [.set path v]) := by
  have hfn : (bsPrims me).fn = bsFn me := rfl
  simp [go_eval, Progs.binder_Set, hfn]

/-- SetConfig: exactly one `MergeConfig` of the document; its error comes back wrapped, never swallowed -/
theorem binderSetConfig_sem (me : Val → Option String) (c : Val) (w : List VCall) :
    run (bsPrims me) Progs.binder_SetConfig [c] w =
      some (match me c with | none => .nil | some e => .str ("viper merge config: " ++ e), w ++ [.merge c]) := by
  have hfn : (bsPrims me).fn = bsFn me := rfl
  cases hm : me c <;> simp [go_eval, Progs.binder_SetConfig, hfn, hm]

end binder
end Ioc.Sem
