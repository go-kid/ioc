/-
  Semantic theorems for the REGENERATED constructors / setters of package configure (interpretation: Ioc.SemConfDefault).
-/
import Ioc.SemConfDefault
import IocProofs.Lemmas.GoEval
namespace Ioc.Sem
open Ioc Ioc.Go

attribute [local go_eval] cdFn.eq_1 cdFn.eq_2 cdFn.eq_3 cdFn.eq_4 cdFn.eq_5 cdFn.eq_6 cdFn.eq_7 cdFn.eq_8 cdFn.eq_9 cdFn.eq_10
  cdFn.eq_11 cdFn.eq_12 cdFn.eq_13 cdFn.eq_14 cdFn.eq_15 cdFn.eq_16
@[local go_eval] theorem cdPrims_fn : cdPrims.fn = cdFn := rfl

theorem newConfigure_sem (w : CfgObj) : run cdPrims Progs.cfg_NewConfigure [] w = some (.ref 0 180, ⟨[], .nil⟩) := by
  simp [go_eval, Progs.cfg_NewConfigure]

/-- Default: a fresh configure whose ONLY loader is the command-line loader over os.Args and whose binder is the viper binder
    for yaml ITSELF — nothing stands between the configure and that binder -/
theorem cfgDefault_sem (w : CfgObj) :
    run cdPrims Progs.cfg_Default [] w =
      some (.ref 0 180, ⟨[.tuple [.str "ArgsLoader", .str "os.Args"]], .tuple [.str "ViperBinder", .str "yaml"]⟩) := by
  simp [go_eval, Progs.cfg_Default]

/-- SetLoaders replaces the loaders, AddLoaders appends to them (in the order given), SetBinder replaces the binder; none of
    them touches the other member -/
theorem cfgSetters_sem (w : CfgObj) (ls : List Val) (b : Val) :
    run cdPrims Progs.cfg_SetLoaders [.list ls] w = some (.tuple [], { w with loaders := ls }) ∧
    run cdPrims Progs.cfg_AddLoaders [.list ls] w = some (.tuple [], { w with loaders := w.loaders ++ ls }) ∧
    run cdPrims Progs.cfg_SetBinder [b] w = some (.tuple [], { w with binder := b }) := by
  refine ⟨?_, ?_, ?_⟩
  · simp [go_eval, Progs.cfg_SetLoaders]
  · cases hl : w.loaders <;> simp [go_eval, Progs.cfg_AddLoaders, listOrNil, hl]
  · simp [go_eval, Progs.cfg_SetBinder]

end Ioc.Sem
