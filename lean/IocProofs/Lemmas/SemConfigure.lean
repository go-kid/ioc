/-
  The regenerated programs of configure/configure.go (loadConfigure, Initialize) compute M4's two-step loop over the
  sorted loader list.
-/
import Ioc.SemConfigure
import IocProofs.Lemmas.SemOrder
import IocProofs.Lemmas.GoEval
namespace Ioc.Sem
open Ioc Ioc.Go Ioc.Order

@[local go_eval] theorem cfgPrims_fn (res : Nat → Step) (sorted : List Nat) : (cfgPrims res sorted).fn = cfgFn res sorted := rfl
attribute [local go_eval] cfgFn.eq_1 cfgFn.eq_2 cfgFn.eq_3 cfgFn.eq_4 cfgFn.eq_5 cfgFn.eq_6 cfgFn.eq_7 cfgFn.eq_8

/-- the loader loop: LoadConfig, then SetConfig when the document is not empty; any error returns -/
theorem loopM_load (res : Nat → Step) (f : Nat → Val → Env → CfgW → Option (Env × CfgW × Ctl)) (env : Env)
    (hf : ∀ i x w, f i (encR x) env w =
      some (env, { w with log := w.log ++ (res x).evs x }, if (res x).stops then Ctl.ret errG else Ctl.norm)) :
    ∀ (l : List Nat) (k : Nat) (w : CfgW), loopM f k (l.map encR) env w =
      some (env, { w with log := (twoStepLoop res l w.log).1 },
            if (twoStepLoop res l w.log).2 then Ctl.ret errG else Ctl.norm) := by
  intro l
  induction l with
  | nil => intro k w; simp [loopM, twoStepLoop]
  | cons x xs ih =>
    intro k w
    simp only [List.map_cons, loopM, hf, twoStepLoop]
    obtain hr | hr | ⟨b, hr⟩ : res x = .err ∨ res x = .skip ∨ ∃ b, res x = .next b := by
      cases res x <;> simp
    · simp [hr, Step.stops, Step.evs]
    · simp [hr, Step.stops, Step.evs, ih]
    · cases b <;> simp [hr, Step.stops, Step.evs, ih]

def lcStmt (i : Nat) : Stmt := Progs.cfg_loadConfigure.body.getD i .brk
theorem lc_body : Progs.cfg_loadConfigure.body = [lcStmt 0, lcStmt 1, lcStmt 2, lcStmt 3] := rfl
theorem lc_params : Progs.cfg_loadConfigure.params = [] := rfl

def lcBody : List Stmt := match Progs.cfg_loadConfigure.body with | [_, _, .range _ _ _ b, _] => b | _ => []

/-- loadConfigure, regenerated: sort (stored back into the loader list), then the two-step loop over the sorted loaders -/
theorem loadConfigure_sem (res : Nat → Step) (sorted : List Nat) (w : CfgW) :
    run (cfgPrims res sorted) Progs.cfg_loadConfigure [] w =
      some (if (twoStepLoop res sorted w.log).2 then errG else .nil,
            { loaders := sorted, log := (twoStepLoop res sorted w.log).1 }) := by
  have hloop (v : Val) := loopM_load res (rangeIter (cfgPrims res sorted) "i" "l" lcBody) [("sumLoaders", v)] (by
    intro i x w
    rcases hr : res x with _ | _ | _ | _ <;> simp [go_eval, lcBody, Progs.cfg_loadConfigure, encR, hr, Step.evs, Step.stops, errG])
  have hd := decList_map sorted
  simp only [lcBody, Progs.cfg_loadConfigure] at hloop
  simp [go_eval, Progs.cfg_loadConfigure, hd, hloop]
  split <;> rfl

/-- a call of the sibling method loadConfigure = a run of its regenerated program -/
def callLoad (res : Nat → Step) (sorted : List Nat) (args : List Val) (w : CfgW) : Option (Val × CfgW) :=
  run (cfgPrims res sorted) Progs.cfg_loadConfigure args w

def initPrims (res : Nat → Step) (sorted : List Nat) : Prims CfgW :=
  { fn := fun f args w =>
      match f with
      | "self.loadConfigure" => callLoad res sorted args w
      | _ => cfgFn res sorted f args w }

/-- Initialize, regenerated: nothing at all for an empty loader list, otherwise loadConfigure and its error -/
theorem initialize_sem (res : Nat → Step) (sorted : List Nat) (w : CfgW) :
    run (initPrims res sorted) Progs.cfg_Initialize [] w =
      if w.loaders.isEmpty then some (.nil, w)
      else some (if (twoStepLoop res sorted w.log).2 then errG else .nil,
                 { loaders := sorted, log := (twoStepLoop res sorted w.log).1 }) := by
  have hfn (f : String) (args : List Val) (w : CfgW) : (initPrims res sorted).fn f args w =
      match f with
      | "self.loadConfigure" => callLoad res sorted args w
      | _ => cfgFn res sorted f args w := rfl
  have hl : callLoad res sorted [] w = _ := loadConfigure_sem res sorted w
  simp [go_eval, Progs.cfg_Initialize, hfn, hl, errG]
  cases (twoStepLoop res sorted w.log).2 <;> rfl

end Ioc.Sem
