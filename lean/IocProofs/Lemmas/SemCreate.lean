/-
  The regenerated program of factory.go `doCreateComponent` computes `Sem.createDecision` — result and order of the
  effectful calls — for every behaviour of its collaborators (the program is run once per answer of InitializeComponent and
  GetSingleton, the early-reference reconciliation after what precedes it; the dependents loop by induction).
-/
import Ioc.SemCreate
import IocProofs.Lemmas.GoEval
namespace Ioc.Sem
open Ioc Ioc.Go

def encN (x : Nat) : Val := .int (x : Int)
def encAcc (acc : List Nat) : Val := if acc.isEmpty then .nil else .list (acc.map encN)

theorem loopM_collect {σ : Type} (keep : Nat → Bool) (f : Nat → Val → Env → σ → Option (Env × σ × Ctl)) (rest : Env) (w : σ)
    (hf : ∀ i x (acc : List Nat), f i (encN x) (("actualDependents", encAcc acc) :: rest) w =
        some (("actualDependents", encAcc (if keep x then acc ++ [x] else acc)) :: rest, w, .norm)) :
    ∀ (l : List Nat) (i : Nat) (acc : List Nat),
      loopM f i (l.map encN) (("actualDependents", encAcc acc) :: rest) w =
        some (("actualDependents", encAcc (acc ++ l.filter keep)) :: rest, w, .norm) := by
  intro l
  induction l with
  | nil => intro i acc; simp [loopM]
  | cons x xs ih =>
    intro i acc
    simp only [List.map_cons, loopM, hf, List.filter_cons]
    cases hk : keep x with
    | true => simp [ih, List.append_assoc]
    | false => simp [ih]

def dcStmt (i : Nat) : Stmt := Progs.fac_doCreateComponent.body.getD i .brk
theorem dc_body : Progs.fac_doCreateComponent.body =
    [dcStmt 0, dcStmt 1, dcStmt 2, dcStmt 3, dcStmt 4, dcStmt 5, dcStmt 6, dcStmt 7, dcStmt 8, dcStmt 9, dcStmt 10] := rfl
theorem dc_params : Progs.fac_doCreateComponent.params = ["name", "meta"] := rfl

def dcE0 (n : Nat) : Env := [("name", .int (n : Int)), ("meta", .ref n 0)]
def dcE1 (n : Nat) (x : Bool) : Env := ("earlySingletonExposure", .bool x) :: dcE0 n
/-- after `exposedComponent := meta` and `err := populate` -/
def dcE3 (n : Nat) (x : Bool) (ex e : Val) : Env := ("err", e) :: ("exposedComponent", ex) :: dcE1 n x
/-- after `instance := meta.Raw` and `wrappedInstance, err := InitializeComponent` -/
def dcE6 (n : Nat) (x : Bool) (ex : Val) (wi e2 : Val) : Env :=
  ("err", e2) :: ("wrappedInstance", wi) :: ("instance", .ref n 1000) :: dcE3 n x ex .nil

/-- the "has been wrapped" check of the reconciliation (factory.go:230-244) -/
def dcInner : Stmt :=
  match dcStmt 9 with
  | .ifs _ _ [_, _, .ifs _ _ [.ifs _ _ _ [inner]] _] _ => inner
  | _ => .brk

theorem dc_s9_shape : ∃ c1 c2 c3 a b asg, dcStmt 9 = .ifs [] c1 [a, b, .ifs [] c2 [.ifs [] c3 [asg] [dcInner]] []] [] :=
  ⟨_, _, _, _, _, _, rfl⟩

-- by their own names `simp` indexes the equations by the primitive's name; given as `dccFn` it tries them one after the other
attribute [local go_eval] dccFn.eq_1 dccFn.eq_2 dccFn.eq_4 dccFn.eq_5 dccFn.eq_6 dccFn.eq_7 dccFn.eq_8 dccFn.eq_14 dccHfn.eq_1
  answer_ite and_val rangeIter_blank
@[local go_eval] theorem dccPrims_fn (d : DCC) : (dccPrims d).fn = dccFn d := rfl
@[local go_eval] theorem dccPrims_hfn (d : DCC) : (dccPrims d).hfn = dccHfn := rfl

@[simp] theorem dccFn_inCr (d : DCC) (m : Int) (t : List String) :
    dccFn d "self.singletonComponentRegistry.IsSingletonCurrentlyInCreation" [.int m] t = some (.bool (d.inCrOf m.toNat), t) :=
  dccFn.eq_3 d t m
@[simp] theorem dccFn_depsRaw (d : DCC) (m : Nat) (t : List String) :
    dccFn d ".GetDependents" [.ref m 0] t = some (.list (d.depsRaw.map encN), t) := dccFn.eq_9 d t m
@[simp] theorem dccFn_appendAll (d : DCC) (a b : List Val) (t : List String) :
    dccFn d "append..." [.list a, .list b] t = some (.list (a ++ b), t) := dccFn.eq_11 d t a b
@[simp] theorem dccFn_append_nil (d : DCC) (v : Val) (t : List String) :
    dccFn d "append" [.nil, v] t = some (.list [v], t) := dccFn.eq_12 d t v
@[simp] theorem dccFn_append_list (d : DCC) (a : List Val) (v : Val) (t : List String) :
    dccFn d "append" [.list a, v] t = some (.list (a ++ [v]), t) := dccFn.eq_13 d t a v

theorem encAcc_nil : encAcc [] = .nil := rfl
theorem encAcc_cons (a : Nat) (l : List Nat) : encAcc (a :: l) = .list ((a :: l).map encN) := rfl

-- before `lenOf` is unfolded
@[local go_eval ↓] theorem lenOf_encAcc {σ : Type} (P : Prims σ) (acc : List Nat) (w : σ) :
    lenOf P (encAcc acc) w = some (.int acc.length, w) := by cases acc <;> simp [encAcc, lenOf]

def dcLoopBody : List Stmt :=
  match dcInner with
  | .ifs _ _ [_, .range _ _ _ b, _] _ => b
  | _ => []

/-- the loop collects the dependents that are no longer in creation -/
theorem dc_loop (d : DCC) (rest : Env) (t : List String) (l : List Nat) :
    loopM (rangeIter (dccPrims d) "_" "dependent" dcLoopBody) 0 (l.map encN) (("actualDependents", .nil) :: rest) t =
      some (("actualDependents", encAcc (l.filter fun x => !d.inCrOf x)) :: rest, t, .norm) := by
  refine loopM_collect (fun x => !d.inCrOf x) _ rest t ?_ l 0 []
  intro i x acc
  cases hk : d.inCrOf x <;> cases acc <;>
    simp [go_eval, dcLoopBody, dcInner, dcStmt, Progs.fac_doCreateComponent, encAcc, encN, hk]

/-- consistency of the data: when the early reference IS the raw meta (version 0), its dependents are the raw meta's -/
def dccConsistent (d : DCC) : Prop := d.earlyRes = some (some 0) → d.depsEarly = d.depsRaw

theorem dccFn_depsEarly (d : DCC) (hc : dccConsistent d) (e : Nat) (he : d.earlyRes = some (some e)) (m : Nat)
    (t : List String) : dccFn d ".GetDependents" [.ref m e] t = some (.list (d.depsEarly.map encN), t) := by
  cases e with
  | zero => rw [hc he]; rfl
  | succ k => exact dccFn.eq_10 d t m (k + 1) (by omega)

def dcEnv6 (d : DCC) (x : Bool) (ex : Nat) (w : Nat) : Env := dcE6 d.n x (.ref d.n ex) (.ref d.n (1000 + w)) .nil

def dcE9' (d : DCC) (ex w : Nat) (r : Val × Val) : Env :=
  ("err", r.2) :: ("earlySingletonReference", r.1) :: dcEnv6 d true ex w

theorem leave9 (d : DCC) (ex w : Nat) (r : Val × Val) (x : Bool) :
    Env.leave (dcE9' d ex w r) (dcEnv6 d x ex w).length = dcEnv6 d true ex w := by
  simp [Env.leave, dcE9', dcEnv6, dcE6, dcE3, dcE1, dcE0]

/-- doCreateComponent, regenerated: its result and the order of its effectful calls, for every behaviour of its
    collaborators -/
theorem doCreateComponent_sem (d : DCC) (hc : dccConsistent d) :
    run (dccPrims d) Progs.fac_doCreateComponent [.int d.n, .ref d.n 0] [] =
      some (encDecision d.n (createDecision d).1, (createDecision d).2) := by
  have hloop := dc_loop d
  simp only [dcLoopBody, dcInner, dcStmt, Progs.fac_doCreateComponent, List.getD_cons_succ, List.getD_cons_zero] at hloop
  obtain ⟨deps, hdeps⟩ : ∃ deps, d.depsEarly ++ d.depsRaw = deps := ⟨_, rfl⟩
  -- the reconciliation block (factory.go:222-247) is split off and evaluated after the nine statements before it:
  -- left in place it would be carried along, as the continuation, through the evaluation of each of them
  rw [run_eq, ← List.take_append_drop 9 Progs.fac_doCreateComponent.body, evalB_append_next]
  generalize htail : List.drop 9 Progs.fac_doCreateComponent.body = tail
  -- InitializeComponent and GetSingleton answer a tuple chosen by `match`; the exposure flag is tested twice
  cases hx : d.singleton && d.allow && d.inCrOf d.n <;> rcases hi : d.initRes with _ | w <;>
    simp [go_eval, Progs.fac_doCreateComponent, hx, hi, errC] <;> subst htail
  · cases hp : d.populateOk <;> simp [createDecision, hx, hi, hp, encDecision, errC]
  · simp [go_eval, Progs.fac_doCreateComponent, createDecision, hx, hi]
    cases d.populateOk <;> cases d.proxyOk <;> by_cases hw : w = 0 <;> simp [encDecision, hw, errC]
  · cases hp : d.populateOk <;> simp [createDecision, hx, hi, hp, encDecision, errC]
  · -- `filter_eq_nil_iff` would give program and model differently stated conditions
    rcases he : d.earlyRes with _ | _ | e <;>
      simp [go_eval, Progs.fac_doCreateComponent, createDecision, hx, hi, he, errC, dccFn_depsEarly d hc, hloop,
        ← List.map_append, hdeps, -List.filter_eq_nil_iff] <;>
      cases d.populateOk <;> cases d.proxyOk <;> by_cases hw : w = 0 <;>
      simp [encDecision, hw, errC, -List.filter_eq_nil_iff]
    split
    · simp_all
    · split <;> rfl

/-- the result of doCreateComponent without the call trace -/
def createResult (d : DCC) : Option Nat :=
  if !d.populateOk then none else
  match d.initRes with
  | none => none
  | some w =>
    if w ≠ 0 ∧ !d.proxyOk then none else
    if !(d.singleton && d.allow && d.inCrOf d.n) then some w else
    match d.earlyRes with
    | none => none
    | some none => some w
    | some (some e) =>
      if w = 0 then some e
      else if ((d.depsEarly ++ d.depsRaw).filter (fun x => !(d.inCrOf x))).isEmpty then some w
      else none

theorem createDecision_fst (d : DCC) : (createDecision d).1 = createResult d := by
  unfold createDecision createResult
  rcases d.earlyRes with _ | _ | e <;> rcases d.initRes with _ | w <;> simp only [apply_ite Prod.fst]

/-- the calls begin with AddSingletonFactory exactly under early exposure, and populateComponent comes next -/
theorem createDecision_calls (d : DCC) : ∃ rest, (createDecision d).2 =
    (if d.singleton && d.allow && d.inCrOf d.n then ["addFactory"] else []) ++ "populate" :: rest := by
  -- all paths share the beginning of their trace: move it out of the decisions
  have h1 (c : Prop) [Decidable c] (l a b : List String) : (if c then l ++ a else l ++ b) = l ++ if c then a else b := by
    split <;> rfl
  have h2 (c : Prop) [Decidable c] (x : String) (a b : List String) : (if c then x :: a else x :: b) = x :: if c then a else b := by
    split <;> rfl
  unfold createDecision
  rcases d.earlyRes with _ | _ | e <;> rcases d.initRes with _ | w <;>
    simp only [apply_ite Prod.snd, List.append_assoc, List.cons_append, List.nil_append, h1, h2] <;> exact ⟨_, rfl⟩

end Ioc.Sem
