/-
  Semantic theorems for the REGENERATED definition registry (interpretation: Ioc.SemDefReg).
-/
import Ioc.SemDefReg
import IocProofs.Lemmas.GoEval
namespace Ioc.Sem
open Ioc Ioc.Go

section dreg
variable (nameOf : Nat → String) (accept : Nat → Bool)

abbrev DR := dregPrims nameOf accept

def encMetas (l : List Nat) : Val := .list (l.map (fun i => Val.ref i 0))

attribute [local go_eval] dregFn.eq_1 dregFn.eq_2 dregFn.eq_3 dregFn.eq_4 dregFn.eq_5 dregFn.eq_6 dregFn.eq_7
@[local go_eval] theorem DR_fn : (DR nameOf accept).fn = dregFn nameOf accept := rfl
@[local go_eval] theorem DR_hfn (n : String) (k : Handler DRW) (w : DRW) :
    (DR nameOf accept).hfn "self.metaMaps.LoadOrStoreFn" [.str n] k w =
      match lookupE n w.entries with
      | some i => some (.tuple [.ref i 0, .bool true], w)
      | none =>
        match k [] w with
        | some (.ref i 0, w') => some (.tuple [.ref i 0, .bool false], { w' with entries := upsert n i w'.entries })
        | _ => none := rfl
@[local go_eval] theorem DR_hfnE (k : HandlerE DRW) (env : Env) (w : DRW) :
    (DR nameOf accept).hfnE "self.metaMaps.Range" [] k env w = rangeLoopE k w.entries env w := rfl

theorem registerMeta_sem (i : Nat) (w : DRW) :
    run (DR nameOf accept) Progs.dreg_RegisterMeta [.ref i 0] w =
      some (.tuple [], { w with entries := upsert (nameOf i) i w.entries }) := by
  simp [go_eval, Progs.dreg_RegisterMeta]

theorem getMetaByName_sem (n : String) (w : DRW) :
    run (DR nameOf accept) Progs.dreg_GetMetaByName [.str n] w =
      some (match lookupE n w.entries with | some i => .ref i 0 | none => .nil, w) := by
  cases h : lookupE n w.entries <;> simp [go_eval, Progs.dreg_GetMetaByName, h]

theorem getMetaOrRegister_sem (n : String) (c : Nat) (w : DRW) :
    run (DR nameOf accept) Progs.dreg_GetMetaOrRegister [.str n, .ref c 50] w =
      some (match lookupE n w.entries with
            | some i => (.ref i 0, w)
            | none => (.ref c 0, { entries := upsert n c w.entries, named := w.named ++ [(c, n)] })) := by
  cases h : lookupE n w.entries <;> simp [go_eval, Progs.dreg_GetMetaOrRegister, litHandler, h]

def gmClosure : List String × List Stmt :=
  match Progs.dreg_GetMetas.body with
  | [_, .hcallS _ _ _ ps b, _] => (ps, b)
  | _ => ([], [])
theorem gm_shape : Progs.dreg_GetMetas.body =
    [.define ["metas"] (.sliceLit []), .hcallS [] "self.metaMaps.Range" [] gmClosure.1 gmClosure.2, .ret [.var "metas"]] := rfl
theorem gm_params : Progs.dreg_GetMetas.params = ["opts"] := rfl

theorem rangeLoopE_gm (opts : Val) (k : HandlerE DRW)
    (hk : ∀ acc n i w, k [.str n, .ref i 0] [("metas", encMetas acc), ("opts", opts)] w =
      some (.bool true, [("metas", encMetas (if accept i then acc ++ [i] else acc)), ("opts", opts)], w)) :
    ∀ (es : List (String × Nat)) (acc : List Nat) (w : DRW),
      rangeLoopE k es [("metas", encMetas acc), ("opts", opts)] w =
        some (.tuple [], [("metas", encMetas (acc ++ (es.filter (fun e => accept e.2)).map (·.2))), ("opts", opts)], w) := by
  intro es
  induction es with
  | nil => intro acc w; simp [rangeLoopE]
  | cons e rest ih =>
    intro acc w
    cases ha : accept e.2 <;> simp [rangeLoopE, hk, ih, ha]

/-- GetMetas, regenerated (the literal handed to Range appends to the CAPTURED `metas`): the definitions the options accept,
    in the order in which the map enumerates them — nothing else decides the order of the candidates of an injection point -/
theorem getMetas_sem (opts : Val) (w : DRW) :
    run (DR nameOf accept) Progs.dreg_GetMetas [opts] w =
      some (encMetas ((w.entries.filter (fun e => accept e.2)).map (·.2)), w) := by
  -- the literal on one entry: `true` (go on), and the definition is appended to `metas` exactly when the options accept it
  have hloop := rangeLoopE_gm accept opts (litHandlerE (DR nameOf accept) gmClosure.1 gmClosure.2) (by
    intro acc n i w
    simp [go_eval, litHandlerE, gmClosure, Progs.dreg_GetMetas, encMetas]
    split <;> simp) w.entries [] w
  simp only [gmClosure, Progs.dreg_GetMetas, encMetas, List.map_nil] at hloop
  simp [go_eval, Progs.dreg_GetMetas, encMetas, hloop]

end dreg

theorem lookupE_cons (k a : String) (b : Nat) (l : List (String × Nat)) :
    lookupE k ((a, b) :: l) = if a = k then some b else lookupE k l := by
  by_cases h : a = k <;> simp [lookupE, h]

theorem lookupE_upsert (k k' : String) (v : Nat) (l : List (String × Nat)) :
    lookupE k' (upsert k v l) = if k = k' then some v else lookupE k' l := by
  induction l with
  | nil => rw [upsert, lookupE_cons]
  | cons e rest ih =>
    obtain ⟨a, b⟩ := e
    by_cases h : a = k
    · subst h; by_cases h' : a = k' <;> simp [upsert, lookupE_cons, h']
    · simp only [upsert, h, if_false, lookupE_cons, ih]
      by_cases h' : a = k' <;> simp [h']
      exact fun hk => absurd (hk ▸ h') h

end Ioc.Sem
