/-
  The regenerated programs of the delegate that walk `componentPostProcessors` outside the initialization path compute M4's
  loops: ResolveAfterInstantiation = Order.twoStepLoop over the InstantiationAware processors, GetEarlyBeanReference =
  Order.getEarlyBeanReference, InvokeBeanFactoryPostProcessors = Order.registerLoop over the sorted raw processors.
-/
import Ioc.SemDelegate
import IocProofs.Lemmas.GoEval
namespace Ioc.Sem
open Ioc Ioc.Go Ioc.Order

attribute [local go_eval] raiFn.eq_1 raiFn.eq_2 raiFn.eq_3 raiFn.eq_4 raiFn.eq_5 raiFn.eq_6 raiFn.eq_7
  dgebFn.eq_1 dgebFn.eq_2 dgebFn.eq_3 dgebFn.eq_4 dgebFn.eq_5
  regFn.eq_1 regFn.eq_2 regFn.eq_3 regFn.eq_4 regFn.eq_5 regFn.eq_6 regFn.eq_7 regFn.eq_8 regFn.eq_9 regFn.eq_10 regFn.eq_11
  regFn.eq_12 regFn.eq_13 regFn.eq_14

section rai
variable (procs : List Nat) (isInst : Nat → Bool) (res : Nat → Step) (errOk : Nat → Bool)

@[local go_eval] theorem raiPrims_fn : (raiPrims procs isInst res errOk).fn = raiFn procs isInst res errOk := rfl

def raiStep (p : Nat) (_ : Unit) (w : List (Ev Nat)) : Unit × List (Ev Nat) × Option Val :=
  if isInst p then ((), w ++ (res p).evs p, if (res p).stops then some errN else none) else ((), w, none)

theorem raiStep_loop (ps : List Nat) (w : List (Ev Nat)) :
    stepLoop (raiStep isInst res) ps () w =
      ((), (twoStepLoop res (ps.filter isInst) w).1, if (twoStepLoop res (ps.filter isInst) w).2 then some errN else none) := by
  induction ps generalizing w with
  | nil => simp [stepLoop, twoStepLoop]
  | cons p rest ih =>
    simp only [stepLoop, raiStep, List.filter_cons]
    cases hi : isInst p with
    | false => simp [ih]
    | true =>
      simp only [if_true, twoStepLoop]
      obtain hr | hr | ⟨b, hr⟩ : res p = .err ∨ res p = .skip ∨ ∃ b, res p = .next b := by
        cases res p <;> simp
      · simp [hr, Step.stops, Step.evs]
      · simp [hr, Step.stops, Step.evs, ih]
      · cases b <;> simp [hr, Step.stops, Step.evs, ih]

def raiBody : List Stmt :=
  match Progs.del_ResolveAfterInstantiation.body with
  | [.range _ _ _ b, _] => b
  | _ => []
theorem rai_shape : Progs.del_ResolveAfterInstantiation.body =
    [.range "_" "processor" (.glob "self.componentPostProcessors") raiBody, .ret [.nil]] := rfl
theorem rai_params : Progs.del_ResolveAfterInstantiation.params = ["meta", "name"] := rfl

/-- ResolveAfterInstantiation, regenerated: the two-step loop over the InstantiationAware processors, in list order -/
theorem resolveAfterInstantiation_sem (w : List (Ev Nat)) :
    run (raiPrims procs isInst res errOk) Progs.del_ResolveAfterInstantiation [.str "meta", .str "n"] w =
      some (if (twoStepLoop res (procs.filter isInst) w).2 then errN else .nil, (twoStepLoop res (procs.filter isInst) w).1) := by
  have hloop := loopM_state encP (rangeIter (raiPrims procs isInst res errOk) "_" "processor" raiBody)
    (fun _ : Unit => [("meta", .str "meta"), ("name", .str "n")]) (raiStep isInst res) (by
      intro i p _ w
      -- what the two callbacks hand back depends on `res p`
      rcases hr : res p with _ | _ | ⟨_ | _⟩ <;>
        simp [go_eval, rangeIter_blank, raiBody, Progs.del_ResolveAfterInstantiation, encP, raiStep, hr, ctlOf, Step.evs,
          Step.stops, errN] <;>
        cases isInst p <;> rfl) procs 0 ()
  simp only [raiBody, Progs.del_ResolveAfterInstantiation] at hloop
  simp [go_eval, Progs.del_ResolveAfterInstantiation, hloop, raiStep_loop]
  cases (twoStepLoop res (procs.filter isInst) w).2 <;> rfl

end rai

section geb
variable (procs : List Nat) (hasInst : Bool) (isSmart : Nat → Bool) (get : Nat → Nat → Option Nat)

@[local go_eval] theorem dgebPrims_fn : (dgebPrims procs hasInst isSmart get).fn = dgebFn procs hasInst isSmart get := rfl

/-- state: the current `exposedComponent` (`none` once a callback failed: the code assigns the nil it got) -/
def gebStep (p : Nat) (cur : Option Nat) (w : List Nat) : Option Nat × List Nat × Option Val :=
  match cur with
  | none => (none, w, none)
  | some c =>
    if isSmart p then
      match get p c with
      | none => (none, w ++ [p], some (.tuple [.nil, errN]))
      | some c' => (some c', w ++ [p], none)
    else (some c, w, none)

theorem gebStep_loop (ps : List Nat) (c : Nat) (w : List Nat) :
    stepLoop (gebStep isSmart get) ps (some c) w =
      ((earlyRefLoop isSmart get ps c w).2, (earlyRefLoop isSmart get ps c w).1,
        match (earlyRefLoop isSmart get ps c w).2 with
        | none => some (.tuple [.nil, errN])
        | some _ => none) := by
  induction ps generalizing c w with
  | nil => simp [stepLoop, earlyRefLoop]
  | cons p rest ih =>
    simp only [stepLoop, gebStep, earlyRefLoop]
    cases hs : isSmart p with
    | false => simp [ih]
    | true =>
      simp only [if_true]
      cases hg : get p c with
      | none => simp
      | some c' => simp [ih]

def gebBody : List Stmt :=
  match Progs.del_GetEarlyBeanReference.body with
  | [_, _, .ifs _ _ [.range _ _ _ b] _, _] => b
  | _ => []
theorem geb_shape : Progs.del_GetEarlyBeanReference.body =
    [.define ["exposedComponent"] (.var "m"), .define ["err"] .nil,
     .ifs [] (.glob "self.hasInstantiationAwareComponentPostProcessor")
       [.range "_" "processor" (.glob "self.componentPostProcessors") gebBody] [],
     .ret [.var "exposedComponent", .nil]] := rfl
theorem geb_params : Progs.del_GetEarlyBeanReference.params = ["name", "m"] := rfl

def encO : Option Nat → Val
  | none => .nil
  | some c => encC c

def envGEB (c0 : Nat) : Option Nat → Env
  | none => [("err", errN), ("exposedComponent", .nil), ("name", .str "n"), ("m", encC c0)]
  | some c => [("err", .nil), ("exposedComponent", encC c), ("name", .str "n"), ("m", encC c0)]

theorem gebStep_inv (p : Nat) (t : Option Nat) (w : List Nat) (ht : t.isSome) (h : (gebStep isSmart get p t w).2.2 = none) :
    (gebStep isSmart get p t w).1.isSome := by
  cases t with
  | none => simp at ht
  | some c =>
    simp only [gebStep] at h ⊢
    cases hs : isSmart p with
    | false => simp
    | true =>
      simp only [hs, if_true] at h ⊢
      cases hg : get p c with
      | none => simp [hg] at h
      | some c' => simp

def encEarlyD : Option Nat → Val
  | none => .tuple [.nil, errN]
  | some c => .tuple [encC c, .nil]

/-- GetEarlyBeanReference of the delegate, regenerated: `Order.getEarlyBeanReference` -/
theorem delegateEarlyRef_sem (c : Nat) :
    run (dgebPrims procs hasInst isSmart get) Progs.del_GetEarlyBeanReference [.str "n", encC c] [] =
      some (encEarlyD (getEarlyBeanReference hasInst isSmart get procs c).2, (getEarlyBeanReference hasInst isSmart get procs c).1) := by
  have hloop := loopM_state_inv encP (rangeIter (dgebPrims procs hasInst isSmart get) "_" "processor" gebBody)
    (envGEB c) (gebStep isSmart get) (fun t => t.isSome = true) (by
      intro i p t w ht
      obtain ⟨c', rfl⟩ := Option.isSome_iff_exists.mp ht
      cases hg : get p c' <;>
        simp [go_eval, rangeIter_blank, gebBody, Progs.del_GetEarlyBeanReference, envGEB, encP, encC, gebStep, hg, ctlOf, errN] <;>
        cases isSmart p <;> rfl)
    (fun x t w' ht h => gebStep_inv isSmart get x t w' ht h) procs 0 (some c) [] rfl
  simp only [gebBody, Progs.del_GetEarlyBeanReference, envGEB] at hloop
  simp [go_eval, Progs.del_GetEarlyBeanReference, hloop, gebStep_loop, getEarlyBeanReference]
  cases hasInst <;> simp [encEarlyD]
  cases (earlyRefLoop isSmart get procs c []).2 <;> simp [go_eval]

end geb

section reg
variable (fpFails : Nat → Bool) (drFails : Bool) (sorted : List Nat) (lazy : Nat → Bool) (getc : Nat → Option Nat) (isCPP : Nat → Bool)

@[local go_eval] theorem regPrims'_fn :
    (regPrims' fpFails drFails sorted lazy getc isCPP).fn = regFn fpFails drFails sorted lazy getc isCPP := rfl

def fpStep (p : Nat) (_ : Unit) (w : RegW) : Unit × RegW × Option Val :=
  ((), { w with fcalls := w.fcalls ++ [p] }, if fpFails p then some errN else none)

theorem fpStep_loop (ps : List Nat) (w : RegW) :
    stepLoop (fpStep fpFails) ps () w =
      ((), { w with fcalls := (runLoop fpFails ps w.fcalls).1 }, if (runLoop fpFails ps w.fcalls).2 then some errN else none) := by
  induction ps generalizing w with
  | nil => simp [stepLoop, runLoop]
  | cons p rest ih =>
    by_cases hf : fpFails p = true
    · simp [stepLoop, fpStep, runLoop, hf]
    · simp [stepLoop, fpStep, runLoop, hf, ih]

def regStep (p : Nat) (_ : Unit) (w : RegW) : Unit × RegW × Option Val :=
  if lazy p then ((), { w with cpp := w.cpp ++ [encP p] }, none) else
    match getc p with
    | none => ((), { w with gets := w.gets ++ [p] }, some errN)
    | some q => ((), { w with gets := w.gets ++ [p], cpp := w.cpp ++ [encP (if isCPP q then q else p)] }, none)

/-- which processors GetComponentByName is asked for: the non-lazy ones, up to the first failure -/
def getsLoop : List Nat → List Nat
  | [] => []
  | p :: rest => if lazy p then getsLoop rest else
      match getc p with
      | none => [p]
      | some _ => p :: getsLoop rest

theorem regStep_loop (ps : List Nat) (w : RegW) (cpp0 : List Nat) (hw : w.cpp = cpp0.map encP) :
    stepLoop (regStep lazy getc isCPP) ps () w =
      ((), { w with gets := w.gets ++ getsLoop lazy getc ps,
                    cpp := (registerLoop (resolveOf lazy getc isCPP) ps cpp0).1.map encP },
        if (registerLoop (resolveOf lazy getc isCPP) ps cpp0).2 then some errN else none) := by
  induction ps generalizing w cpp0 with
  | nil => simp [stepLoop, registerLoop, getsLoop, ← hw]
  | cons p rest ih =>
    by_cases hl : lazy p = true
    · simp only [stepLoop, regStep, registerLoop, resolveOf, getsLoop, hl, if_true]
      rw [ih _ (cpp0 ++ [p]) (by simp [hw])]
    · obtain hg | ⟨q, hg⟩ : getc p = none ∨ ∃ q, getc p = some q := by cases getc p <;> simp
      · simp [stepLoop, regStep, registerLoop, resolveOf, getsLoop, hl, hg, hw]
      · simp only [stepLoop, regStep, registerLoop, resolveOf, getsLoop, hl, hg, if_false, Bool.false_eq_true]
        rw [ih _ (cpp0 ++ [if isCPP q then q else p]) (by simp [hw])]
        simp [List.append_assoc]


def ibStmt (i : Nat) : Stmt := Progs.del_InvokeBeanFactoryPostProcessors.body.getD i .brk
theorem ib_body : Progs.del_InvokeBeanFactoryPostProcessors.body =
    [ibStmt 0, ibStmt 1, ibStmt 2, ibStmt 3, ibStmt 4, ibStmt 5, ibStmt 6] := rfl
theorem ib_params : Progs.del_InvokeBeanFactoryPostProcessors.params = ["factory", "factoryProcessors"] := rfl

def ibBody1 : List Stmt := match Progs.del_InvokeBeanFactoryPostProcessors.body with | .range _ _ _ b :: _ => b | _ => []
def ibBody2 : List Stmt :=
  match Progs.del_InvokeBeanFactoryPostProcessors.body with | [_, _, _, _, .range _ _ _ b, _, _] => b | _ => []

abbrev RP := regPrims' fpFails drFails sorted lazy getc isCPP

def invokeModel (fprocs raw cpp0 : List Nat) : Val × RegW :=
  let fl := runLoop fpFails fprocs []
  if fl.2 then (errN, { fcalls := fl.1, raw := .list (raw.map encP), cpp := cpp0.map encP })
  else if drFails then (errN, { fcalls := fl.1, defReg := true, raw := .list (raw.map encP), cpp := cpp0.map encP })
  else
    let r := registerLoop (resolveOf lazy getc isCPP) sorted cpp0
    (if r.2 then errN else .nil,
     { fcalls := fl.1, defReg := true, raw := if r.2 then .list (sorted.map encP) else .nil, cpp := r.1.map encP,
       gets := getsLoop lazy getc sorted })

/-- InvokeBeanFactoryPostProcessors, regenerated: every factory post-processor in the order given (first error ends it), the
    definition-registry processors, then the raw component post-processors are SORTED and registered in that order
    (`Order.registerLoop` = `Order.invokeRegister` with the sort's result): a non-lazy one is first created through the factory
    and the created instance is what gets registered -/
theorem invokeBeanFactoryPostProcessors_sem (fprocs raw cpp0 : List Nat) :
    run (RP fpFails drFails sorted lazy getc isCPP) Progs.del_InvokeBeanFactoryPostProcessors
        [.str "factory", .list (fprocs.map encP)] { raw := .list (raw.map encP), cpp := cpp0.map encP } =
      some (invokeModel fpFails drFails sorted lazy getc isCPP fprocs raw cpp0) := by
  have hl1 := loopM_state encP (rangeIter (RP fpFails drFails sorted lazy getc isCPP) "_" "processor" ibBody1)
    (fun _ : Unit => [("factory", .str "factory"), ("factoryProcessors", .list (fprocs.map encP))]) (fpStep fpFails) (by
      intro i p _ w
      simp [go_eval, rangeIter_blank, ibBody1, Progs.del_InvokeBeanFactoryPostProcessors, encP, fpStep, ctlOf, errN]
      cases fpFails p <;> rfl) fprocs 0 ()
  have hl2 (v : Val) := loopM_state encP (rangeIter (RP fpFails drFails sorted lazy getc isCPP) "_" "processor" ibBody2)
    (fun _ : Unit => [("err", v), ("factory", .str "factory"), ("factoryProcessors", .list (fprocs.map encP))])
    (regStep lazy getc isCPP) (by
      intro i p _ w
      rcases hg : getc p with _ | q <;>
        simp [go_eval, rangeIter_blank, ibBody2, Progs.del_InvokeBeanFactoryPostProcessors, encP, regStep, hg, ctlOf, errN]
      · cases lazy p <;> rfl
      · cases lazy p <;> cases isCPP q <;> rfl) sorted 0 ()
  have hr (w : RegW) := regStep_loop lazy getc isCPP sorted w cpp0
  simp only [ibBody1, ibBody2, Progs.del_InvokeBeanFactoryPostProcessors] at hl1 hl2
  simp [go_eval, Progs.del_InvokeBeanFactoryPostProcessors, hl1, hl2, fpStep_loop, hr, invokeModel, errN]
  cases (runLoop fpFails fprocs []).2 <;> cases drFails <;> cases (registerLoop (resolveOf lazy getc isCPP) sorted cpp0).2 <;>
    simp [go_eval]

end reg
end Ioc.Sem
