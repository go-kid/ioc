/-
  The regenerated candidate-discovery programs compute M3's candidate lists:
  dependencyAwarePostProcessors.PostProcessProperties = `Match.candidatesWire`, dependencyFunctionAwarePostProcessors… =
  `Match.candidatesFunc`, appended to each node's `Injects`; the helper isActualKind is regenerated and proved too.
-/
import Ioc.SemDiscover
import IocProofs.Lemmas.GoEval

namespace Ioc.Sem
open Ioc Ioc.Go Ioc.Match

def isaFn : String → List Val → Unit → Option (Val × Unit)
  | "$reflect.Slice", [], w => some (.str "slice", w)
  | ".Kind", [.ref _ k], w => some (.str (kindName k), w)
  | ".Elem", [.ref t 82], w => some (.ref t 80, w)
  | ".Elem", [.ref i 83], w => some (.ref i 81, w)
  | _, _, _ => none
def isaPrims : Prims Unit := { fn := isaFn }

def isActualModel (k : Kind) (want : String) : Val × Bool :=
  match k, want with
  | .ptr t, "ptr" => (.ref t 80, true)
  | .slicePtr t, "ptr" => (.ref t 80, true)
  | .iface i, "iface" => (.ref i 81, true)
  | .sliceIface i, "iface" => (.ref i 81, true)
  | _, _ => (.nil, false)

attribute [local go_eval] isaFn.eq_1 isaFn.eq_2 isaFn.eq_3 isaFn.eq_4
@[local go_eval] theorem isaPrims_fn : isaPrims.fn = isaFn := rfl

theorem isActualKind_sem (k : Kind) (ptr : Bool) :
    run isaPrims Progs.isActualKind [encKind k, .str (if ptr then "ptr" else "iface")] () =
      some (.tuple [(isActualModel k (if ptr then "ptr" else "iface")).1, .bool (isActualModel k (if ptr then "ptr" else "iface")).2], ()) := by
  generalize hw : (if ptr then "ptr" else "iface") = want
  cases k <;> simp [go_eval, Progs.isActualKind, encKind, kindName] <;> subst hw <;> cases ptr <;> simp [isActualModel]

/-- the helper as the discovery programs call it -/
def callIsActual (t k : Val) : Option Val := (run isaPrims Progs.isActualKind [t, k] ()).map (·.1)

/-- the component type or interface a kind refers to -/
def tyId : Kind → Nat
  | .ptr t => t | .slicePtr t => t | .iface i => i | .sliceIface i => i | .other => 0

/-! The helper's answer for a variable kind, as a decision between its two shapes: a loop body is then evaluated once for
    all kinds, and in each branch `container.Type` / `container.InterfaceType` meet a value of the shape they expect. -/
theorem callIsActual_ptr (k : Kind) : callIsActual (encKind k) (.str "ptr") =
    some (if (isActualModel k "ptr").2 then .tuple [.ref (tyId k) 80, .bool true] else .tuple [.nil, .bool false]) := by
  have := isActualKind_sem k true
  simp only [if_true] at this
  rw [callIsActual, this]
  cases k <;> rfl

theorem callIsActual_iface (k : Kind) : callIsActual (encKind k) (.str "iface") =
    some (if (isActualModel k "iface").2 then .tuple [.ref (tyId k) 81, .bool true] else .tuple [.nil, .bool false]) := by
  have := isActualKind_sem k false
  simp only [Bool.false_eq_true, if_false] at this
  rw [callIsActual, this]
  cases k <;> rfl

def kindOf : Kind → String
  | .ptr _ => "ptr" | .iface _ => "iface" | .other => "other" | _ => "slice"

theorem discFn_Kind_enc (pop : List Prov) (props : List DProp) (bn : String → Option Nat) (fr : String → Nat → Prov → Bool)
    (fnm : String → Prov → Bool) (isa : Val → Val → Option Val) (k : Kind) (w : DW) :
    discFn pop props bn fr fnm isa ".Kind" [encKind k] w = some (.str (kindOf k), w) := by
  cases k <;> simp [encKind, discFn_Kind, kindName, kindOf]

theorem discFn_Find_dec (pop : List Prov) (props : List DProp) (bn : String → Option Nat) (fr : String → Nat → Prov → Bool)
    (fnm : String → Prov → Bool) (isa : Val → Val → Option Val) (i : Nat) (w : DW) :
    discFn pop props bn fr fnm isa ".Find" [.ref i 22, .str "returns"] w =
      some (if (propAt props i).returns.isSome
            then .tuple [.list (((propAt props i).returns.getD []).map fun (r : Nat) => Val.int r), .bool true]
            else .tuple [.nil, .bool false], w) := by
  rw [discFn_Find]; cases (propAt props i).returns <;> rfl

attribute [local go_eval] discFn_injectTag discFn_funcTag discFn_rPointer discFn_rPtr discFn_rInterface discFn_Tag discFn_TagVal
  discFn_Type discFn_Kind_enc discFn_isActual discFn_cType discFn_cIface discFn_cFuncName discFn_cFuncRes discFn_cOr discFn_cOrNil
  discFn_getMetas1 discFn_getMetas2 discFn_byName discFn_Args discFn_Find_dec discFn_Injects discFn_setInjects discFn_append
  discFn_appendNil discFn_appendSpread callIsActual_ptr callIsActual_iface

section wire
variable (pop : List Prov) (props : List DProp) (byName : String → Option Nat)

abbrev DP := ({ fn := discFn pop props byName (fun _ _ _ => false) (fun _ _ => false) callIsActual } : Prims DW)

/-- what the wire processor discovers for one property node -/
def discoverWire (p : DProp) : List (Option Nat) :=
  if p.tag != "wire" then [] else
  if p.tagVal == "" then
    match typeOption p.kind with
    | some f => (pop.filter f).map (fun q => some q.id)
    | none => []
  else
    match p.kind with
    | .ptr _ => [byName p.tagVal]
    | .iface _ => [byName p.tagVal]
    | _ => []

def wireStep (i : Nat) (_ : Unit) (w : DW) : Unit × DW × Option Val :=
  ((), w.set i (w.getD i [] ++ discoverWire pop byName (propAt props i)), none)

theorem set_getD_self (w : DW) (i : Nat) : w.set i (w[i]?.getD []) = w := by
  induction w generalizing i with
  | nil => simp
  | cons a t ih =>
    cases i with
    | zero => simp
    | succ i => simpa using ih i

theorem decInj_append (a b : List Val) : decInj (a ++ b) = decInj a ++ decInj b := by simp [decInj]

def dwBody : List Stmt := match Progs.depAware_PostProcessProperties.body with | [.range _ _ _ b, _] => b | _ => []
theorem dw_shape : Progs.depAware_PostProcessProperties.body =
    [.range "_" "prop" (.var "properties") dwBody, .ret [.nil, .nil]] := rfl
theorem dw_params : Progs.depAware_PostProcessProperties.params = ["properties", "component", "componentName"] := rfl

def envDW (n : Nat) : Env :=
  [("properties", .list ((List.range' 0 n).map (fun i => Val.ref i 20))), ("component", .str "c"), ("componentName", .str "n")]

theorem decInj_enc (l : List (Option Nat)) : decInj (l.map encMetaD) = l := by
  induction l with
  | nil => rfl
  | cons a t ih =>
    simp only [decInj, List.map_cons, List.map_map] at ih ⊢
    rw [ih]
    cases a <;> rfl

theorem decInj_ids (l : List Prov) : decInj (l.map (fun p => Val.ref p.id 0)) = l.map (fun q => some q.id) := by
  simp [decInj, decMetaD]

theorem dw_iter (n i k : Nat) (w : DW) :
    settle (rangeIter (DP pop props byName) "_" "prop" dwBody i (.ref k 20) (envDW n) w) =
      some (envDW n, (wireStep pop props byName k () w).2.1, ctlOf (wireStep pop props byName k () w).2.2) := by
  simp [go_eval, store_as "Injects" ".set:Injects" rfl, rangeIter, dwBody, Progs.depAware_PostProcessProperties, envDW, typeMeaning, encInj]
  unfold wireStep discoverWire
  have hd : decInj [encMetaD (byName (propAt props k).tagVal)] = [byName (propAt props k).tagVal] := decInj_enc [_]
  by_cases ht : (propAt props k).tag = "wire"
  · by_cases he : (propAt props k).tagVal = "" <;> cases (propAt props k).kind <;>
      simp [ht, he, isActualModel, kindOf, tyId, typeOption, ctlOf, decInj_append, decInj_enc, decInj_ids, set_getD_self, hd]
  · simp [ht, ctlOf, set_getD_self]

/-- the effect of a discovery pass on the `Injects` lists: node i gets `disc i` appended -/
def applyDisc (disc : Nat → List (Option Nat)) : List Nat → DW → DW
  | [], w => w
  | i :: rest, w => applyDisc disc rest (w.set i (w.getD i [] ++ disc i))

theorem wireStep_loop (is : List Nat) (w : DW) :
    stepLoop (wireStep pop props byName) is () w =
      ((), applyDisc (fun i => discoverWire pop byName (propAt props i)) is w, none) := by
  induction is generalizing w with
  | nil => simp [stepLoop, applyDisc]
  | cons i rest ih => simp [stepLoop, wireStep, applyDisc, ih]

theorem applyDisc_length (disc : Nat → List (Option Nat)) (is : List Nat) (w : DW) : (applyDisc disc is w).length = w.length := by
  induction is generalizing w with
  | nil => rfl
  | cons i rest ih => simp [applyDisc, ih]

theorem applyDisc_notin (disc : Nat → List (Option Nat)) (is : List Nat) (w : DW) (j : Nat) (hj : j ∉ is) :
    (applyDisc disc is w).getD j [] = w.getD j [] := by
  induction is generalizing w with
  | nil => rfl
  | cons i rest ih =>
    have hne : i ≠ j := fun h => hj (by simp [h])
    have hr : j ∉ rest := fun h => hj (by simp [h])
    simp only [applyDisc]
    rw [ih _ hr]
    simp [List.getD_eq_getElem?_getD, hne]

theorem applyDisc_in (disc : Nat → List (Option Nat)) (is : List Nat) (w : DW) (j : Nat) (hn : is.Nodup) (hj : j ∈ is)
    (hl : j < w.length) : (applyDisc disc is w).getD j [] = w.getD j [] ++ disc j := by
  induction is generalizing w with
  | nil => simp at hj
  | cons i rest ih =>
    simp only [applyDisc]
    have hn' := (List.nodup_cons.mp hn)
    by_cases hij : i = j
    · subst hij
      rw [applyDisc_notin _ _ _ _ hn'.1]
      simp [List.getD_eq_getElem?_getD, hl]
    · have hjr : j ∈ rest := by
        rcases List.mem_cons.mp hj with h | h
        · exact absurd h.symm hij
        · exact h
      rw [ih _ hn'.2 hjr (by simpa using hl)]
      simp [List.getD_eq_getElem?_getD, hij]

/-- dependencyAwarePostProcessors.PostProcessProperties, regenerated: every property node, in order, gets what
    `discoverWire` finds APPENDED to its `Injects`; nothing else changes; the result is (nil, nil) -/
theorem depAware_sem (n : Nat) (w : DW) :
    run (DP pop props byName) Progs.depAware_PostProcessProperties
        [.list ((List.range' 0 n).map (fun i => Val.ref i 20)), .str "c", .str "n"] w =
      some (.tuple [.nil, .nil], applyDisc (fun i => discoverWire pop byName (propAt props i)) (List.range' 0 n) w) := by
  have hloop := loopM_rounds (fun i => Val.ref i 20) (rangeIter (DP pop props byName) "_" "prop" dwBody) (fun _ : Unit => envDW n)
    (wireStep pop props byName) (fun i k _ w => dw_iter pop props byName n i k w)
    (List.range' 0 n) 0 () w
  rw [wireStep_loop] at hloop
  simp only [envDW, dwBody, Progs.depAware_PostProcessProperties] at hloop
  simp [go_eval, Progs.depAware_PostProcessProperties, hloop, ctlOf]

/-- … and `discoverWire` is M3's `candidatesWire` when the tag text and the registry's by-name answer are those of the model -/
theorem discoverWire_is_candidatesWire (p : DProp) (tv : Bytes) (hw : p.tag = "wire")
    (htv : tv.isEmpty = (p.tagVal == ""))
    (hbn : byName p.tagVal = (pop.find? (fun q => q.name == tv)).map (·.id)) :
    discoverWire pop byName p = candidatesWire pop p.kind tv := by
  unfold discoverWire candidatesWire
  simp only [hw, bne_self_eq_false, Bool.false_eq_true, if_false, hbn]
  by_cases he : p.tagVal = ""
  · have h1 : tv.isEmpty = true := by rw [htv]; simp [he]
    simp only [he, h1, beq_self_eq_true, if_true]
    cases typeOption p.kind <;> rfl
  · have h0 : (p.tagVal == "") = false := by simpa using he
    have h1 : tv.isEmpty = false := by rw [htv]; exact h0
    simp only [h0, h1, Bool.false_eq_true, if_false]
    cases p.kind <;> rfl

end wire

section func
variable (pop : List Prov) (props : List DProp) (funcRes : String → Nat → Prov → Bool) (funcName : String → Prov → Bool)

abbrev DF := ({ fn := discFn pop props (fun _ => none) funcRes funcName callIsActual } : Prims DW)

/-- what the func processor discovers for one property node -/
def discoverFunc (p : DProp) : List (Option Nat) :=
  if p.tag != "func" then [] else
  match typeOption p.kind with
  | none => []
  | some f =>
    let g : Prov → Bool :=
      match p.returns with
      | some rs => fun q => rs.any (fun r => funcRes p.tagVal r q)
      | none => funcName p.tagVal
    (pop.filter (fun q => f q && g q)).map (fun q => some q.id)

def resTok (s : String) (r : Nat) : Val := .tuple [.str "funcRes", .str s, .int r]

theorem orMeaning_tokens (s : String) (rs : List Nat) :
    orMeaning funcRes (rs.map (resTok s)) = some (fun p => rs.any (fun r => funcRes s r p)) := by
  induction rs with
  | nil => rfl
  | cons r rest ih => simp [orMeaning, resTok, ih, List.any_cons]

def funcStep (i : Nat) (_ : Unit) (w : DW) : Unit × DW × Option Val :=
  ((), w.set i (w.getD i [] ++ discoverFunc pop funcRes funcName (propAt props i)), none)

def dfBody : List Stmt := match Progs.depFunc_PostProcessProperties.body with | [.range _ _ _ b, _] => b | _ => []
theorem df_shape : Progs.depFunc_PostProcessProperties.body =
    [.range "_" "prop" (.var "properties") dfBody, .ret [.nil, .nil]] := rfl
theorem df_params : Progs.depFunc_PostProcessProperties.params = ["properties", "component", "componentName"] := rfl

/-- the body of the loop over the `returns` alternatives -/
def dfArgBody : List Stmt := match dfBody with | [_, _, _, _, .ifs _ _ [_, .range _ _ _ b, _] _, _, _] => b | _ => []

/-- the `options` slice after the alternatives `acc` -/
def encOpts (s : String) (acc : List Nat) : Val := if acc.isEmpty then .nil else .list (acc.map (resTok s))

/-- environment inside the `returns` branch -/
def envR (n k : Nat) (t : Val) (rs : List Nat) (s : String) (acc : List Nat) : Env :=
  [("options", encOpts s acc), ("ok", .bool true), ("args", .list (rs.map (fun (r : Nat) => Val.int r))), ("funcOption", .nil),
    ("typeOption", t), ("prop", .ref k 20)] ++ envDW n

def optStep (r : Nat) (acc : List Nat) (w : DW) : List Nat × DW × Option Val := (acc ++ [r], w, none)

theorem optStep_loop (rs acc : List Nat) (w : DW) : stepLoop optStep rs acc w = (acc ++ rs, w, none) := by
  induction rs generalizing acc with
  | nil => simp [stepLoop]
  | cons r rest ih => simp [stepLoop, optStep, ih]

/-! the primitives on the values this program hands them -/
theorem discFn_append_opts (s : String) (acc : List Nat) (r : Nat) (w : DW) :
    discFn pop props (fun _ => none) funcRes funcName callIsActual "append" [encOpts s acc, .tuple [.str "funcRes", .str s, .int r]] w =
      some (encOpts s (acc ++ [r]), w) := by
  cases acc <;> simp [encOpts, discFn_append, discFn_appendNil, resTok]

theorem discFn_cOr_opts (s : String) (rs : List Nat) (w : DW) :
    discFn pop props (fun _ => none) funcRes funcName callIsActual "container.Or" [encOpts s rs] w =
      some (.tuple [.str "or", .list (rs.map (resTok s))], w) := by
  cases rs <;> simp [encOpts, discFn_cOr, discFn_cOrNil]

attribute [local go_eval] discFn_append_opts discFn_cOr_opts

theorem df_argIter (n k i r : Nat) (t : Val) (rs acc : List Nat) (w : DW) :
    settle (rangeIter (DF pop props funcRes funcName) "_" "arg" dfArgBody i (.int r) (envR n k t rs (propAt props k).tagVal acc) w) =
      some (envR n k t rs (propAt props k).tagVal (optStep r acc w).1, (optStep r acc w).2.1, ctlOf (optStep r acc w).2.2) := by
  simp [go_eval, rangeIter, dfArgBody, dfBody, Progs.depFunc_PostProcessProperties, envR, envDW,
    optStep, ctlOf]

theorem df_iter (n i k : Nat) (w : DW) :
    settle (rangeIter (DF pop props funcRes funcName) "_" "prop" dfBody i (.ref k 20) (envDW n) w) =
      some (envDW n, (funcStep pop props funcRes funcName k () w).2.1, ctlOf (funcStep pop props funcRes funcName k () w).2.2) := by
  have hloop (t : Val) := loopM_rounds (fun (r : Nat) => Val.int r) (rangeIter (DF pop props funcRes funcName) "_" "arg" dfArgBody)
    (envR n k t ((propAt props k).returns.getD []) (propAt props k).tagVal) optStep
    (fun i r acc w => df_argIter pop props funcRes funcName n k i r t _ acc w)
    ((propAt props k).returns.getD []) 0 [] w
  simp only [optStep_loop, envR, envDW, dfArgBody, dfBody, Progs.depFunc_PostProcessProperties, List.nil_append, List.cons_append,
    show encOpts (propAt props k).tagVal [] = Val.nil from rfl] at hloop
  simp [go_eval, store_as "Injects" ".set:Injects" rfl, rangeIter, dfBody, Progs.depFunc_PostProcessProperties, envDW, hloop, typeMeaning, funcMeaning, orMeaning_tokens, encInj, ctlOf]
  unfold funcStep discoverFunc
  by_cases ht : (propAt props k).tag = "func"
  · cases (propAt props k).kind <;> cases (propAt props k).returns <;>
      simp [ht, isActualModel, tyId, typeOption, decInj_append, decInj_enc, decInj_ids, set_getD_self]
  · simp [ht, set_getD_self]

theorem funcStep_loop (is : List Nat) (w : DW) :
    stepLoop (funcStep pop props funcRes funcName) is () w =
      ((), applyDisc (fun i => discoverFunc pop funcRes funcName (propAt props i)) is w, none) := by
  induction is generalizing w with
  | nil => simp [stepLoop, applyDisc]
  | cons i rest ih => simp [stepLoop, funcStep, applyDisc, ih]

/-- dependencyFunctionAwarePostProcessors.PostProcessProperties, regenerated: every `func` property node, in order, gets what
    `discoverFunc` finds APPENDED to its `Injects` -/
theorem depFunc_sem (n : Nat) (w : DW) :
    run (DF pop props funcRes funcName) Progs.depFunc_PostProcessProperties
        [.list ((List.range' 0 n).map (fun i => Val.ref i 20)), .str "c", .str "n"] w =
      some (.tuple [.nil, .nil], applyDisc (fun i => discoverFunc pop funcRes funcName (propAt props i)) (List.range' 0 n) w) := by
  have hloop := loopM_rounds (fun i => Val.ref i 20) (rangeIter (DF pop props funcRes funcName) "_" "prop" dfBody)
    (fun _ : Unit => envDW n) (funcStep pop props funcRes funcName)
    (fun i k _ w => df_iter pop props funcRes funcName n i k w) (List.range' 0 n) 0 () w
  rw [funcStep_loop] at hloop
  simp only [envDW, dfBody, Progs.depFunc_PostProcessProperties] at hloop
  simp [go_eval, Progs.depFunc_PostProcessProperties, hloop, ctlOf]

/-- … and `discoverFunc` is M3's `candidatesFunc` when the option closures mean what the model says -/
theorem discoverFunc_is_candidatesFunc (p : DProp) (tv : Bytes) (args : Tag.Args) (alts : Nat → Bytes) (hf : p.tag = "func")
    (hres : ∀ r q, funcRes p.tagVal r q = funcNameAndResult tv (alts r) q)
    (hname : ∀ q, funcName p.tagVal q = Match.funcName tv q)
    (hargs : Tag.find args kReturns = p.returns.map (fun rs => rs.map alts)) :
    discoverFunc pop funcRes funcName p = candidatesFunc pop p.kind tv args := by
  unfold discoverFunc candidatesFunc
  simp only [hf, bne_self_eq_false, Bool.false_eq_true, if_false, hargs]
  cases typeOption p.kind with
  | none => rfl
  | some f =>
    simp only []
    cases p.returns with
    | none =>
      simp only [Option.map_none]
      congr 1
      apply List.filter_congr
      intro q _
      rw [hname]
    | some rs =>
      simp only [Option.map_some]
      congr 1
      apply List.filter_congr
      intro q _
      simp [List.any_map, hres, Function.comp_def]

end func
end Ioc.Sem
