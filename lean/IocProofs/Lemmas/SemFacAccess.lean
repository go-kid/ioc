/-
  Semantic theorems for the REGENERATED factory.Default, the accessors of defaultFactory and the ID functions
  (interpretation: Ioc.SemFacAccess).
-/
import Ioc.SemFacAccess
import IocProofs.Lemmas.GoEval
namespace Ioc.Sem
open Ioc Ioc.Go

attribute [local go_eval] faFn.eq_1 faFn.eq_2 faFn.eq_3 faFn.eq_4 faFn.eq_5 faFn.eq_6 faFn.eq_7 faFn.eq_8
  idFn.eq_1 idFn.eq_2 idFn.eq_3 idFn.eq_4 idFn.eq_5 idFn.eq_6 idFn.eq_7 idFn.eq_8 idFn.eq_9 idFn.eq_10 idFn.eq_11 idFn.eq_12
  idFn.eq_13 idFn.eq_14
@[local go_eval] theorem fdPrims_fn : fdPrims.fn = fdFn := rfl
@[local go_eval] theorem faPrims_fn : faPrims.fn = faFn := rfl
@[local go_eval] theorem idPrims_fn (holderID typeName metaID fieldName fieldID info pt tag tagStr : String) (isEmbed : Bool) :
    (idPrims holderID typeName metaID fieldName fieldID info pt tag tagStr isEmbed).fn =
      idFn holderID typeName metaID fieldName fieldID info pt tag tagStr isEmbed := rfl

/-- factory.Default BUILDS the definition registry, the singleton-component registry and the delegate when the factory is
    made (nothing is created later, on first use), and allows circular references -/
theorem facDefault_sem (w : FacObj) :
    run fdPrims Progs.fac_Default [] w =
      some (.tuple [.str "defaultFactory", .str "new definition registry", .str "new singleton component registry",
                    .str "new delegate", .bool true], w) := by
  simp [go_eval, Progs.fac_Default, fdFn, facName]

/-- the accessors read / write exactly the member they name and nothing else -/
theorem facAccessors_sem (w : FacObj) (r c p n : Val) :
    run faPrims Progs.fac_GetDefinitionRegistry [] w = some (w.definitionRegistry, w) ∧
    run faPrims Progs.fac_GetConfigure [] w = some (w.configure, w) ∧
    run faPrims Progs.fac_GetRegisteredComponents [] w = some (w.registeredComponents, w) ∧
    run faPrims Progs.fac_GetDefinitionRegistryPostProcessors [] w = some (w.defPPs, w) ∧
    run faPrims Progs.fac_SetRegistry [r] w = some (.tuple [], { w with singletonRegistry := r }) ∧
    run faPrims Progs.fac_SetConfigure [c] w = some (.tuple [], { w with configure := c }) ∧
    run faPrims Progs.fac_registerBeanPostProcessors [p, n] w = some (.tuple [], { w with beanPPCalls := w.beanPPCalls ++ [(p, n)] }) := by
  refine ⟨?_, ?_, ?_, ?_, ?_, ?_, ?_⟩
  · simp [go_eval, Progs.fac_GetDefinitionRegistry]
  · simp [go_eval, Progs.fac_GetConfigure]
  · simp [go_eval, Progs.fac_GetRegisteredComponents]
  · simp [go_eval, Progs.fac_GetDefinitionRegistryPostProcessors]
  · simp [go_eval, Progs.fac_SetRegistry]
  · simp [go_eval, Progs.fac_SetConfigure]
  · simp [go_eval, Progs.fac_registerBeanPostProcessors]

/-- the IDs: a field's ID contains its HOLDER's ID — which, for a field of an embedded struct, contains the embedding path
    (`….Embed(T)`) — and the field name; a property's ID is the field's ID followed by type, tag and tag text: two same-named
    fields in different embedded structs have different IDs -/
theorem ids_sem (holderID typeName metaID fieldName fieldID info pt tag tagStr : String) (isEmbed : Bool) :
    run (idPrims holderID typeName metaID fieldName fieldID info pt tag tagStr isEmbed) Progs.field_ID [] () =
      some (.str (holderID ++ ".Field(" ++ fieldName ++ ")"), ()) ∧
    run (idPrims holderID typeName metaID fieldName fieldID info pt tag tagStr isEmbed) Progs.holder_ID [] () =
      some (.str (if isEmbed then holderID ++ ".Embed(" ++ typeName ++ ")" else metaID), ()) ∧
    run (idPrims holderID typeName metaID fieldName fieldID info pt tag tagStr isEmbed) Progs.prop_ID [] () =
      some (.str (fieldID ++ info), ()) ∧
    run (idPrims holderID typeName metaID fieldName fieldID info pt tag tagStr isEmbed) Progs.prop_info [] () =
      some (.str (".Type(" ++ pt ++ ").Tag(" ++ tag ++ ":'" ++ tagStr ++ "')"), ()) := by
  refine ⟨?_, ?_, ?_, ?_⟩
  · simp [go_eval, Progs.field_ID]
  · cases isEmbed <;> simp [go_eval, Progs.holder_ID]
  · simp [go_eval, Progs.prop_ID]
  · simp [go_eval, Progs.prop_info]

end Ioc.Sem
