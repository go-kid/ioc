/-
  The regenerated program of factory.go `doGetComponent`, run over the model registry, is one `Act.getOrCreate` of M1.
-/
import Ioc.SemFactory
import IocProofs.Lemmas.GoEval
namespace Ioc.Sem
open Ioc Ioc.Go Ioc.Reg

-- by their own names `simp` indexes the equations by the primitive's name; given as `facFn` it tries them one after the other
attribute [local go_eval] facFn.eq_1 facFn.eq_2 facFn.eq_3 facHfn.eq_1 litHandler
@[local go_eval] theorem facPrims_fn (early : Except Err Obj) (create : Body) : (facPrims early create).fn = facFn early create := rfl
@[local go_eval] theorem facPrims_hfn (early : Except Err Obj) (create : Body) : (facPrims early create).hfn = facHfn := rfl

theorem doGetComponent_sem (early : Except Err Obj) (create : Body) (r : Reg) (n : Nat) :
    run (facPrims early create) Progs.fac_doGetComponent [.int n] r = some (doGet r n early create) := by
  unfold doGet
  -- the answers of GetSingleton, of beginCreate and of the creation decide how the program goes on
  rcases hg : (r.get n true early).1 with _ | _ | o
  · simp [go_eval, Progs.fac_doGetComponent, hg, encGet, errVal]
  · rcases hb : ((r.get n true early).2.beginCreate n).1 with _ | o
    · rcases hc : create ((r.get n true early).2.beginCreate n).2 with ⟨_ | o, r2⟩ <;>
        simp [go_eval, Progs.fac_doGetComponent, hg, hb, hc, encGet, encOpt, encObj, encRes, errVal]
    · simp [go_eval, Progs.fac_doGetComponent, hg, hb, encGet, encOpt, encObj]
  · simp [go_eval, Progs.fac_doGetComponent, hg, encGet, encOpt, encObj]

/-- what createComponent does to the registry in M1: doCreateComponent registers the early-reference factory iff the name
    is in creation (factory.go:192-198), then the body's operations run; `res` is what the creation returns -/
def createOf (n : Nat) (body : List Act) (res : Except Err Obj) : Body :=
  fun r1 => (res, (execs (if r1.isInCreation n then r1.addFactory n else r1) body).1)

/-- one `Act.getOrCreate` of M1 is the regenerated doGetComponent (composed with the registry methods) -/
theorem doGet_is_exec (r : Reg) (n : Nat) (early : Except Err Obj) (body : List Act) (res : Except Err Obj) :
    (doGet r n early (createOf n body res)).2 = (exec r (.getOrCreate n early body res)).1 := by
  unfold doGet
  rcases hg : (r.get n true early).1 with _ | _ | o <;> simp [exec, hg]
  rcases ((r.get n true early).2.beginCreate n).1 with _ | o <;> simp [createOf, Reg.startCreate]

end Ioc.Sem
