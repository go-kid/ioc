/-
  The regenerated programs of factory.go createComponent / getEarlyBeanReference / GetComponentByName compute
  Sem.createModel / Sem.earlyModel / the instance of what doGetComponent returned.
-/
import Ioc.SemFactory2
import IocProofs.Lemmas.GoEval
namespace Ioc.Sem
open Ioc Ioc.Go

-- by their own names `simp` indexes the equations by the primitive's name; given as `cccFn` it tries them one after the other
attribute [local go_eval] cccFn.eq_1 cccFn.eq_2 cccFn.eq_3 cccFn.eq_4 cccFn.eq_5 cccFn.eq_6 gebFn.eq_1 gebFn.eq_2 gebFn.eq_3
  gcbFn.eq_1 gcbFn.eq_2 gcbFn.eq_3
@[local go_eval] theorem cccPrims_fn (d : CCC) : (cccPrims d).fn = cccFn d := rfl
@[local go_eval] theorem gebPrims_fn (d : GEB) : (gebPrims d).fn = gebFn d := rfl
@[local go_eval] theorem gcbPrims_fn (res : Option Nat) : (gcbPrims res).fn = gcbFn res := rfl

theorem createComponent_sem (d : CCC) :
    run (cccPrims d) Progs.fac_createComponent [.int d.n] [] = some (encMeta d.n (createModel d).1, (createModel d).2) := by
  obtain ⟨n, found, before, proxyOk, doCreate⟩ := d
  cases found
  · simp [go_eval, Progs.fac_createComponent, createModel, encMeta, errF]
  rcases before with _ | _ | _ | k
  · simp [go_eval, Progs.fac_createComponent, createModel, encMeta, errF]
  · cases doCreate <;> simp [go_eval, Progs.fac_createComponent, createModel, encMeta, errF]
  · simp [go_eval, Progs.fac_createComponent, createModel, encMeta]
  · simp [go_eval, Progs.fac_createComponent, createModel, encMeta]
    cases proxyOk <;> rfl

theorem getEarlyBeanReference_sem (d : GEB) :
    run (gebPrims d) Progs.fac_getEarlyBeanReference [.int d.n, .ref d.n 0] [] =
      some (encMeta d.n (earlyModel d).1, (earlyModel d).2) := by
  obtain ⟨n, early, proxyOk⟩ := d
  rcases early with _ | _ | k
  · simp [go_eval, Progs.fac_getEarlyBeanReference, earlyModel, encMeta, errF]
  · simp [go_eval, Progs.fac_getEarlyBeanReference, earlyModel, encMeta]
  · cases proxyOk <;> simp [go_eval, Progs.fac_getEarlyBeanReference, earlyModel, encMeta, errF]

theorem getComponentByName_sem (n : Nat) (res : Option Nat) :
    run (gcbPrims res) Progs.fac_GetComponentByName [.int n] () =
      some (match res with
            | some v => .tuple [.ref n (1000 + v), .nil]
            | none => .tuple [.nil, errF], ()) := by
  cases res <;> simp [go_eval, Progs.fac_GetComponentByName, errF]

end Ioc.Sem
