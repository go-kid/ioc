/-
  The regenerated programs of the delegate's initialization path compute M4's chains:
  applyPostProcessBeforeInitialization / AfterInitialization = Order.applyBefore / applyAfter, invokeInitMethods,
  InitializeComponent = Order.initializeComponent.
-/
import Ioc.SemInit
import IocProofs.Lemmas.GoEval
namespace Ioc.Sem
open Ioc Ioc.Go Ioc.Order

attribute [local go_eval] initFn.eq_1 initFn.eq_2 initFn.eq_3 initFn.eq_4 initFn.eq_5 initFn.eq_6 initFn.eq_7 initFn.eq_8 initFn.eq_9

variable (procs : List Nat) (before after : Nat → Nat → Res Nat) (im : InitM)

@[local go_eval] theorem initBase_fn : (initBase procs before after im).fn = initFn procs before after im := rfl

theorem invokeInitMethods_sem (c : Nat) (w : List IEv) :
    run (initBase procs before after im) Progs.del_invokeInitMethods [.str "n", encC c] w =
      some (if (initMethods im c).2 then errN else .nil, w ++ (initMethods im c).1) := by
  simp [go_eval, Progs.del_invokeInitMethods, encC, errN, initMethods]
  cases im.hasAps c <;> cases im.apsOk c <;> cases im.hasInit c <;> cases im.initOk c <;> simp

def bevs (l : List Nat) : List IEv := l.map IEv.before
def aevs (l : List Nat) : List IEv := l.map IEv.after

/-- the before-initialization chain without the log accumulator: (processors called, result) -/
def beforeLoop (before : Nat → Nat → Res Nat) : List Nat → Nat → List Nat × Res Nat
  | [], c => ([], .val c)
  | p :: rest, c =>
    match before p c with
    | .err => ([p], .err)
    | .nil => ([p], .nil)
    | .val c' => (p :: (beforeLoop before rest c').1, (beforeLoop before rest c').2)

theorem applyBefore_eq (before : Nat → Nat → Res Nat) (ps : List Nat) (c : Nat) (lg : List Nat) :
    applyBefore before ps c lg = (lg ++ (beforeLoop before ps c).1, (beforeLoop before ps c).2) := by
  induction ps generalizing c lg with
  | nil => simp [applyBefore, beforeLoop]
  | cons p rest ih =>
    simp only [applyBefore, beforeLoop]
    cases before p c with
    | err => simp
    | nil => simp
    | val c' => simp [ih, List.append_assoc]

def ctlOfRes : Res Nat → Ctl
  | .err => .ret (.tuple [.nil, errN])
  | .nil => .ret (.tuple [.nil, .nil])
  | .val _ => .norm

theorem loopM_before (before : Nat → Nat → Res Nat) (f : Nat → Val → Env → List IEv → Option (Env × List IEv × Ctl)) (envB : Val → Env)
    (hf : ∀ i p c w, ∃ e', f i (encP p) (envB (encC c)) w = some (e', w ++ [.before p], ctlOfRes (before p c)) ∧
        (∀ c', before p c = .val c' → e' = envB (encC c'))) :
    ∀ (ps : List Nat) (i c : Nat) (w : List IEv),
      ∃ e', loopM f i (ps.map encP) (envB (encC c)) w =
        some (e', w ++ bevs (beforeLoop before ps c).1, ctlOfRes (beforeLoop before ps c).2) ∧
        (∀ c', (beforeLoop before ps c).2 = .val c' → e' = envB (encC c')) := by
  intro ps
  induction ps with
  | nil =>
    intro i c w
    refine ⟨envB (encC c), by simp [loopM, beforeLoop, bevs, ctlOfRes], ?_⟩
    intro c' h
    simp only [beforeLoop, Res.val.injEq] at h
    rw [h]
  | cons p rest ih =>
    intro i c w
    obtain ⟨e', he, hv⟩ := hf i p c w
    simp only [List.map_cons, loopM, he, beforeLoop]
    cases hb : before p c with
    | err => exact ⟨e', by simp [bevs, ctlOfRes], by intro c' h; cases h⟩
    | nil => exact ⟨e', by simp [bevs, ctlOfRes], by intro c' h; cases h⟩
    | val c1 =>
      have := hv c1 hb
      subst this
      obtain ⟨e2, he2, hv2⟩ := ih (i + 1) c1 (w ++ [.before p])
      refine ⟨e2, ?_, hv2⟩
      have hc : ctlOfRes (Res.val c1 : Res Nat) = Ctl.norm := rfl
      simp only [hc]
      rw [he2]
      simp [bevs, List.append_assoc]


def abBody : List Stmt :=
  match Progs.del_applyBefore.body with
  | [_, _, .range _ _ _ b, _] => b
  | _ => []
theorem ab_shape : Progs.del_applyBefore.body =
    [.define ["current"] (.var "c"), .define ["err"] .nil,
     .range "_" "processor" (.glob "self.componentPostProcessors") abBody, .ret [.var "current", .nil]] := rfl
theorem ab_params : Progs.del_applyBefore.params = ["c", "name"] := rfl

/-- applyPostProcessBeforeInitialization, regenerated: the chain `Order.applyBefore` -/
theorem applyBefore_sem (c : Nat) (w : List IEv) :
    run (initBase procs before after im) Progs.del_applyBefore [encC c, .str "n"] w =
      some (encRes (beforeLoop before procs c).2, w ++ bevs (beforeLoop before procs c).1) := by
  obtain ⟨e', he, hv⟩ := loopM_before before (rangeIter (initBase procs before after im) "_" "processor" abBody)
    (fun cur => [("err", .nil), ("current", cur), ("c", encC c), ("name", .str "n")]) (by
      intro i p c' w'
      cases hb : before p c' <;>
        simp [go_eval, rangeIter_blank, abBody, Progs.del_applyBefore, encP, encC, encRes, hb, ctlOfRes, errN]) procs 0 c w
  simp only [abBody, Progs.del_applyBefore] at he
  cases hr : (beforeLoop before procs c).2 with
  | val c1 =>
    obtain rfl := hv c1 hr
    simp [go_eval, Progs.del_applyBefore, he, hr, ctlOfRes, encRes]
  | _ => simp [go_eval, Progs.del_applyBefore, he, hr, ctlOfRes, encRes]

/-- the after-initialization chain without the log accumulator: (processors called, `none` = error) -/
def afterLoop (after : Nat → Nat → Res Nat) : List Nat → Nat → List Nat × Option Nat
  | [], r => ([], some r)
  | p :: rest, r =>
    match after p r with
    | .err => ([p], none)
    | .nil => ([p], some r)
    | .val c' => (p :: (afterLoop after rest c').1, (afterLoop after rest c').2)

theorem applyAfter_eq (after : Nat → Nat → Res Nat) (ps : List Nat) (r : Nat) (lg : List Nat) :
    applyAfter after ps r lg = (lg ++ (afterLoop after ps r).1, (afterLoop after ps r).2) := by
  induction ps generalizing r lg with
  | nil => simp [applyAfter, afterLoop]
  | cons p rest ih =>
    simp only [applyAfter, afterLoop]
    cases after p r with
    | err => simp
    | nil => simp
    | val c' => simp [ih, List.append_assoc]

def encAfter : Option Nat → Val
  | some r => .tuple [encC r, .nil]
  | none => .tuple [.nil, errN]

/-- how the after-loop ends -/
inductive AEnd
  | err
  | nilAt (r : Nat)      -- a processor returned nil: `return result, nil` from inside the loop
  | done (r : Nat)       -- fell off the end with `result`

def afterEnd (after : Nat → Nat → Res Nat) : List Nat → Nat → List Nat × AEnd
  | [], r => ([], .done r)
  | p :: rest, r =>
    match after p r with
    | .err => ([p], .err)
    | .nil => ([p], .nilAt r)
    | .val c' => (p :: (afterEnd after rest c').1, (afterEnd after rest c').2)

def AEnd.res : AEnd → Option Nat
  | .err => none
  | .nilAt r => some r
  | .done r => some r

theorem afterEnd_loop (after : Nat → Nat → Res Nat) (ps : List Nat) (r : Nat) :
    afterLoop after ps r = ((afterEnd after ps r).1, (afterEnd after ps r).2.res) := by
  induction ps generalizing r with
  | nil => rfl
  | cons p rest ih =>
    simp only [afterLoop, afterEnd]
    cases after p r with
    | err => rfl
    | nil => rfl
    | val c' => simp [ih]

def ctlOfEnd : AEnd → Ctl
  | .err => .ret (.tuple [.nil, errN])
  | .nilAt r => .ret (.tuple [encC r, .nil])
  | .done _ => .norm

def ctlAfter (r : Nat) : Res Nat → Ctl
  | .err => .ret (.tuple [.nil, errN])
  | .nil => .ret (.tuple [encC r, .nil])
  | .val _ => .norm

theorem loopM_after (after : Nat → Nat → Res Nat) (f : Nat → Val → Env → List IEv → Option (Env × List IEv × Ctl))
    (envA : Val → Val → Env)
    (hf : ∀ i p r cur w, ∃ e', f i (encP p) (envA cur (encC r)) w = some (e', w ++ [.after p], ctlAfter r (after p r)) ∧
        (∀ c', after p r = .val c' → e' = envA (encC c') (encC c'))) :
    ∀ (ps : List Nat) (i r : Nat) (cur : Val) (w : List IEv),
      ∃ e', loopM f i (ps.map encP) (envA cur (encC r)) w =
        some (e', w ++ aevs (afterEnd after ps r).1, ctlOfEnd (afterEnd after ps r).2) ∧
        (∀ r', (afterEnd after ps r).2 = .done r' → ∃ cur', e' = envA cur' (encC r')) := by
  intro ps
  induction ps with
  | nil =>
    intro i r cur w
    refine ⟨envA cur (encC r), by simp [loopM, afterEnd, aevs, ctlOfEnd], ?_⟩
    intro r' h
    simp only [afterEnd, AEnd.done.injEq] at h
    exact ⟨cur, by rw [h]⟩
  | cons p rest ih =>
    intro i r cur w
    obtain ⟨e', he, hv⟩ := hf i p r cur w
    simp only [List.map_cons, loopM, he, afterEnd]
    cases hb : after p r with
    | err => exact ⟨e', by simp [aevs, ctlOfEnd, ctlAfter], by intro r' h; cases h⟩
    | nil => exact ⟨e', by simp [aevs, ctlOfEnd, ctlAfter], by intro r' h; cases h⟩
    | val c1 =>
      have := hv c1 hb
      subst this
      obtain ⟨e2, he2, hv2⟩ := ih (i + 1) c1 (encC c1) (w ++ [.after p])
      refine ⟨e2, ?_, hv2⟩
      have hc : ctlAfter r (Res.val c1 : Res Nat) = Ctl.norm := rfl
      simp only [hc]
      rw [he2]
      simp [aevs, List.append_assoc]



def aaBody : List Stmt :=
  match Progs.del_applyAfter.body with
  | [_, _, _, .range _ _ _ b, _] => b
  | _ => []
theorem aa_shape : Progs.del_applyAfter.body =
    [.define ["result"] (.var "c"), .define ["err"] .nil, .define ["current"] .nil,
     .range "_" "processor" (.glob "self.componentPostProcessors") aaBody, .ret [.var "result", .nil]] := rfl
theorem aa_params : Progs.del_applyAfter.params = ["c", "name"] := rfl

/-- applyPostProcessAfterInitialization, regenerated: the chain `Order.applyAfter` -/
theorem applyAfter_sem (c : Nat) (w : List IEv) :
    run (initBase procs before after im) Progs.del_applyAfter [encC c, .str "n"] w =
      some (encAfter (afterLoop after procs c).2, w ++ aevs (afterLoop after procs c).1) := by
  obtain ⟨e', he, hv⟩ := loopM_after after (rangeIter (initBase procs before after im) "_" "processor" aaBody)
    (fun cur res => [("current", cur), ("err", .nil), ("result", res), ("c", encC c), ("name", .str "n")]) (by
      intro i p r cur w'
      cases hb : after p r <;>
        simp [go_eval, rangeIter_blank, aaBody, Progs.del_applyAfter, encP, encC, encRes, hb, ctlAfter, errN]) procs 0 c .nil w
  simp only [aaBody, Progs.del_applyAfter] at he
  rw [afterEnd_loop]
  cases hr : (afterEnd after procs c).2 with
  | done r =>
    obtain ⟨cur', rfl⟩ := hv r hr
    simp [go_eval, Progs.del_applyAfter, he, hr, ctlOfEnd, encAfter, AEnd.res]
  | _ => simp [go_eval, Progs.del_applyAfter, he, hr, ctlOfEnd, encAfter, AEnd.res]

def callAB (args : List Val) (w : List IEv) := run (initBase procs before after im) Progs.del_applyBefore args w
def callIM (args : List Val) (w : List IEv) := run (initBase procs before after im) Progs.del_invokeInitMethods args w
def callAA (args : List Val) (w : List IEv) := run (initBase procs before after im) Progs.del_applyAfter args w

/-- InitializeComponent sees its sibling methods as runs of their regenerated programs -/
def initFull : Prims (List IEv) :=
  { fn := fun f args w =>
      match f with
      | "self.applyPostProcessBeforeInitialization" => callAB procs before after im args w
      | "self.invokeInitMethods" => callIM procs before after im args w
      | "self.applyPostProcessAfterInitialization" => callAA procs before after im args w
      | _ => initFn procs before after im f args w }

/-- InitializeComponent on the model: (result: `none` error / `some c` the component handed back, events in order) -/
def initializeModel (c : Nat) : Option Nat × List IEv :=
  match beforeLoop before procs c with
  | (lb, .err) => (none, bevs lb)
  | (lb, .nil) => (some c, bevs lb)
  | (lb, .val w1) =>
    if (initMethods im w1).2 then (none, bevs lb ++ (initMethods im w1).1)
    else ((afterLoop after procs w1).2, bevs lb ++ (initMethods im w1).1 ++ aevs (afterLoop after procs w1).1)

theorem initFull_fn (f : String) (args : List Val) (w : List IEv) : (initFull procs before after im).fn f args w =
    match f with
    | "self.applyPostProcessBeforeInitialization" => callAB procs before after im args w
    | "self.invokeInitMethods" => callIM procs before after im args w
    | "self.applyPostProcessAfterInitialization" => callAA procs before after im args w
    | _ => initFn procs before after im f args w := rfl

/-- InitializeComponent, regenerated: before-initialization chain, then AfterPropertiesSet, then Init, then the
    after-initialization chain; the first error ends it; a nil from a before-callback hands back the original -/
theorem initializeComponent_sem (c : Nat) :
    run (initFull procs before after im) Progs.del_InitializeComponent [.str "n", encC c] [] =
      some (encAfter (initializeModel procs before after im c).1, (initializeModel procs before after im c).2) := by
  have hab : callAB procs before after im [encC c, .str "n"] [] = _ := applyBefore_sem procs before after im c []
  have him (w1 : Nat) (l : List IEv) : callIM procs before after im [.str "n", encC w1] l = _ :=
    invokeInitMethods_sem procs before after im w1 l
  have haa (w1 : Nat) (l : List IEv) : callAA procs before after im [encC w1, .str "n"] l = _ :=
    applyAfter_sem procs before after im w1 l
  simp only [encC] at hab him haa
  unfold initializeModel
  -- what the two chains hand back decides how the program goes on
  rcases hb : beforeLoop before procs c with ⟨lb, _ | _ | w1⟩ <;> rw [hb] at hab <;>
    simp [go_eval, Progs.del_InitializeComponent, initFull_fn, hab, him, haa, encRes, encAfter, errN, encC]
  cases (initMethods im w1).2 <;> cases (afterLoop after procs w1).2 <;> simp [go_eval]

/-- the model function of M4 is this one: same logs, same result -/
theorem initializeModel_eq (c : Nat) :
    initializeComponent before after (fun w => (initMethods im w).2) procs c =
      (match beforeLoop before procs c with
       | (lb, .err) => (lb, [], none)
       | (lb, .nil) => (lb, [], some c)
       | (lb, .val w1) =>
         if (initMethods im w1).2 then (lb, [], none)
         else (lb, (afterLoop after procs w1).1, (afterLoop after procs w1).2)) := by
  unfold initializeComponent
  rw [applyBefore_eq]
  cases hb : beforeLoop before procs c with
  | mk lb rb =>
    cases rb with
    | err => simp
    | nil => simp
    | val w1 =>
      simp only [List.nil_append]
      cases (initMethods im w1).2 with
      | true => simp
      | false => simp [applyAfter_eq]


end Ioc.Sem
