/-
  The regenerated program of component_definition/property.go `Property.Inject` computes `Sem.injectModel`.
-/
import Ioc.SemInject
import IocProofs.Lemmas.GoEval
namespace Ioc.Sem
open Ioc Ioc.Go

attribute [local go_eval] injFn.eq_1 injFn.eq_2 injFn.eq_3 injFn.eq_4 injFn.eq_5 injFn.eq_6 injFn.eq_7 injFn.eq_8 injFn.eq_9
  injFn.eq_10 injFn.eq_11 injFn.eq_12 injFn.eq_13 injFn.eq_14 injFn.eq_15 injFn.eq_16 injFn.eq_17 injFn.eq_18 injFn.eq_19
  injFn.eq_20 injFn.eq_21 injFn.eq_22 injFn.eq_23 injFn.eq_24
@[local go_eval] theorem injPrims_fn (c : InjCtx) : (injPrims c).fn = injFn c := rfl
@[local go_eval] theorem injPrims_hfn (c : InjCtx) : (injPrims c).hfn = injHfn := rfl

/-- `filter` with a function literal that answers `g` and leaves the world alone -/
theorem injHfn_filter (g : Nat → Bool) (h : Handler InjW) (w : InjW) (ms : List Nat)
    (hh : ∀ m, h [encM m] w = some (.bool (g m), w)) :
    injHfn "filter" [.list (ms.map encM)] h w = some (.list ((ms.filter g).map encM), w) := by
  rw [injHfn, filterM_pure encM _ g w ms fun m _ => by rw [hh]]; rfl

/-- the assignability loop of Inject: returns at the first unassignable meta -/
theorem loopM_assignable {σ : Type} (bad : Nat → Bool) (out : Val) (f : Nat → Val → Env → σ → Option (Env × σ × Ctl)) (env : Env) (w : σ)
    (hf : ∀ i m, f i (encM m) env w = some (env, w, if bad m then Ctl.ret out else Ctl.norm)) :
    ∀ (ms : List Nat) (i : Nat), loopM f i (ms.map encM) env w =
      some (env, w, if ms.any bad then Ctl.ret out else Ctl.norm) := by
  intro ms
  induction ms with
  | nil => intro i; rfl
  | cons m rest ih =>
    intro i
    rw [List.map_cons, loopM, hf, List.any_cons]
    cases bad m
    · exact ih _
    · rfl

/-- the slice-fill loop of Inject: element i receives the i-th meta, which records the holder as a dependent -/
theorem loopM_fill (f : Nat → Val → Env → InjW → Option (Env × InjW × Ctl)) (env : Env)
    (hf : ∀ i m w, f i (encM m) env w = some (env, { w with elems := w.elems ++ [(i, m)], deps := w.deps ++ [m] }, Ctl.norm)) :
    ∀ (ms : List Nat) (k : Nat) (w : InjW), loopM f k (ms.map encM) env w =
      some (env, { w with elems := w.elems ++ (List.range' k ms.length).zip ms, deps := w.deps ++ ms }, Ctl.norm) := by
  intro ms
  induction ms with
  | nil => intro k w; simp [loopM]
  | cons m rest ih =>
    intro k w
    simp only [List.map_cons, loopM, hf, ih, List.length_cons, List.range'_succ, List.zip_cons_cons]
    simp [List.append_assoc]

theorem mapM_decM (l : List Nat) : l.mapM (decM ∘ encM) = some l := by
  induction l with
  | nil => rfl
  | cons a t ih => simp [List.mapM_cons, decM, encM] at ih ⊢; rw [ih]; rfl

def encErr (b : Bool) : Val := if b then errI else .nil

theorem some_encErr (b : Bool) (w : InjW) : (if b then some (errI, w) else some (.nil, w)) = some (encErr b, w) := by
  cases b <;> rfl

/-- Property.Inject, regenerated: which error it returns and what it writes, for every list of metas and every answer of
    IsRequired / IsSelf / AssignableTo / Kind -/
theorem inject_sem (c : InjCtx) (metas : List Nat) :
    run (injPrims c) Progs.prop_Inject [.list (metas.map encM)] {} =
      some (encErr (injectModel c metas).1, (injectModel c metas).2) := by
  unfold injectModel injectTail
  -- `metas[0]` needs the first of the filtered metas, the answer of `Kind` decides which branch is taken; the filter and the
  -- two loops are rewritten by their lemmas, whose hypothesis about one call or one round `simp` proves by running it
  rcases hms : metas.filter (fun m => !c.isSelf m) with _ | ⟨m, rest⟩
  · simp [go_eval, Progs.prop_Inject, hms, ↓injHfn_filter (fun m => !c.isSelf m), litHandler, encM, some_encErr]
    repeat' split
    all_goals rfl
  · cases hs : c.slice <;>
      simp [go_eval, Progs.prop_Inject, hs, hms, ↓injHfn_filter (fun m => !c.isSelf m), litHandler, encM, -List.map_cons,
        rangeIter, loopM_assignable (fun m => !c.assignable m) (if c.required then errI else .nil), loopM_fill, decM, mapM_decM,
        some_encErr]
    -- both sides are now the same decision tree
    all_goals repeat' split
    all_goals simp [encErr, List.range_eq_range']

/-! The statements of Inject and the environments between them, by name. -/

def injStmt (i : Nat) : Stmt := Progs.prop_Inject.body.getD i .brk
theorem inj_body : Progs.prop_Inject.body =
    [injStmt 0, injStmt 1, injStmt 2, injStmt 3, injStmt 4, injStmt 5, injStmt 6, injStmt 7, injStmt 8, injStmt 9, injStmt 10] := rfl
theorem inj_params : Progs.prop_Inject.params = ["metas"] := rfl

def envI (ms : List Nat) (req : Bool) : Env := [("isRequired", .bool req), ("metas", .list (ms.map encM))]
def envI2 (c : InjCtx) (ms : List Nat) : Env := ("elemType", if c.slice then .ref 0 6 else .ref 0 5) :: envI ms c.required
def envI3 (c : InjCtx) (ms : List Nat) : Env := ("$tag", .int (if c.slice then 23 else 22)) :: envI2 c ms

@[simp] theorem lenI3 (c : InjCtx) (ms : List Nat) : (envI3 c ms).length = 4 := by simp [envI3, envI2, envI]

end Ioc.Sem
