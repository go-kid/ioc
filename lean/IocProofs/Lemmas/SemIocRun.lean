/-
  Semantic theorems for the REGENERATED package-level entry points ioc.Run / ioc.Register (interpretation: Ioc.SemIocRun).
-/
import Ioc.SemIocRun
import IocProofs.Lemmas.GoEval
namespace Ioc.Sem
open Ioc Ioc.Go

attribute [local go_eval] iocFn.eq_1 iocFn.eq_2 iocFn.eq_3 iocFn.eq_4 iocFn.eq_5 iocFn.eq_6 iocFn.eq_7 iocFn.eq_8 iocFn.eq_9
@[local go_eval] theorem iocPrims_fn (flag : String) (rf : Bool) : (iocPrims flag rf).fn = iocFn flag rf := rfl

/-- ioc.Register: one more `SetComponents(cs…)` option at the END of the package-level list; nothing is started -/
theorem iocRegister_sem (flag : String) (rf : Bool) (cs : Val) (w : IRW) :
    run (iocPrims flag rf) Progs.ioc_Register [cs] w =
      some (.tuple [], { w with reg := w.reg ++ [.tuple [.str "SetComponents", cs]] }) := by
  simp [go_eval, Progs.ioc_Register]

/-- ioc.Run: ONE App, started with the options of the call FIRST and then everything that was registered — so an option of
    the call (a registry, a factory, a configure) is in place before the registered components are added -/
theorem iocRun_sem (flag : String) (rf : Bool) (ops : List Val) (w : IRW) :
    run (iocPrims flag rf) Progs.ioc_Run [.list ops] w =
      some (if rf then .tuple [.nil, .str "error"] else .tuple [.ref 0 1, .nil],
            { w with started := w.started ++ [ops ++ w.reg] }) := by
  simp [go_eval, Progs.ioc_Run]
  cases rf <;> rfl

end Ioc.Sem
