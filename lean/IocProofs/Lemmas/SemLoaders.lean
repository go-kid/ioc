/-
  Semantic theorems for the REGENERATED loaders (interpretation: Ioc.SemLoaders).
-/
import Ioc.SemLoaders
import IocProofs.Lemmas.GoEval
namespace Ioc.Sem
open Ioc Ioc.Go

attribute [local go_eval] alFn.eq_1 alFn.eq_2 alFn.eq_3 alFn.eq_4 alFn.eq_5 alFn.eq_6 alFn.eq_7 alFn.eq_8 alFn.eq_9 alFn.eq_10
  alFn.eq_11 flFn.eq_1 flFn.eq_2 flFn.eq_3 flFn.eq_4 rlFn.eq_1
@[local go_eval] theorem alPrims_fn (p : ALP) : (alPrims p).fn = alFn p := rfl
@[local go_eval] theorem flPrims_fn (path : String) (read : String → Except String Nat) : (flPrims path read).fn = flFn path read := rfl
@[local go_eval] theorem rlPrims_fn (raw : Val) : (rlPrims raw).fn = rlFn raw := rfl

/-- RawLoader: the bytes it was built from, never an error -/
theorem rawLoader_sem (raw : Val) : run (rlPrims raw) Progs.loader_Raw [] () = some (.tuple [raw, .nil], ()) := by
  simp [go_eval, Progs.loader_Raw]

/-- FileLoader: the file's bytes; a read error comes back wrapped, with no bytes -/
theorem fileLoader_sem (path : String) (read : String → Except String Nat) :
    run (flPrims path read) Progs.loader_File [] () =
      some (match read path with
            | .ok b => .tuple [.ref b 151, .nil]
            | .error e => .tuple [.nil, .str ("read file: " ++ e)], ()) := by
  cases hr : read path <;> simp [go_eval, Progs.loader_File, hr]

section argsloader
variable (p : ALP)

def alBody : List Stmt := match Progs.loader_Args.body with | [_, .range _ _ _ b, _, _, _, _] => b | _ => []
def alTail : List Stmt := match Progs.loader_Args.body with | [_, _, a, b, c, d] => [a, b, c, d] | _ => []
theorem al_shape : Progs.loader_Args.body =
    [.define ["p"] (.call "properties.New" []), .range "_" "arg" (.glob "self") alBody] ++ alTail := rfl

/-- ArgsLoader.LoadConfig: the arguments in order; only those with the prefix `--app.config` count; each is `key[=value]`
    split at the first "=", the value parsed into a typed value and set under the key (later arguments after earlier ones);
    a parse error ends the call; no setting at all gives (nil, nil) — no document, not an empty one; otherwise the YAML of
    the settings, a marshalling error wrapped -/
theorem argsLoader_sem (w : List (String × Nat)) :
    run (alPrims p) Progs.loader_Args [] w =
      (let r := stepLoop (alStep p) p.args () w
       match r.2.2 with
       | some v => some (v, r.2.1)
       | none =>
         if p.plen r.2.1 = 0 then some (.tuple [.nil, .nil], r.2.1)
         else some (match p.marshal r.2.1 with
                    | .ok b => .tuple [.ref b 151, .nil]
                    | .error e => .tuple [.nil, .str ("marshal to YAML: " ++ e)], r.2.1)) := by
  have hloop := loopM_rounds Val.str (rangeIter (alPrims p) "_" "arg" alBody) (fun _ : Unit => [("p", .ref 0 152)]) (alStep p)
    (by
      intro j a _ w
      cases hp : p.hasPrefix a
      · simp [go_eval, rangeIter, alBody, Progs.loader_Args, alStep, hp, ctlOf]
      -- what SplitN and ParseAny hand back decides how the round goes on
      rcases hs : p.split (p.trim a) with ⟨k, _ | v⟩
      · rcases hq : p.parse "" with e | t <;>
          simp [go_eval, rangeIter, alBody, Progs.loader_Args, alStep, hp, hs, hq, splitVal, parseVal, ctlOf]
      · rcases hq : p.parse v with e | t <;>
          simp [go_eval, rangeIter, alBody, Progs.loader_Args, alStep, hp, hs, hq, splitVal, parseVal, ctlOf])
    p.args 0 () w
  simp only [alBody, Progs.loader_Args] at hloop
  rcases hr : stepLoop (alStep p) p.args () w with ⟨u, w1, _ | v⟩
  · cases hm : p.marshal w1 <;> simp [go_eval, Progs.loader_Args, hloop, hr, hm, marshalVal, ctlOf]
  · simp [go_eval, Progs.loader_Args, hloop, hr, ctlOf]

end argsloader
end Ioc.Sem
