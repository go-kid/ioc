/-
  The regenerated program of `filterDependencies` (dependency_further_matching_processors.go), run by the MiniGo
  interpreter under the reflection/tag interpretation of Ioc.SemMatch, computes `Sem.filterDeps`, and `Match.narrow`
  (M3) is `filterDeps` followed by the required/optional decision of the per-property loop.
  For every population, holder, kind, tag arguments and candidate list.
-/
import Ioc.SemMatch
import IocProofs.Lemmas.GoEval
namespace Ioc.Sem
open Ioc Ioc.Go Ioc.Match Ioc.Tag

private theorem one_lt_natCast (n : Nat) : (1 < (n : Int)) ↔ 1 < n := by omega
private theorem one_lt_natCast_succ (n : Nat) : (1 < (n : Int) + 1) ↔ 0 < n := by omega

attribute [local go_eval] fdFn.eq_1 fdFn.eq_2 fdFn.eq_3 fdFn.eq_5 fdFn.eq_6 fdFn.eq_7 fdFn.eq_8 fdFn.eq_9 fdFn.eq_10 fdFn.eq_11
  fdFn.eq_12 fdFn.eq_13 fdFn.eq_14 fdFn.eq_15 fdFn.eq_16 fdFn.eq_17 fdFn.eq_18 fdFn.eq_19
@[local go_eval] theorem fdPrims_fn (c : FDCtx) : (fdPrims c).fn = fdFn c := rfl

@[simp] theorem fdFn_args (c : FDCtx) : fdFn c ".Args" [.ref 0 1] () = some (.ref 0 2, ()) := fdFn.eq_1 c ()
@[simp] theorem fdFn_argq (c : FDCtx) : fdFn c "$component_definition.ArgQualifier" [] () = some (.str "Qualifier", ()) :=
  fdFn.eq_2 c ()
@[simp] theorem fdFn_find (c : FDCtx) : fdFn c ".Find" [.ref 0 2, .str "Qualifier"] () =
    some (.tuple [.ref 0 10, .bool (find c.args kQualifier).isSome], ()) := fdFn.eq_3 c ()
@[simp] theorem fdFn_type (c : FDCtx) : fdFn c ".Type" [.ref 0 1] () = some (.ref 0 5, ()) := fdFn.eq_8 c ()
@[simp] theorem fdFn_kind (c : FDCtx) : fdFn c ".Kind" [.ref 0 5] () = some (.int (if c.kind.isSlice then 23 else 22), ()) :=
  fdFn.eq_9 c ()
@[simp] theorem fdFn_slice (c : FDCtx) : fdFn c "$reflect.Slice" [] () = some (.int 23, ()) := fdFn.eq_10 c ()
@[simp] theorem fdFn_array (c : FDCtx) : fdFn c "$reflect.Array" [] () = some (.int 17, ()) := fdFn.eq_11 c ()
@[simp] theorem fdFn_holder (c : FDCtx) : fdFn c ".Holder" [.ref 0 1] () = some (.ref 0 8, ()) := fdFn.eq_15 c ()
@[simp] theorem fdFn_meta (c : FDCtx) : fdFn c ".Meta" [.ref 0 8] () = some (.ref 0 9, ()) := fdFn.eq_16 c ()
@[simp] theorem fdFn_isSelf (c : FDCtx) (i : Nat) : fdFn c ".IsSelf" [.ref 0 9, .ref i 0] () = some (.bool (i == c.holder), ()) :=
  fdFn.eq_17 c () i
@[simp] theorem fdFn_primaryI (c : FDCtx) : fdFn c "$primaryInterface" [] () = some (.ref 0 7, ()) := fdFn.eq_13 c ()
@[simp] theorem fdFn_impl (c : FDCtx) (i : Nat) : fdFn c "reflectx.IsTypeImplement" [.ref i 6, .ref 0 7] () = some (.bool (provPrimary c i), ()) :=
  fdFn.eq_14 c () i
@[simp] theorem fdFn_isAlias (c : FDCtx) (i : Nat) : fdFn c ".IsAlias" [.ref i 0] () = some (.bool (provCustom c i), ()) :=
  fdFn.eq_18 c () i

theorem and_pure {σ : Type} (a b : Bool) (w : σ) :
    (if a then some (Val.bool b, w) else some (.bool false, w)) = some (.bool (a && b), w) := by cases a <;> rfl

theorem fdFn_has (c : FDCtx) (i : Nat) :
    fdFn c ".Has" [.ref 0 2, .str "Qualifier", .ref i 3] () = some (.bool (qualOk c i), ()) := by
  rw [fdFn.eq_4]; unfold qualOk provQual
  cases c.byId i with
  | none => rfl
  | some p => cases h : p.qual <;> simp [h]

theorem isSome_and_qualOk (c : FDCtx) (i : Nat) : ((provQual c i).isSome && qualOk c i) = qualOk c i := by
  unfold qualOk provQual
  cases c.byId i with
  | none => rfl
  | some p => cases h : p.qual <;> simp [h]

theorem kind_slice (s : Bool) : valEq (.int (if s then 23 else 22)) (.int 23) = some s := by cases s <;> rfl
theorem kind_array (s : Bool) : valEq (.int (if s then 23 else 22)) (.int 17) = some false := by cases s <;> rfl

/-- the preference loop: with `candidate` the innermost variable, the loop leaves `chooseGo` in it -/
theorem loopM_choose {σ : Type} (byId : Nat → Option Prov) (f : Nat → Val → Env → σ → Option (Env × σ × Ctl))
    (rest : Env) (w : σ)
    (hf : ∀ i m c, f i (encId m) (("candidate", encId c) :: rest) w =
        match byId m with
        | some p => if p.primary then some (("candidate", encId m) :: rest, w, .brk)
                    else if !p.custom then some (("candidate", encId m) :: rest, w, .norm)
                    else some (("candidate", encId c) :: rest, w, .norm)
        | none => some (("candidate", encId c) :: rest, w, .norm)) :
    ∀ (vs : List Nat) (i c : Nat), loopM f i (vs.map encId) (("candidate", encId c) :: rest) w =
      some (("candidate", encId (chooseGo byId vs c)) :: rest, w, .norm) := by
  intro vs
  induction vs with
  | nil => intro i c; simp [loopM, chooseGo]
  | cons m ms ih =>
    intro i c
    simp only [List.map_cons, loopM, hf, chooseGo]
    cases hb : byId m with
    | none => simp [ih]
    | some p =>
      cases hp : p.primary with
      | true => simp [hp]
      | false =>
        cases hc : p.custom with
        | true => simp [hp, hc, ih]
        | false => simp [hp, hc, ih]

/-- the nil filter: keeps the non-nil metas -/
theorem filterVal_nonnil {σ : Type} (P : Prims σ) (env : Env) (param : String) (body : List Stmt) (cs : List (Option Nat)) (w : σ)
    (h0 : finish (evalB P (Env.def env param .nil) w body) = some (.bool false, w))
    (h1 : ∀ i, finish (evalB P (Env.def env param (encId i)) w body) = some (.bool true, w)) :
    filterVal P env param body (.list (cs.map encOptId)) w = some (.list ((cs.filterMap id).map encId), w) := by
  rw [filterVal_pure encOptId Option.isSome P env param body cs w fun x _ => by cases x <;> simp [encOptId, h0, h1]]
  congr 3
  induction cs with
  | nil => rfl
  | cons c rest ih => cases c <;> simp [encOptId, ih]

/-- `loopM_choose` with the round described by the answers of IsTypeImplement and IsAlias -/
theorem loopM_choose_prov {σ : Type} (c : FDCtx) (f : Nat → Val → Env → σ → Option (Env × σ × Ctl)) (rest : Env) (w : σ)
    (hf : ∀ i m c', f i (.ref m 0) (("candidate", .ref c' 0) :: rest) w =
        if provPrimary c m then some (("candidate", .ref m 0) :: rest, w, .brk)
        else if !provCustom c m then some (("candidate", .ref m 0) :: rest, w, .norm)
        else some (("candidate", .ref c' 0) :: rest, w, .norm)) :
    ∀ (vs : List Nat) (i c' : Nat), loopM f i (vs.map encId) (("candidate", .ref c' 0) :: rest) w =
      some (("candidate", .ref (chooseGo c.byId vs c') 0) :: rest, w, .norm) :=
  loopM_choose c.byId f rest w fun i m c' => by
    simp only [encId, hf]; unfold provPrimary provCustom; cases c.byId m <;> rfl

/-! ### `narrow` factors through `filterDeps` -/

theorem narrow_eq_filterDeps (byId : Nat → Option Prov) (holder : Nat) (k : Kind) (args : Args) (cs : List (Option Nat)) :
    narrow byId holder k args cs =
      match filterDeps ⟨byId, holder, k, args⟩ cs with
      | some l => .ok l
      | none => if isRequired args then .fail else .skip := by
  have core : ∀ r2 : List Nat,
      (if r2.isEmpty then (if isRequired args then Narrowed.fail else Narrowed.skip)
       else if r2.length > 1 && k.isSingle then
         (match choose byId (if (r2.filter (· != holder)).isEmpty then r2 else r2.filter (· != holder)) with
          | some c => Narrowed.ok [c]
          | none => Narrowed.ok (if (r2.filter (· != holder)).isEmpty then r2 else r2.filter (· != holder)))
       else Narrowed.ok r2) =
      (match (if r2.isEmpty then none
              else if r2.length > 1 && k.isSingle then
                (match choose byId (if (r2.filter (· != holder)).isEmpty then r2 else r2.filter (· != holder)) with
                 | some x => some [x]
                 | none => some (if (r2.filter (· != holder)).isEmpty then r2 else r2.filter (· != holder)))
              else some r2 : Option (List Nat)) with
       | some l => Narrowed.ok l
       | none => if isRequired args then Narrowed.fail else Narrowed.skip) := by
    intro r2
    by_cases h2 : r2.isEmpty
    · simp [h2]
    · simp only [h2, if_false, Bool.false_eq_true]
      by_cases h3 : (decide (r2.length > 1) && k.isSingle) = true
      · simp only [h3, if_true]
        cases choose byId (if (r2.filter (· != holder)).isEmpty then r2 else r2.filter (· != holder)) <;> rfl
      · simp [h3]
  unfold narrow filterDeps
  by_cases h1 : (cs.filterMap id).isEmpty
  · simp [h1]
  · simp only [h1, if_false, Bool.false_eq_true]
    cases hfind : find args kQualifier with
    | none => exact core _
    | some v => exact core _

def fdR3 (c : FDCtx) (r : List Nat) : List Nat :=
  if (r.filter (· != c.holder)).isEmpty then r else r.filter (· != c.holder)

/-- statement 3 on the model: one candidate where a single value is wanted and several are left -/
def fdPick (c : FDCtx) (r : List Nat) : List Nat :=
  if r.length > 1 && c.kind.isSingle then (match choose c.byId (fdR3 c r) with | some x => [x] | none => fdR3 c r) else r

theorem filterDeps_pick (c : FDCtx) (cs : List (Option Nat)) : filterDeps c cs =
    let r1 := cs.filterMap id
    if r1.isEmpty then none
    else
      let r2 := match find c.args kQualifier with
        | some _ => r1.filter (qualOk c)
        | none => r1
      if r2.isEmpty then none else some (fdPick c r2) := by
  have core (r : List Nat) :
      (if r.length > 1 && c.kind.isSingle then
        (match choose c.byId (fdR3 c r) with | some x => some [x] | none => some (fdR3 c r)) else some r) =
      some (fdPick c r) := by
    unfold fdPick
    split
    · cases choose c.byId (fdR3 c r) <;> rfl
    · rfl
  unfold filterDeps
  cases find c.args kQualifier <;> dsimp only <;> repeat (split; · rfl)
  all_goals exact core _

def fdTail : List Stmt := Progs.filterDependencies.body.drop 3

theorem fd_tail (c : FDCtx) (cs : List (Option Nat)) (r : List Nat) :
    evalB (fdPrims c) [("result", .list (r.map encId)), ("n", .ref 0 1), ("metas", .list (cs.map encOptId))] () fdTail =
      some ([("result", .list ((fdPick c r).map encId)), ("n", .ref 0 1), ("metas", .list (cs.map encOptId))], (),
            .ret (.tuple [.list ((fdPick c r).map encId), .nil])) := by
  unfold fdPick fdR3
  rcases ho : r.filter (fun x => !(x == c.holder)) with _ | ⟨a, t⟩
  case' nil => rcases r with _ | ⟨m, rest⟩
  all_goals simp [go_eval, fdTail, Progs.filterDependencies, ↓filterVal_pure encId (fun x => !(x == c.holder)), ↓kind_slice, ↓kind_array,
    rangeIter, loopM_choose_prov c, encId, bne, ho, Kind.isSingle, choose, one_lt_natCast, one_lt_natCast_succ,
    natCast_succ_ne_zero, -List.map_cons]
  all_goals repeat' split
  all_goals simp_all [encId]

/-- the regenerated program of filterDependencies computes `filterDeps` -/
theorem filterDependencies_sem (c : FDCtx) (cs : List (Option Nat)) :
    run (fdPrims c) Progs.filterDependencies [.ref 0 1, .list (cs.map encOptId)] () = some (encFD (filterDeps c cs), ()) := by
  rw [run_eq, show Progs.filterDependencies.body = Progs.filterDependencies.body.take 3 ++ fdTail from rfl, filterDeps_pick]
  simp [go_eval, Progs.filterDependencies, ↓filterVal_nonnil, encId, ↓filterVal_pure encId (qualOk c), and_pure, fdFn_has, isSome_and_qualOk, fd_tail]
  cases find c.args kQualifier <;> simp [encFD] <;> repeat' split
  all_goals simp_all

def fdStmt (i : Nat) : Stmt := Progs.filterDependencies.body.getD i .brk

theorem fd_body : Progs.filterDependencies.body = [fdStmt 0, fdStmt 1, fdStmt 2, fdStmt 3, fdStmt 4] := rfl
theorem fd_params : Progs.filterDependencies.params = ["n", "metas"] := rfl

end Ioc.Sem
