/-
  The regenerated per-property loop of the narrowing processor computes `Sem.fmLoop`.
-/
import Ioc.SemMatchLoop
import IocProofs.Lemmas.SemMatch
namespace Ioc.Sem
open Ioc Ioc.Go Ioc.Match Ioc.Tag

attribute [local go_eval] fmFn.eq_1 fmFn.eq_2 fmFn.eq_3 fmFn.eq_4 fmFn.eq_5 fmFn.eq_6 fmFn.eq_7 fmFn.eq_8 fmFn.eq_9
@[local go_eval] theorem fmPrims_fn (ps : List PropInfo) : (fmPrims ps).fn = fmFn ps := rfl


theorem decIds_map (l : List Nat) : decIds (l.map encId) = some l := by
  induction l with
  | nil => rfl
  | cons a t ih => simp [decIds, List.mapM_cons, encId] at ih ⊢; rw [ih]; rfl

/-- how one iteration ends: `continue` for a skipped property, falling off the end otherwise, `return` on a required miss -/
def fmCtl (p : PropInfo) : Ctl :=
  if !p.isComponent then .cont else
  match filterDeps p.ctx p.injects with
  | some _ => .norm
  | none => if isRequired p.ctx.args then .ret (.tuple [.nil, errV]) else .cont

theorem fmCtl_cases (p : PropInfo) (k : Nat) (w : List (Nat × List Nat)) :
    ((fmStep p k w).isSome = true ∧ (fmCtl p = .norm ∨ fmCtl p = .cont)) ∨
    ((fmStep p k w) = none ∧ fmCtl p = .ret (.tuple [.nil, errV])) := by
  unfold fmStep fmCtl
  cases p.isComponent <;> simp
  cases filterDeps p.ctx p.injects <;> simp
  cases isRequired p.ctx.args <;> simp

/-- the per-property loop: a failing required point returns, everything else continues -/
theorem loopM_fm (ps : List PropInfo) (f : Nat → Val → Env → List (Nat × List Nat) → Option (Env × List (Nat × List Nat) × Ctl))
    (env : Env)
    (hf : ∀ i k w p, ps[k]? = some p → f i (.ref k 20) env w =
      some (env, (fmStep p k w).getD w, fmCtl p)) :
    ∀ (suffix : List PropInfo) (k i : Nat) (w : List (Nat × List Nat)), ps.drop k = suffix →
      loopM f i ((List.range' k suffix.length).map (fun j => Val.ref j 20)) env w =
        some (env, (fmLoop suffix k w).1, if (fmLoop suffix k w).2 then Ctl.ret (.tuple [.nil, errV]) else Ctl.norm) := by
  intro suffix
  induction suffix with
  | nil => intro k i w _; simp [loopM, fmLoop]
  | cons p rest ih =>
    intro k i w hd
    have hp : ps[k]? = some p := by
      have := congrArg List.head? hd
      simpa [List.head?_drop] using this
    have hrest : ps.drop (k + 1) = rest := by
      have := congrArg List.tail hd
      simpa [List.tail_drop] using this
    simp only [List.length_cons, List.range'_succ, List.map_cons, loopM, hf i k w p hp, fmLoop]
    rcases fmCtl_cases p k w with ⟨hs, hc | hc⟩ | ⟨hs, hc⟩
    · obtain ⟨w', hw'⟩ := Option.isSome_iff_exists.mp hs
      simp [hc, hw', ih (k + 1) (i + 1) w' hrest]
    · obtain ⟨w', hw'⟩ := Option.isSome_iff_exists.mp hs
      simp [hc, hw', ih (k + 1) (i + 1) w' hrest]
    · simp [hc, hs]

def fmBody : List Stmt :=
  match Progs.furtherMatching_PostProcessProperties.body with
  | [.range _ _ _ b, _] => b
  | _ => []
theorem fm_shape : Progs.furtherMatching_PostProcessProperties.body =
    [.range "_" "prop" (.var "properties") fmBody, .ret [.nil, .nil]] := rfl
theorem fm_params : Progs.furtherMatching_PostProcessProperties.params = ["properties", "component", "componentName"] := rfl

def fmEnv (n : Nat) : Env :=
  [("properties", .list ((List.range' 0 n).map (fun j => Val.ref j 20))), ("component", .nil), ("componentName", .nil)]

theorem isComponent_ne (b : Bool) : valEq (.int (if b then 0 else 1)) (.int 0) = some b := by cases b <;> rfl

theorem fm_iter (ps : List PropInfo) (i k : Nat) (w : List (Nat × List Nat)) (p : PropInfo) (hp : ps[k]? = some p) :
    rangeIter (fmPrims ps) "_" "prop" fmBody i (.ref k 20) (fmEnv ps.length) w =
      some (fmEnv ps.length, (fmStep p k w).getD w, fmCtl p) := by
  have hpa : propAt ps k = some p := hp
  unfold fmStep fmCtl
  cases hfd : filterDeps p.ctx p.injects <;>
    simp [go_eval, rangeIter, fmBody, Progs.furtherMatching_PostProcessProperties, fmEnv, hpa, hfd, encFD, errV, decIds_map,
      ↓isComponent_ne]
  all_goals repeat' split
  all_goals simp_all

/-- the per-property loop of the narrowing processor, regenerated: `fmLoop` -/
theorem furtherMatching_sem (ps : List PropInfo) :
    run (fmPrims ps) Progs.furtherMatching_PostProcessProperties [fmEnv ps.length |>.head!.2, .nil, .nil] [] =
      some (if (fmLoop ps 0 []).2 then .tuple [.nil, errV] else .tuple [.nil, .nil], (fmLoop ps 0 []).1) := by
  have hloop := loopM_fm ps _ (fmEnv ps.length) (fm_iter ps) ps 0 0 [] (by simp)
  simp only [fmBody, Progs.furtherMatching_PostProcessProperties, fmEnv] at hloop
  simp [go_eval, Progs.furtherMatching_PostProcessProperties, fmEnv, hloop, List.head!]
  split <;> rfl

end Ioc.Sem
