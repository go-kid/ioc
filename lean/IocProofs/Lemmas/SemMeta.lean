/-
  Semantic theorems for the REGENERATED naming helper and small Meta methods (interpretation: Ioc.SemMeta).
-/
import Ioc.SemMeta
import IocProofs.Lemmas.GoEval
namespace Ioc.Sem
open Ioc Ioc.Go

attribute [local go_eval] nameFn.eq_1 nameFn.eq_2 nameFn.eq_3 nameFn.eq_4 nameFn.eq_5 nameFn.eq_6 nameFn.eq_7 nameFn.eq_8 nameFn.eq_9
  nameFn.eq_10 nameFn.eq_11 nameFn.eq_12 nameFn.eq_13 nameFn.eq_14
  metaFn.eq_1 metaFn.eq_2 metaFn.eq_3 metaFn.eq_4 metaFn.eq_5 metaFn.eq_6 metaFn.eq_7 metaFn.eq_8 metaFn.eq_9 metaFn.eq_10 metaFn.eq_11
  metaFn.eq_12 metaFn.eq_13 metaFn.eq_14 metaFn.eq_15 metaFn.eq_16 metaFn.eq_17 metaFn.eq_18 metaFn.eq_19 metaFn.eq_20 metaFn.eq_21
  metaFn.eq_22

section naming
variable (tyName : Nat → String) (naming namingZero : Nat → Option String)

@[local go_eval] theorem namePrims_fn : (namePrims tyName naming namingZero).fn = nameFn tyName naming namingZero := rfl

/-- the component itself, or a reflect.Value of it: the type-derived id and what ITS Naming() answers ("" without the method) -/
theorem nameWithAlias_component_sem (i : Nat) :
    run (namePrims tyName naming namingZero) Progs.name_GetComponentNameWithAlias [.ref i 50] () =
      some (.tuple [.str (tyName i), .str ((naming i).getD "")], ()) ∧
    run (namePrims tyName naming namingZero) Progs.name_GetComponentNameWithAlias [.ref i 10] () =
      some (.tuple [.str (tyName i), .str ((naming i).getD "")], ()) := by
  constructor <;> simp [go_eval, Progs.name_GetComponentNameWithAlias] <;> cases naming i <;> simp

/-- a reflect.Type: the same id, and the Naming() of a FRESH ZERO instance of the type -/
theorem nameWithAlias_type_sem (i : Nat) :
    run (namePrims tyName naming namingZero) Progs.name_GetComponentNameWithAlias [.ref i 11] () =
      some (.tuple [.str (tyName i), .str ((namingZero i).getD "")], ()) := by
  simp [go_eval, Progs.name_GetComponentNameWithAlias]
  cases namingZero i <;> simp

/-- the registered name: the custom name when it is not empty, else the type-derived id -/
theorem componentName_sem (n a : String) (t : Val) :
    run (name2Prims n a) Progs.name_GetComponentName [t] () = some (.str (if a != "" then a else n), ()) := by
  have hfn (f : String) (args : List Val) (w : Unit) : (name2Prims n a).fn f args w =
      match f, args with
      | "GetComponentNameWithAlias", [_] => some (.tuple [.str n, .str a], w)
      | _, _ => none := rfl
  simp [go_eval, Progs.name_GetComponentName, hfn]
  split <;> rfl

end naming

section metaops
variable (idOf nameOf : Nat → String) (isComp : Nat → Bool)

abbrev MP := metaPrims idOf nameOf isComp

@[local go_eval] theorem MP_fn : (MP idOf nameOf isComp).fn = metaFn idOf nameOf isComp := rfl

theorem metaIsAlias_sem (w : MW) : run (MP idOf nameOf isComp) Progs.meta_IsAlias [] w = some (.bool (w.alias != ""), w) := by
  simp [go_eval, Progs.meta_IsAlias, bne]

theorem metaName_sem (w : MW) :
    run (MP idOf nameOf isComp) Progs.meta_Name [] w = some (.str (if w.alias != "" then w.alias else w.name), w) := by
  simp [go_eval, Progs.meta_Name]
  split <;> rfl

theorem metaSetName_sem (n : String) (w : MW) :
    run (MP idOf nameOf isComp) Progs.meta_SetName [.str n] w =
      some (.tuple [], if n != w.name then { w with alias := n } else w) := by
  simp [go_eval, Progs.meta_SetName]
  split <;> rfl

/-- `append` to a slice that is nil while it is empty -/
theorem metaFn_append {α : Type} (f : α → Val) (l : List α) (x : α) (w : MW) :
    metaFn idOf nameOf isComp "append" [if l = [] then .nil else .list (l.map f), f x] w = some (.list ((l ++ [x]).map f), w) := by
  cases l <;> simp [metaFn.eq_12, metaFn.eq_13]

/-- dependOn: a holder is recorded once per ID, in the order of first recording -/
theorem metaDependOn_sem (d : Nat) (w : MW) :
    run (MP idOf nameOf isComp) Progs.meta_dependOn [.ref d 0] w =
      some (.tuple [], if w.depSet.contains (idOf d) then w
                       else { w with dependent := w.dependent ++ [d], depSet := w.depSet ++ [idOf d] }) := by
  by_cases hm : idOf d ∈ w.depSet <;> simp [go_eval, Progs.meta_dependOn, metaFn_append, hm]
  simpa using decDeps_map (w.dependent ++ [d])

def gdBody : List Stmt := match Progs.meta_GetDependents.body with | [_, .range _ _ _ b, _] => b | _ => []
theorem gd_shape : Progs.meta_GetDependents.body =
    [.define ["names"] .nil, .range "_" "meta" (.glob "self.Dependent") gdBody, .ret [.var "names"]] := rfl

def gdStep (d : Nat) (acc : List String) (w : MW) : List String × MW × Option Val := (acc ++ [nameOf d], w, none)

theorem gdStep_loop (ds : List Nat) (acc : List String) (w : MW) :
    stepLoop (gdStep nameOf) ds acc w = (acc ++ ds.map nameOf, w, none) := by
  induction ds generalizing acc with
  | nil => simp [stepLoop]
  | cons d rest ih => simp [stepLoop, gdStep, ih]

theorem encStrs_eq (l : List String) : encStrs l = if l = [] then .nil else .list (l.map Val.str) := by
  cases l <;> rfl

/-- GetDependents: the names of the recorded holders, in the order of recording (nil when there is none) -/
theorem metaGetDependents_sem (w : MW) :
    run (MP idOf nameOf isComp) Progs.meta_GetDependents [] w = some (encStrs (w.dependent.map nameOf), w) := by
  have hloop := loopM_rounds (fun d => Val.ref d 0) (rangeIter (MP idOf nameOf isComp) "_" "meta" gdBody)
    (fun acc => [("names", encStrs acc)]) (gdStep nameOf) (by
      intro i d acc w
      simp [go_eval, rangeIter, gdBody, Progs.meta_GetDependents, encStrs_eq, metaFn_append, gdStep, ctlOf])
    w.dependent 0 [] w
  simp only [gdBody, Progs.meta_GetDependents, gdStep_loop, List.nil_append, show encStrs [] = Val.nil from rfl] at hloop
  simp [go_eval, Progs.meta_GetDependents, answer_ite, hloop, ctlOf]
  intro h
  rw [h]; rfl

def spBody : List Stmt := match Progs.meta_SetProperties.body with | [.range _ _ _ b] => b | _ => []
theorem sp_shape : Progs.meta_SetProperties.body = [.range "_" "prop" (.var "properties") spBody] := rfl

def spStep (i : Nat) (_ : Unit) (w : MW) : Unit × MW × Option Val :=
  ((), if isComp i then { w with comp := w.comp ++ [i] } else { w with conf := w.conf ++ [i] }, none)

theorem spStep_loop (ps : List Nat) (w : MW) :
    stepLoop (spStep isComp) ps () w =
      ((), { w with comp := w.comp ++ ps.filter isComp, conf := w.conf ++ ps.filter (fun i => !isComp i) }, none) := by
  induction ps generalizing w with
  | nil => simp [stepLoop]
  | cons i rest ih =>
    simp only [stepLoop, spStep]
    cases hi : isComp i <;> simp [ih, hi]

/-- SetProperties: EVERY property handed over is appended to the group of its type, in the order given — nothing is dropped,
    whatever the field name or tag of a property -/
theorem metaSetProperties_sem (ps : List Nat) (w : MW) :
    run (MP idOf nameOf isComp) Progs.meta_SetProperties [.list (ps.map (fun i => Val.ref i 20))] w =
      some (.tuple [], { w with comp := w.comp ++ ps.filter isComp, conf := w.conf ++ ps.filter (fun i => !isComp i) }) := by
  have hloop (e : Env) := loopM_rounds (fun i => Val.ref i 20) (rangeIter (MP idOf nameOf isComp) "_" "prop" spBody)
    (fun _ : Unit => e) (spStep isComp) (by
      intro j i _ w
      have hp (l : List Nat) : decProps (l.map (fun i => Val.ref i 20) ++ [.ref i 20]) = l ++ [i] := by
        simpa using decProps_map (l ++ [i])
      cases hi : isComp i <;>
        simp [go_eval, rangeIter, spBody, Progs.meta_SetProperties, encProps, metaFn_append, hp, spStep, ctlOf, hi])
    ps 0 () w
  simp only [spBody, Progs.meta_SetProperties] at hloop
  simp [go_eval, Progs.meta_SetProperties, hloop, spStep_loop, ctlOf]

theorem metaGetComponentProperties_sem (w : MW) :
    run (MP idOf nameOf isComp) Progs.meta_GetComponentProperties [] w = some (encProps w.comp, w) := by
  simp [go_eval, Progs.meta_GetComponentProperties]

end metaops
end Ioc.Sem
