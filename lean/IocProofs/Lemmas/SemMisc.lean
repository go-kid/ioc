/-
  The remaining regenerated programs: fas.Filter (= List.filter, what the interpreter's `filter` form assumes), the three
  one-line stage wrappers of App, and the delegate's short-circuit creation path (applyPostProcessBeforeInstantiation,
  ResolveBeforeInstantiation).  Interpretations of their primitives are defined here, next to the proofs.
-/
import Ioc.SemDelegate
import IocProofs.Lemmas.GoEval
namespace Ioc.Sem
open Ioc Ioc.Go Ioc.Order


section filter
def filterFn (g : Nat → Bool) : String → List Val → Unit → Option (Val × Unit)
  | ".call", [.str "f", .int n], w => some (.bool (g n.toNat), w)
  | "append", [.list vs, v], w => some (.list (vs ++ [v]), w)
  | _, _, _ => none
def filterPrims (g : Nat → Bool) : Prims Unit := { fn := filterFn g }

def encInts (l : List Nat) : Val := .list (l.map (fun (n : Nat) => Val.int n))

def flBody : List Stmt := match Progs.fas_Filter.body with | [_, .range _ _ _ b, _] => b | _ => []
theorem fl_shape : Progs.fas_Filter.body =
    [.define ["result"] (.sliceLit []), .range "_" "i" (.var "x") flBody, .ret [.var "result"]] := rfl
theorem fl_params : Progs.fas_Filter.params = ["x", "f"] := rfl

def flStep (g : Nat → Bool) (n : Nat) (acc : List Nat) (w : Unit) : List Nat × Unit × Option Val :=
  (if g n then acc ++ [n] else acc, w, none)

theorem flStep_loop (g : Nat → Bool) (xs acc : List Nat) :
    stepLoop (flStep g) xs acc () = (acc ++ xs.filter g, (), none) := by
  induction xs generalizing acc with
  | nil => simp [stepLoop]
  | cons x xs ih =>
    simp only [stepLoop, flStep, List.filter_cons]
    cases hg : g x <;> simp [ih]

attribute [local go_eval] filterFn.eq_1 filterFn.eq_2
@[local go_eval] theorem filterPrims_fn (g : Nat → Bool) : (filterPrims g).fn = filterFn g := rfl

/-- fas.Filter, regenerated: `List.filter` — for every slice and every predicate (what the special form `filter` of the
    interpreter, `filterM`, assumes of it) -/
theorem fasFilter_sem (g : Nat → Bool) (l : List Nat) :
    run (filterPrims g) Progs.fas_Filter [encInts l, .str "f"] () = some (encInts (l.filter g), ()) := by
  have hloop := loopM_state (fun n : Nat => Val.int n) (rangeIter (filterPrims g) "_" "i" flBody)
    (fun acc => [("result", encInts acc), ("x", encInts l), ("f", .str "f")]) (flStep g) (by
      intro i n acc w
      simp [go_eval, rangeIter_blank, flBody, Progs.fas_Filter, encInts, flStep, ctlOf]
      cases g n <;> simp) l 0 []
  simp only [flBody, Progs.fas_Filter, encInts, List.map_nil] at hloop
  simp [go_eval, Progs.fas_Filter, encInts, hloop, flStep_loop, ctlOf]
end filter

section stages
def stageFn (callee : String) (fails : Bool) : String → List Val → List String → Option (Val × List String)
  | "errors.WithMessage", [_, _], w => some (errN, w)
  | f, [], w => if f = callee then some (if fails then .str "cause" else .nil, w ++ [f]) else none
  | _, _, _ => none
def stagePrims (callee : String) (fails : Bool) : Prims (List String) := { fn := stageFn callee fails }

attribute [local go_eval] stageFn.eq_1 stageFn.eq_2
@[local go_eval] theorem stagePrims_fn (callee : String) (fails : Bool) : (stagePrims callee fails).fn = stageFn callee fails := rfl

/-- the three one-line stage wrappers, regenerated: each calls exactly its stage and returns an error iff the stage did -/
theorem stageWrappers_sem (fails : Bool) :
    run (stagePrims "self.Configure.Initialize" fails) Progs.app_initConfiguration [] [] =
      some (if fails then errN else .nil, ["self.Configure.Initialize"]) ∧
    run (stagePrims "self.Factory.PrepareComponents" fails) Progs.app_initFactory [] [] =
      some (if fails then errN else .nil, ["self.Factory.PrepareComponents"]) ∧
    run (stagePrims "self.Factory.Refresh" fails) Progs.app_refresh [] [] =
      some (if fails then errN else .nil, ["self.Factory.Refresh"]) := by
  cases fails <;> simp [go_eval, Progs.app_initConfiguration, Progs.app_initFactory, Progs.app_refresh, errN]
end stages


section before
variable (procs : List Nat) (isInst : Nat → Bool) (bi : Nat → Res Nat)

def abiFn : String → List Val → List Nat → Option (Val × List Nat)
  | "$self.componentPostProcessors", [], w => some (.list (procs.map encP), w)
  | "assert2:container.InstantiationAwareComponentPostProcessor", [.ref p 0], w => some (.tuple [.ref p 1, .bool (isInst p)], w)
  | ".PostProcessBeforeInstantiation", [.ref p 1, _, _], w => some (encRes (bi p), w ++ [p])
  | "errors.Wrapf", _, w => some (errN, w)
  | _, _, _ => none
def abiPrims : Prims (List Nat) := { fn := abiFn procs isInst bi }

attribute [local go_eval] abiFn.eq_1 abiFn.eq_2 abiFn.eq_3 abiFn.eq_4
@[local go_eval] theorem abiPrims_fn : (abiPrims procs isInst bi).fn = abiFn procs isInst bi := rfl

/-- the model: the InstantiationAware processors are asked in list order until one fails or hands out a component -/
def abiLoop : List Nat → List Nat × Res Nat
  | [] => ([], .nil)
  | p :: rest =>
    if isInst p then
      match bi p with
      | .err => ([p], .err)
      | .val c => ([p], .val c)
      | .nil => (p :: (abiLoop rest).1, (abiLoop rest).2)
    else abiLoop rest

def abiStep (p : Nat) (t : Res Nat) (w : List Nat) : Res Nat × List Nat × Option Val :=
  if isInst p then
    match bi p with
    | .err => (.err, w ++ [p], some (.tuple [.nil, errN]))
    | .val c => (.val c, w ++ [p], some (.tuple [encC c, .nil]))
    | .nil => (.nil, w ++ [p], none)
  else (t, w, none)

def isNilRes : Res Nat → Prop
  | .nil => True
  | _ => False

theorem abiStep_loop (ps : List Nat) (w : List Nat) :
    stepLoop (abiStep isInst bi) ps .nil w =
      ((abiLoop isInst bi ps).2, w ++ (abiLoop isInst bi ps).1,
        match (abiLoop isInst bi ps).2 with
        | .err => some (.tuple [.nil, errN])
        | .val c => some (.tuple [encC c, .nil])
        | .nil => none) := by
  induction ps generalizing w with
  | nil => simp [stepLoop, abiLoop]
  | cons p rest ih =>
    by_cases hi : isInst p = true
    · obtain hb | ⟨c, hb⟩ | hb : bi p = .err ∨ (∃ c, bi p = .val c) ∨ bi p = .nil := by
        cases bi p <;> simp
      · simp [stepLoop, abiStep, abiLoop, hi, hb]
      · simp [stepLoop, abiStep, abiLoop, hi, hb]
      · simp [stepLoop, abiStep, abiLoop, hi, hb, ih, List.append_assoc]
    · simp [stepLoop, abiStep, abiLoop, hi, ih]

def abiBody : List Stmt := match Progs.del_applyBeforeInstantiation.body with | [_, _, .range _ _ _ b, _] => b | _ => []
theorem abi_shape : Progs.del_applyBeforeInstantiation.body =
    [.define ["component"] .nil, .define ["err"] .nil,
     .range "_" "processor" (.glob "self.componentPostProcessors") abiBody, .ret [.var "component", .nil]] := rfl
theorem abi_params : Progs.del_applyBeforeInstantiation.params = ["meta", "name"] := rfl

def envABI : Res Nat → Env
  | .nil => [("err", .nil), ("component", .nil), ("meta", .str "meta"), ("name", .str "n")]
  | .err => [("err", errN), ("component", .nil), ("meta", .str "meta"), ("name", .str "n")]
  | .val c => [("err", .nil), ("component", encC c), ("meta", .str "meta"), ("name", .str "n")]

theorem envABI_length (t : Res Nat) : (envABI t).length = 4 := by cases t <;> rfl

theorem abiStep_inv (p : Nat) (t : Res Nat) (w : List Nat) (ht : isNilRes t) (h : (abiStep isInst bi p t w).2.2 = none) :
    isNilRes (abiStep isInst bi p t w).1 := by
  cases t with
  | err => exact absurd ht (by simp [isNilRes])
  | val c => exact absurd ht (by simp [isNilRes])
  | nil =>
    simp only [abiStep] at h ⊢
    by_cases hi : isInst p = true
    · obtain hb | ⟨c, hb⟩ | hb : bi p = .err ∨ (∃ c, bi p = .val c) ∨ bi p = .nil := by
        cases bi p <;> simp
      · simp [hi, hb] at h
      · simp [hi, hb] at h
      · simp [hi, hb, isNilRes]
    · simp [hi, isNilRes]

/-- applyPostProcessBeforeInstantiation, regenerated: the InstantiationAware processors in list order until one fails or
    hands out a component (the short-circuit creation path) -/
theorem applyBeforeInstantiation_sem (w : List Nat) :
    run (abiPrims procs isInst bi) Progs.del_applyBeforeInstantiation [.str "meta", .str "n"] w =
      some (encRes (abiLoop isInst bi procs).2, w ++ (abiLoop isInst bi procs).1) := by
  have hloop := loopM_state_inv encP (rangeIter (abiPrims procs isInst bi) "_" "processor" abiBody)
    envABI (abiStep isInst bi) isNilRes (by
      intro i p t w ht
      cases t <;> simp only [isNilRes] at ht
      cases hb : bi p <;>
        simp [go_eval, rangeIter_blank, abiBody, Progs.del_applyBeforeInstantiation, envABI, encP, encC, encRes, abiStep, hb,
          ctlOf, errN] <;>
        cases isInst p <;> rfl)
    (fun x t w' ht h => abiStep_inv isInst bi x t w' ht h) procs 0 .nil w trivial
  simp only [abiBody, Progs.del_applyBeforeInstantiation, envABI] at hloop
  simp [go_eval, Progs.del_applyBeforeInstantiation, hloop, abiStep_loop]
  cases (abiLoop isInst bi procs).2 <;> simp [go_eval, encRes, errN, encC]

end before

section rbi
/-- `bi`: what applyPostProcessBeforeInstantiation answers; `af c`: what applyPostProcessAfterInitialization answers for c
    (`none` = error) -/
def rbiFn (hasInst : Bool) (bi : Res Nat) (af : Nat → Option Nat) : String → List Val → List String → Option (Val × List String)
  | "$self.hasInstantiationAwareComponentPostProcessor", [], w => some (.bool hasInst, w)
  | "self.applyPostProcessBeforeInstantiation", [_, _], w => some (encRes bi, w ++ ["before-instantiation"])
  | "self.applyPostProcessAfterInitialization", [.ref c 50, _], w =>
      some (match af c with | none => .tuple [.nil, errN] | some c' => .tuple [encC c', .nil], w ++ ["after-initialization"])
  | _, _, _ => none
def rbiPrims (hasInst : Bool) (bi : Res Nat) (af : Nat → Option Nat) : Prims (List String) := { fn := rbiFn hasInst bi af }

def rbiModel (hasInst : Bool) (bi : Res Nat) (af : Nat → Option Nat) : Res Nat × List String :=
  if hasInst then
    match bi with
    | .err => (.err, ["before-instantiation"])
    | .nil => (.nil, ["before-instantiation"])
    | .val c =>
      match af c with
      | none => (.err, ["before-instantiation", "after-initialization"])
      | some c' => (.val c', ["before-instantiation", "after-initialization"])
  else (.nil, [])

attribute [local go_eval] rbiFn.eq_1 rbiFn.eq_2 rbiFn.eq_3
@[local go_eval] theorem rbiPrims_fn (hasInst : Bool) (bi : Res Nat) (af : Nat → Option Nat) :
    (rbiPrims hasInst bi af).fn = rbiFn hasInst bi af := rfl

/-- ResolveBeforeInstantiation, regenerated: nothing without an InstantiationAware processor; otherwise the
    before-instantiation chain, and a component handed out by it goes through the after-initialization chain only -/
theorem resolveBeforeInstantiation_sem (hasInst : Bool) (bi : Res Nat) (af : Nat → Option Nat) :
    run (rbiPrims hasInst bi af) Progs.del_ResolveBeforeInstantiation [.str "meta", .str "n"] [] =
      some (encRes (rbiModel hasInst bi af).1, (rbiModel hasInst bi af).2) := by
  -- what the two chains hand back decides how the program goes on
  rcases bi with _ | _ | c
  all_goals simp [go_eval, Progs.del_ResolveBeforeInstantiation, rbiModel, encRes, encC, errN]
  case val => cases af c <;> simp [go_eval] <;> cases hasInst <;> rfl
  all_goals cases hasInst <;> rfl
end rbi
end Ioc.Sem
