/-
  Semantic theorems for the REGENERATED option constructors of package container (interpretation: Ioc.SemOptions).
-/
import Ioc.SemOptions
import IocProofs.Lemmas.GoEval
namespace Ioc.Sem
open Ioc Ioc.Go

attribute [local go_eval] optFn.eq_1 optFn.eq_2 optFn.eq_3 optFn.eq_4 optFn.eq_5 optFn.eq_6 optFn.eq_7 optFn.eq_8 optFn.eq_9 optFn.eq_10
  optFn.eq_11 optFn.eq_12 optFn.eq_13 optFn.eq_14 optFn.eq_15 optFn.eq_16

section opts
variable (m : OMeta) (fnName : String) (ans : Nat → Bool) (parseOk : String → Bool)

abbrev OP := optPrims m fnName ans parseOk

@[local go_eval] theorem OP_fn : (OP m fnName ans parseOk).fn = optFn m fnName ans parseOk := rfl

theorem type_sem (t : Nat) :
    run (OP m fnName ans parseOk) Progs.opt_Type [.ref t 93, .ref 0 0] () = some (.bool (m.ty == t), ()) := by
  simp [go_eval, Progs.opt_Type]

theorem interfaceType_sem (i : Nat) :
    run (OP m fnName ans parseOk) Progs.opt_InterfaceType [.ref i 94, .ref 0 0] () = some (.bool (m.implements i), ()) := by
  simp [go_eval, Progs.opt_InterfaceType]

theorem funcName_sem :
    run (OP m fnName ans parseOk) Progs.opt_FuncName [.str fnName, .ref 0 0] () = some (.bool (optFuncName m fnName), ()) := by
  cases hf : m.find fnName <;> simp [go_eval, Progs.opt_FuncName, optFuncName, hf, encMethOpt]
  split <;> simp_all

theorem funcNameAndResult_sem (res : String) :
    run (OP m fnName ans parseOk) Progs.opt_FuncNameAndResult [.str fnName, .str res, .ref 0 0] () =
      some (.bool (optFuncNameAndResult m fnName res), ()) := by
  rcases hf : m.find fnName with _ | x <;>
    simp [go_eval, Progs.opt_FuncNameAndResult, optFuncNameAndResult, hf, answer_ite, List.getElem?_replicate]
  have hlen (k : Nat) : ¬ ((k : Int) + 1 < 1) := by omega
  by_cases hin : x.numIn = 0 <;> by_cases hs : res = "*" <;> cases x.numOut <;> simp [hin, hs, hlen]

def orBody : List Stmt := match Progs.opt_Or.body with | [.range _ _ _ b, _] => b | _ => []
theorem or_shape : Progs.opt_Or.body = [.range "_" "opt" (.var "opts") orBody, .ret [.bool false]] := rfl
def andBody : List Stmt := match Progs.opt_And.body with | [.range _ _ _ b, _] => b | _ => []
theorem and_shape : Progs.opt_And.body = [.range "_" "opt" (.var "opts") andBody, .ret [.bool true]] := rfl

def orStep (i : Nat) (_ : Unit) (w : Unit) : Unit × Unit × Option Val := ((), w, if ans i then some (.bool true) else none)
def andStep (i : Nat) (_ : Unit) (w : Unit) : Unit × Unit × Option Val := ((), w, if ans i then none else some (.bool false))

theorem orStep_loop (opts : List Nat) : stepLoop (orStep ans) opts () () = ((), (), if opts.any ans then some (.bool true) else none) := by
  induction opts with
  | nil => rfl
  | cons i rest ih => cases ha : ans i <;> simp [stepLoop, orStep, ha, ih]

theorem andStep_loop (opts : List Nat) : stepLoop (andStep ans) opts () () = ((), (), if opts.all ans then none else some (.bool false)) := by
  induction opts with
  | nil => rfl
  | cons i rest ih => cases ha : ans i <;> simp [stepLoop, andStep, ha, ih]

theorem or_sem (opts : List Nat) :
    run (OP m fnName ans parseOk) Progs.opt_Or [.list (opts.map (fun i => Val.ref i 95)), .ref 0 0] () = some (.bool (opts.any ans), ()) := by
  have hloop := loopM_rounds (fun i => Val.ref i 95) (rangeIter (OP m fnName ans parseOk) "_" "opt" orBody) (fun _ : Unit => [("opts", .list (opts.map fun i => Val.ref i 95)), ("m", .ref 0 0)])
    (orStep ans) (by
      intro j i _ w
      simp [go_eval, rangeIter, orBody, Progs.opt_Or, orStep, apply_ite ctlOf, ctlOf.eq_1, ctlOf.eq_2])
    opts 0 () ()
  simp only [orBody, Progs.opt_Or] at hloop
  simp [go_eval, Progs.opt_Or, hloop, orStep_loop, apply_ite ctlOf, ctlOf.eq_1, ctlOf.eq_2]
  split <;> simp_all

theorem and_sem (opts : List Nat) :
    run (OP m fnName ans parseOk) Progs.opt_And [.list (opts.map (fun i => Val.ref i 95)), .ref 0 0] () = some (.bool (opts.all ans), ()) := by
  have hloop := loopM_rounds (fun i => Val.ref i 95) (rangeIter (OP m fnName ans parseOk) "_" "opt" andBody) (fun _ : Unit => [("opts", .list (opts.map fun i => Val.ref i 95)), ("m", .ref 0 0)])
    (andStep ans) (by
      intro j i _ w
      simp [go_eval, rangeIter, andBody, Progs.opt_And, andStep, apply_ite ctlOf, ctlOf.eq_1, ctlOf.eq_2]
      cases ans i <;> rfl)
    opts 0 () ()
  simp only [andBody, Progs.opt_And] at hloop
  simp [go_eval, Progs.opt_And, hloop, andStep_loop, apply_ite ctlOf, ctlOf.eq_1, ctlOf.eq_2]
  split <;> simp_all

end opts
end Ioc.Sem
