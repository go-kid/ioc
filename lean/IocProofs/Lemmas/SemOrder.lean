/-
  The regenerated programs of util/framework_helper/order_component.go compute the ordering model M4:
  SortOrderedComponents = Order.sortOrdered (for every sort function), orderedComponentComparator = Order.less?.
-/
import Ioc.SemOrder
import IocProofs.Lemmas.GoEval
namespace Ioc.Sem
open Ioc Ioc.Go Ioc.Order

attribute [local go_eval] sortFn.eq_1 sortFn.eq_2 sortFn.eq_3 sortFn.eq_4 sortFn.eq_5 sortFn.eq_6 sortFn.eq_7 sortFn.eq_8 sortFn.eq_9
  cmpFn.eq_1 cmpFn.eq_2
@[local go_eval] theorem sortPrims_fn (sort : (Nat → Nat → Bool) → List Nat → List Nat) (part : Nat → Part) :
    (sortPrims sort part).fn = sortFn sort part := rfl
@[local go_eval] theorem cmpPrims_fn (part : Nat → Part) : (cmpPrims part).fn = cmpFn part := rfl

/-- orderedComponentComparator: `Order() < Order()`; a participant without Order() makes it panic (`less?`) -/
theorem comparator_sem (part : Nat → Part) (i j : Nat) :
    run (cmpPrims part) Progs.orderedComponentComparator [.ref i 0, .ref j 0] () =
      (less? part i j).map (fun b => (.bool b, ())) := by
  unfold less?
  cases hi : (part i).order? <;> cases hj : (part j).order? <;>
    simp [go_eval, Progs.orderedComponentComparator, hi, hj]

theorem decList_map (l : List Nat) : decList (l.map encR) = some l := by
  induction l with
  | nil => rfl
  | cons a t ih => simp [decList, List.mapM_cons, decR, encR] at ih ⊢; rw [ih]; rfl

def soStmt (i : Nat) : Stmt := Progs.sortOrderedComponents.body.getD i .brk
theorem so_body : Progs.sortOrderedComponents.body =
    [soStmt 0, soStmt 1, soStmt 2, soStmt 3, soStmt 4, soStmt 5, soStmt 6, soStmt 7, soStmt 8, soStmt 9, soStmt 10] := rfl
theorem so_params : Progs.sortOrderedComponents.params = ["components"] := rfl

def envS (l : List Nat) (ord p o n : Val) : Env :=
  [("noneOrderedComponents", n), ("orderedComponents", o), ("priorityOrderedComponents", p), ("ordered", ord),
   ("components", .list (l.map encR))]

theorem encSlice_snoc (a : List Nat) (x : Nat) : encSlice (a ++ [x]) = .list (a.map encR ++ [encR x]) := by
  unfold encSlice
  cases a <;> simp

/-- the partition loop: three accumulators, extended at their ends -/
theorem loopM_partition (part : Nat → Part) (f : Nat → Val → Env → Unit → Option (Env × Unit × Ctl)) (l0 : List Nat) (ord : Val)
    (hf : ∀ i x p o n, f i (encR x) (envS l0 ord (encSlice p) (encSlice o) (encSlice n)) () =
      some ((match (part x).cls with
        | .prio => envS l0 ord (encSlice (p ++ [x])) (encSlice o) (encSlice n)
        | .ord => envS l0 ord (encSlice p) (encSlice (o ++ [x])) (encSlice n)
        | .plain => envS l0 ord (encSlice p) (encSlice o) (encSlice (n ++ [x]))), (), .norm)) :
    ∀ (l : List Nat) (i : Nat) (p o n : List Nat),
      loopM f i (l.map encR) (envS l0 ord (encSlice p) (encSlice o) (encSlice n)) () =
        some (envS l0 ord (encSlice (partitionLoop part l (p, o, n)).1) (encSlice (partitionLoop part l (p, o, n)).2.1)
                (encSlice (partitionLoop part l (p, o, n)).2.2), (), .norm) := by
  intro l
  induction l with
  | nil => intro i p o n; simp [loopM, partitionLoop]
  | cons x xs ih =>
    intro i p o n
    simp only [List.map_cons, loopM, hf, partitionLoop]
    cases (part x).cls <;> simp only [] <;> rw [ih]

def soBody4 : List Stmt := match soStmt 4 with | .range _ _ _ b => b | _ => []

/-! What the primitives answer on a bucket variable, which is nil while empty. -/
section buckets
variable (sort : (Nat → Nat → Bool) → List Nat → List Nat) (part : Nat → Part) (b : List Nat)

theorem sortFn_append (x : Nat) :
    sortFn sort part "append" [encSlice b, .ref x 0] () = some (encSlice (b ++ [x]), ()) := by
  rw [encSlice_snoc]
  cases b <;> simp [encSlice, sortFn.eq_3, sortFn.eq_4, encR]

/-- a sorted bucket: nil stays nil -/
def sortedVal : Val := if b.isEmpty then .nil else .list ((sort (less part) b).map encR)

theorem sortFn_sort :
    sortFn sort part "sort2.Slice" [encSlice b, .str "orderedComponentComparator"] () = some (sortedVal sort part b, ()) := by
  cases b with
  | nil => simp [encSlice, sortedVal, sortFn.eq_6]
  | cons a t =>
    have hd := decList_map (a :: t)
    simp only [List.map_cons] at hd
    simp [encSlice, sortedVal, sortFn.eq_7, hd]

theorem sortFn_concat (acc : List Val) :
    sortFn sort part "append..." [.list acc, encSlice b] () = some (.list (acc ++ b.map encR), ()) := by
  cases b <;> simp [encSlice, sortFn.eq_8, sortFn.eq_9]

theorem sortFn_concat_sorted (hnil : sort (less part) [] = []) (acc : List Val) :
    sortFn sort part "append..." [.list acc, sortedVal sort part b] () = some (.list (acc ++ (sort (less part) b).map encR), ()) := by
  cases b <;> simp [sortedVal, sortFn.eq_8, sortFn.eq_9, hnil]
end buckets

/-- SortOrderedComponents, regenerated: partition by the two interfaces, sort the first two buckets with the comparator,
    concatenate — `Order.sortOrdered`, for every list, every `part`, every sort function (that returns nothing for nothing) -/
theorem sortOrderedComponents_sem (sort : (Nat → Nat → Bool) → List Nat → List Nat) (part : Nat → Part)
    (hnil : sort (less part) [] = []) (l : List Nat) :
    run (sortPrims sort part) Progs.sortOrderedComponents [.list (l.map encR)] () =
      some (.list ((sortOrdered sort part l).map encR), ()) := by
  have hloop := loopM_partition part (rangeIter (sortPrims sort part) "_" "component" soBody4) l (.list []) (by
    intro i x p o n
    cases hp : part x <;>
      simp [go_eval, soBody4, soStmt, Progs.sortOrderedComponents, envS, encR, hp, Part.order?, Part.cls, sortFn_append])
    l 0 [] [] []
  simp only [soBody4, soStmt, Progs.sortOrderedComponents, List.getD_cons_succ, List.getD_cons_zero, envS,
    show encSlice [] = Val.nil from rfl] at hloop
  simp [go_eval, Progs.sortOrderedComponents, hloop, sortFn_sort, sortFn_concat, sortFn_concat_sorted, hnil, sortOrdered]

theorem sort_nil_of_spec (sort : (Nat → Nat → Bool) → List Nat → List Nat) (part : Nat → Part) (h : SortSpec part sort) :
    sort (less part) [] = [] := by
  have := (h []).1
  exact List.perm_nil.mp this

end Ioc.Sem
