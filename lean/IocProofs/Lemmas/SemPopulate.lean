/-
  The regenerated program of factory.go `populateComponent` computes `Sem.populateModel`: the loop over a node's candidates
  (`loopM_get`) and the loop over the property nodes (`loopM_nodes`) by induction, each from one evaluation of its body.
-/
import Ioc.SemPopulate
import IocProofs.Lemmas.GoEval
namespace Ioc.Sem
open Ioc Ioc.Go

attribute [local go_eval] pcFn.eq_1 pcFn.eq_2 pcFn.eq_3 pcFn.eq_4 pcFn.eq_5 pcFn.eq_6 pcFn.eq_7 pcFn.eq_8 pcFn.eq_9 pcFn.eq_10
@[local go_eval] theorem pcPrims_fn (d : PC) : (pcPrims d).fn = pcFn d := rfl

def encDep (x : Nat) : Val := .ref x 21
def encComp (x : Nat) : Val := .ref x 0
def encComps (l : List Nat) : Val := if l.isEmpty then .nil else .list (l.map encComp)

theorem decComps_map (l : List Nat) : decComps (l.map encComp) = some l := by
  induction l with
  | nil => rfl
  | cons a t ih => simp [decComps, List.mapM_cons, encComp] at ih ⊢; rw [ih]; rfl

/-- the successful prefix of the candidates -/
def okPrefix (d : PC) : List Nat → List Nat
  | [] => []
  | x :: rest => if d.getOk x then x :: okPrefix d rest else []

/-- the inner loop: one doGetComponent per candidate, appended to `injects`; the first error returns -/
theorem loopM_get (d : PC) (f : Nat → Val → Env → List PEv → Option (Env × List PEv × Ctl)) (rest : Env)
    (hf : ∀ i x (acc : List Nat) (t : List PEv), f i (encDep x) (("injects", encComps acc) :: rest) t =
      some (("injects", encComps (if d.getOk x then acc ++ [x] else acc)) :: rest, t ++ [.get x],
            if d.getOk x then Ctl.norm else Ctl.ret errP)) :
    ∀ (deps : List Nat) (i : Nat) (acc : List Nat) (t : List PEv),
      loopM f i (deps.map encDep) (("injects", encComps acc) :: rest) t =
        some (("injects", encComps (acc ++ okPrefix d deps)) :: rest, t ++ (getLoop d deps).1,
              if (getLoop d deps).2 then Ctl.norm else Ctl.ret errP) := by
  intro deps
  induction deps with
  | nil => intro i acc t; simp [loopM, getLoop, okPrefix]
  | cons x xs ih =>
    intro i acc t
    simp only [List.map_cons, loopM, hf, getLoop, okPrefix]
    by_cases hx : d.getOk x = true
    · simp [hx, ih, List.append_assoc]
    · have hx' : d.getOk x = false := by simpa using hx
      simp [hx']

theorem getLoop_ok_prefix (d : PC) (deps : List Nat) (h : (getLoop d deps).2 = true) : okPrefix d deps = deps := by
  induction deps with
  | nil => rfl
  | cons x xs ih =>
    simp only [getLoop, okPrefix] at h ⊢
    by_cases hx : d.getOk x = true
    · simp only [hx, if_true] at h ⊢; rw [ih h]
    · have hx' : d.getOk x = false := by simpa using hx
      simp [hx'] at h

/-- every property node has been reset in this attempt -/
def AllReset (d : PC) (t : List PEv) : Prop := ∀ i, i < d.props.length → PEv.reset i ∈ t

theorem AllReset.append {d : PC} {t : List PEv} (h : AllReset d t) (u : List PEv) : AllReset d (t ++ u) :=
  fun i hi => List.mem_append_left _ (h i hi)

theorem injectsNow_reset (d : PC) (k : Nat) (t : List PEv) (hk : k < d.props.length) (hr : AllReset d t) :
    injectsNow d k t = depsOf d k := by
  unfold injectsNow
  have : t.contains (PEv.reset k) = true := by simpa using hr k hk
  rw [if_pos this]

/-- the outer loop: property nodes in order; a failing node returns -/
theorem loopM_nodes (d : PC) (f : Nat → Val → Env → List PEv → Option (Env × List PEv × Ctl)) (E2 : Val → Env)
    (hf : ∀ i k t, k < d.props.length → AllReset d t → ∃ e, f i (.ref k 20) (E2 .nil) t =
        some (E2 e, t ++ (nodeStep d k (depsOf d k)).1, if (nodeStep d k (depsOf d k)).2 then Ctl.norm else Ctl.ret errP) ∧
        ((nodeStep d k (depsOf d k)).2 = true → e = .nil)) :
    ∀ (suffix : List (List Nat)) (k i : Nat) (t : List PEv), d.props.drop k = suffix → AllReset d t →
      ∃ e, loopM f i ((List.range' k suffix.length).map (fun j => Val.ref j 20)) (E2 .nil) t =
        some (E2 e, t ++ (nodesLoop d k suffix).1, if (nodesLoop d k suffix).2 then Ctl.norm else Ctl.ret errP) := by
  intro suffix
  induction suffix with
  | nil => intro k i t _ _; exact ⟨.nil, by simp [loopM, nodesLoop]⟩
  | cons deps rest ih =>
    intro k i t hd hr
    have hk : k < d.props.length := by
      rcases Nat.lt_or_ge k d.props.length with h | h
      · exact h
      · have : d.props.drop k = [] := List.drop_eq_nil_of_le h
        rw [this] at hd; cases hd
    have hdeps : depsOf d k = deps := by
      unfold depsOf
      have := congrArg List.head? hd
      simp only [List.head?_drop, List.head?_cons] at this
      simp [List.getD_eq_getElem?_getD, this]
    have hrest : d.props.drop (k + 1) = rest := by
      have := congrArg List.tail hd
      simpa [List.tail_drop] using this
    obtain ⟨e, he, hnil⟩ := hf i k t hk hr
    rw [hdeps] at he hnil
    simp only [List.length_cons, List.range'_succ, List.map_cons, loopM, he, nodesLoop]
    cases hok : (nodeStep d k deps).2 with
    | false => exact ⟨e, by simp⟩
    | true =>
      have := hnil hok
      subst this
      obtain ⟨e2, he2⟩ := ih (k + 1) (i + 1) (t ++ (nodeStep d k deps).1) hrest (hr.append _)
      exact ⟨e2, by simp [he2, List.append_assoc]⟩

/-- statement 0 of the body is the reset loop; `pcStmt i` are the statements after it -/
def pcReset : Stmt := Progs.fac_populateComponent.body.getD 0 .brk
def pcStmt (i : Nat) : Stmt := Progs.fac_populateComponent.body.getD (i + 1) .brk
theorem pc_body : Progs.fac_populateComponent.body = [pcReset, pcStmt 0, pcStmt 1, pcStmt 2, pcStmt 3] := rfl
theorem pc_params : Progs.fac_populateComponent.params = ["name", "meta"] := rfl

/-- the body of `for _, node := range …` in statement 2, and in it the body of `for _, dependency := range node.Injects` -/
def pcNode : List Stmt := match pcStmt 2 with | .ifs _ _ [.range _ _ _ b] _ => b | _ => []
def pcGet : List Stmt := match pcNode with | [.ifs _ _ [_, .range _ _ _ b, _, _] _] => b | _ => []

def propsVal (d : PC) : Val := .list ((List.range' 0 d.props.length).map (fun i => Val.ref i 20))
/-- environment inside statement 2 (after `properties := …`), `e` = the current value of the outer `err` -/
def pcE2 (d : PC) (e : Val) : Env :=
  [("properties", propsVal d), ("err", e), ("name", .int (d.n : Int)), ("meta", .ref d.n 0)]
def pcEN (d : PC) (k : Nat) (e : Val) : Env := ("node", .ref k 20) :: pcE2 d e
def pcED (d : PC) (k : Nat) (e : Val) : Env := ("dependencies", .list ((depsOf d k).map encDep)) :: pcEN d k e

@[simp] theorem lenED (d : PC) (k : Nat) (e : Val) : (pcED d k e).length = 6 := rfl

theorem pcFn_append (d : PC) (l : List Nat) (x : Nat) (t : List PEv) :
    pcFn d "append" [encComps l, .ref x 0] t = some (encComps (l ++ [x]), t) := by
  cases l <;> simp [encComps, pcFn.eq_7, pcFn.eq_8, encComp]

/-- `Inject` with the components obtained, nil while there are none -/
theorem pcFn_Inject (d : PC) (k : Nat) (l : List Nat) (t : List PEv) :
    pcFn d ".Inject" [.ref k 20, encComps l] t = some (if d.injectOk k then .nil else errP, t ++ [.inject k l]) := by
  cases l with
  | nil => simp [encComps, pcFn.eq_10]
  | cons a r =>
    have hd := decComps_map (a :: r)
    simp only [List.map_cons] at hd
    simp [encComps, pcFn.eq_9, hd]

/-- one round of the outer loop: the candidates through `loopM_get`, then `Inject`; only a failing `Inject` leaves an error
    in the outer `err`, and the round returns it -/
theorem node_sem (d : PC) (i k : Nat) (t : List PEv) (hk : k < d.props.length) (hr : AllReset d t) :
    ∃ e, rangeIter (pcPrims d) "_" "node" pcNode i (.ref k 20) (pcE2 d .nil) t =
        some (pcE2 d e, t ++ (nodeStep d k (depsOf d k)).1, if (nodeStep d k (depsOf d k)).2 then Ctl.norm else Ctl.ret errP) ∧
      ((nodeStep d k (depsOf d k)).2 = true → e = .nil) := by
  have hi := injectsNow_reset d k t hk hr
  have hloop := loopM_get d (rangeIter (pcPrims d) "_" "dependency" pcGet) (pcED d k .nil) (by
    intro i x acc t
    simp [go_eval, pcGet, pcNode, pcStmt, Progs.fac_populateComponent, pcED, pcEN, pcE2, encDep, answer_ite, pcFn_append, errP]
    split <;> simp [*])
    (depsOf d k) 0 [] t
  simp only [pcGet, pcNode, pcStmt, Progs.fac_populateComponent, List.getD_cons_succ, List.getD_cons_zero, pcED, pcEN, pcE2,
    show encDep = fun x => Val.ref x 21 from rfl, List.nil_append, show encComps [] = Val.nil from rfl] at hloop
  unfold nodeStep
  by_cases hde : depsOf d k = []
  · exact ⟨.nil, by simp [go_eval, pcNode, pcStmt, Progs.fac_populateComponent, pcE2, hi, hde], fun _ => rfl⟩
  · cases hg : (getLoop d (depsOf d k)).2 with
    | false =>
      exact ⟨.nil, by simp [go_eval, pcNode, pcStmt, Progs.fac_populateComponent, pcE2, hi, hde, hloop, hg], fun _ => rfl⟩
    | true =>
      refine ⟨if d.injectOk k then .nil else errP, ?_, ?_⟩
      · rw [getLoop_ok_prefix d _ hg] at hloop
        simp [go_eval, pcNode, pcStmt, Progs.fac_populateComponent, pcE2, hi, hde, hloop, hg, pcFn_Inject, errP]
        split <;> simp [*]
      · simp +contextual [hde, hg]

/-- the reset loop: every property node, in order -/
theorem loopM_reset (d : PC) : ∀ (ks : List Nat) (i : Nat) (t : List PEv),
    loopM (rangeIter (pcPrims d) "_" "node" [.store (.var "node") "Injects" .nil]) i (ks.map (fun j => Val.ref j 20))
        [("name", .int (d.n : Int)), ("meta", .ref d.n 0)] t =
      some ([("name", .int (d.n : Int)), ("meta", .ref d.n 0)], t ++ ks.map PEv.reset, .norm) := by
  intro ks
  induction ks with
  | nil => intro i t; simp [loopM]
  | cons k ks ih => intro i t; simp [loopM, go_eval, ih]

theorem allReset_resets (d : PC) (u : List PEv) : AllReset d (resets d ++ u) := by
  intro i hi
  apply List.mem_append_left
  simp only [resets, List.mem_map, List.mem_range'_1]
  exact ⟨i, ⟨by omega, by omega⟩, rfl⟩

/-- populateComponent, regenerated: every property node's `Injects` is reset, ResolveAfterInstantiation, then for each
    property in order every candidate through doGetComponent (stop at the first error), then Inject with what was obtained —
    `populateModel`, whatever an earlier attempt left in the nodes (`d.stale`) -/
theorem populateComponent_sem (d : PC) :
    ∃ out, run (pcPrims d) Progs.fac_populateComponent [.int d.n, .ref d.n 0] [] = some (out, (populateModel d).1) ∧
      out = (if (populateModel d).2 then .nil else errP) := by
  refine ⟨_, ?_, rfl⟩
  have hreset := loopM_reset d (List.range' 0 d.props.length) 0 []
  change _ = some (_, resets d, _) at hreset
  obtain ⟨e, he⟩ := loopM_nodes d (rangeIter (pcPrims d) "_" "node" pcNode) (pcE2 d) (node_sem d)
    d.props 0 0 (resets d ++ [.resolve]) rfl (allReset_resets d _)
  simp only [pcNode, pcStmt, Progs.fac_populateComponent, List.getD_cons_succ, List.getD_cons_zero, pcE2, propsVal] at he
  simp [go_eval, Progs.fac_populateComponent, hreset, he, populateModel, errP, answer_ite]
  cases d.resolveOk <;> cases d.props <;> simp [nodesLoop]

/-- `populateModel` does not look at the leftovers -/
theorem getLoop_stale (d : PC) (l : Nat → List Nat) (deps : List Nat) : getLoop { d with stale := l } deps = getLoop d deps := by
  induction deps with
  | nil => rfl
  | cons x rest ih => simp only [getLoop, ih]

theorem nodesLoop_stale (d : PC) (l : Nat → List Nat) (ps : List (List Nat)) (k : Nat) :
    nodesLoop { d with stale := l } k ps = nodesLoop d k ps := by
  induction ps generalizing k with
  | nil => rfl
  | cons deps rest ih => simp only [nodesLoop, nodeStep, getLoop_stale, ih]

theorem populateModel_stale (d : PC) (l : Nat → List Nat) : populateModel { d with stale := l } = populateModel d := by
  simp only [populateModel, nodesLoop_stale, resets]

end Ioc.Sem
