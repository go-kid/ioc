/-
  Semantic theorems for the REGENERATED PrepareComponents, GetComponents, RegisterComponentPostProcessors, NewMeta,
  CreateProxy and genProxyComponent (interpretation: Ioc.SemPrepare).
-/
import Ioc.SemPrepare
import IocProofs.Lemmas.GoEval

namespace Ioc.Sem
open Ioc Ioc.Go

attribute [local go_eval] rcFn.eq_1 rcFn.eq_2 rcFn.eq_3 rcFn.eq_4 rcFn.eq_5 rcFn.eq_6 rcFn.eq_7 rcFn.eq_8
  nmFn.eq_1 nmFn.eq_2 nmFn.eq_3 nmFn.eq_4 nmFn.eq_5 nmFn.eq_6 nmFn.eq_7 cpFn.eq_1 cpFn.eq_2 cpFn.eq_3 cpFn.eq_4 cpFn.eq_5
  gcFn.eq_1 gcFn.eq_2 gcFn.eq_3 gcFn.eq_4 gcFn.eq_5
  pcFn.eq_1 pcFn.eq_2 pcFn.eq_3 pcFn.eq_4 pcFn.eq_5 pcFn.eq_6 pcFn.eq_7 pcFn.eq_8 pcFn.eq_9 pcFn.eq_10
  pcFn.eq_11 pcFn.eq_12 pcFn.eq_13 pcFn.eq_14 pcFn.eq_15 pcFn.eq_16 pcFn.eq_17

@[local go_eval] theorem rcPrims_fn (isInst isDestr : Nat → Bool) : (rcPrims isInst isDestr).fn = rcFn isInst isDestr := rfl
@[local go_eval] theorem nmPrims_fn (naming : Nat → String × String) (icept : Nat → Option String) :
    (nmPrims naming icept).fn = nmFn naming icept := rfl
@[local go_eval] theorem cpPrims_fn (naming : Nat → String × String) (icept : Nat → Option String) :
    (cpPrims naming icept).fn = cpFn naming icept := rfl
@[local go_eval] theorem gcPrims_fn (p : GCP) : (gcPrims p).fn = gcFn p := rfl
@[local go_eval] theorem pcPrims_fn (p : PCP) : (pcPrims p).fn = pcFn p := rfl

theorem decRefs_snoc (l : List Nat) (i : Nat) : decRefs (l.map (fun i => Val.ref i 0) ++ [Val.ref i 0]) = l ++ [i] := by
  simpa using decRefs_map (l ++ [i])

/-- a type assertion's answer as a decision: the program goes on separately with a value and with nil -/
theorem some_assertVal {σ : Type} (b : Bool) (i : Nat) (w : σ) :
    some (assertVal b i, w) = if b then some (.tuple [.ref i 0, .bool true], w) else some (.tuple [.nil, .bool false], w) := by
  cases b <;> rfl

/-- the processor is appended to the raw list whatever it is; the type switch sets `hasInstantiationAware…` for an
    instantiation-aware processor and — only for one that is NOT instantiation-aware — `hasDestructionAware…` for a
    destruction-aware one (first matching clause) -/
theorem registerCPP_sem (isInst isDestr : Nat → Bool) (i : Nat) (n : String) (w : RCW) :
    run (rcPrims isInst isDestr) Progs.delegate_RegisterComponentPostProcessors [.ref i 0, .str n] w =
      some (.tuple [], { hasInst := w.hasInst || isInst i, hasDestr := w.hasDestr || (!isInst i && isDestr i), raw := w.raw ++ [i] }) := by
  simp [go_eval, Progs.delegate_RegisterComponentPostProcessors, some_assertVal, refsVal, decRefs_snoc]
  cases isInst i <;> cases isDestr i <;> simp

section metaobjs
variable (naming : Nat → String × String) (icept : Nat → Option String)

/-- NewMeta: ONE new definition for the component, named by the naming helper (name and alias), Raw = the component, no
    proxy link; its fields are scanned once, with a holder of this very definition -/
theorem newMeta_sem (c : Nat) (w : NMW) :
    run (nmPrims naming icept) Progs.meta_NewMeta [.ref c 0] w =
      some (.ref w.metas.length 1, { w with metas := w.metas ++ [⟨c, (naming c).1, (naming c).2, none, true⟩] }) := by
  simp [go_eval, Progs.meta_NewMeta]

/-- genProxyComponent is CreateProxy without interceptors -/
theorem genProxy_sem (o c : Nat) (n : String) (w : NMW) :
    run (cpPrims naming icept) Progs.factory_genProxyComponent [.ref o 1, .str n, .ref c 0] w =
      some (.tuple [.ref w.metas.length 1, .nil], { w with metas := w.metas ++ [⟨c, n, (naming c).2, some o, true⟩] }) := by
  simp [go_eval, Progs.factory_genProxyComponent]

def cpBody : List Stmt := match Progs.meta_CreateProxy.body with | [_, _, _, .range _ _ _ b, _] => b | _ => []
theorem cp_shape : Progs.meta_CreateProxy.body =
    [.define ["nm"] (.call "NewMeta" [(.var "newComponent")]),
     .expr (.mcall (.var "nm") "SetName" [(.var "name")]),
     .store (.var "nm") "ProxyMeta" (.var "origin"),
     .range "_" "interceptor" (.var "interceptors") cpBody,
     .ret [(.var "nm"), .nil]] := rfl

def icStep (k : Nat) (_ : Unit) (w : NMW) : Unit × NMW × Option Val :=
  ((), { w with intercepted := w.intercepted ++ [k] },
   match icept k with | none => none | some e => some (.tuple [.nil, .str e]))

/-- the interceptors that run, and the error that ends the loop -/
def icRun : List Nat → List Nat × Option String
  | [] => ([], none)
  | k :: rest =>
    match icept k with
    | some e => ([k], some e)
    | none => (k :: (icRun rest).1, (icRun rest).2)

theorem icStep_loop (ks : List Nat) (w : NMW) :
    stepLoop (icStep icept) ks () w =
      ((), { w with intercepted := w.intercepted ++ (icRun icept ks).1 },
       match (icRun icept ks).2 with | none => none | some e => some (.tuple [.nil, .str e])) := by
  induction ks generalizing w with
  | nil => simp [stepLoop, icRun]
  | cons k rest ih =>
    simp only [stepLoop, icStep, icRun]
    cases hk : icept k with
    | some e => simp
    | none => simp [ih, List.append_assoc]

/-- CreateProxy: ONE new definition for the new component, carrying the name it is GIVEN (the origin's), its own alias, and
    `ProxyMeta` = the origin; the interceptors run in order on it, the first error ends the call with no definition -/
theorem createProxy_sem (o c : Nat) (n : String) (ks : List Nat) (w : NMW) :
    run (cpPrims naming icept) Progs.meta_CreateProxy [.ref o 1, .str n, .ref c 0, .list (ks.map (fun k => Val.ref k 140))] w =
      some (match (icRun icept ks).2 with
            | none => .tuple [.ref w.metas.length 1, .nil]
            | some e => .tuple [.nil, .str e],
            { metas := w.metas ++ [⟨c, n, (naming c).2, some o, true⟩],
              intercepted := w.intercepted ++ (icRun icept ks).1 }) := by
  have hloop (m : Nat) := loopM_state (fun k => Val.ref k 140) (rangeIter (cpPrims naming icept) "_" "interceptor" cpBody)
    (fun _ : Unit => [("nm", .ref m 1), ("origin", .ref o 1), ("name", .str n), ("newComponent", .ref c 0),
      ("interceptors", .list (ks.map (fun k => Val.ref k 140)))]) (icStep icept) (by
      intro j k _ w'
      cases hk : icept k <;> simp [go_eval, rangeIter_blank, cpBody, Progs.meta_CreateProxy, icStep, ctlOf, hk]) ks 0 ()
  simp only [cpBody, Progs.meta_CreateProxy] at hloop
  simp [go_eval, Progs.meta_CreateProxy, hloop, icStep_loop]
  cases (icRun icept ks).2 <;> simp [go_eval]

end metaobjs

section getcomponents
variable (p : GCP)

def gcBody : List Stmt := match Progs.factory_GetComponents.body with | [_, .range _ _ _ b, _] => b | _ => []
theorem gc_shape : Progs.factory_GetComponents.body =
    [.define ["components"] .nil,
     .range "_" "meta" (.call "self.definitionRegistry.GetMetas" [(.var "opts")]) gcBody,
     .ret [(.var "components"), .nil]] := rfl

theorem gcFn_append (acc : List Nat) (c : Nat) (w : List String) :
    gcFn p "append" [refsNil acc, .ref c 0] w = some (refsNil (acc ++ [c]), w) := by
  cases acc <;> simp [refsNil, refsVal, go_eval]

/-- the components fetched so far, the names asked for, and the error that ends the loop -/
def gcRun : List Nat → List Nat × List String × Option String
  | [] => ([], [], none)
  | m :: rest =>
    match p.get (p.nameOf m) with
    | .error e => ([], [p.nameOf m], some e)
    | .ok c => (c :: (gcRun rest).1, p.nameOf m :: (gcRun rest).2.1, (gcRun rest).2.2)

theorem gcStep_loop (ms : List Nat) (acc : List Nat) (w : List String) :
    stepLoop (gcStep p) ms acc w =
      (acc ++ (gcRun p ms).1, w ++ (gcRun p ms).2.1,
       match (gcRun p ms).2.2 with | none => none | some e => some (.tuple [.nil, .str e])) := by
  induction ms generalizing acc w with
  | nil => simp [stepLoop, gcRun]
  | cons m rest ih =>
    simp only [stepLoop, gcStep, gcRun]
    cases hg : p.get (p.nameOf m) with
    | error e => simp
    | ok c => simp [ih, List.append_assoc]

/-- GetComponents: the definitions the options select are fetched BY NAME through the factory, in the order GetMetas returns
    them; the result lists the components in that order; the first failing fetch ends the call with its error and no list -/
theorem getComponents_sem (opts : Val) (w : List String) :
    run (gcPrims p) Progs.factory_GetComponents [opts] w =
      some (match (gcRun p p.metas).2.2 with
            | none => .tuple [refsNil (gcRun p p.metas).1, .nil]
            | some e => .tuple [.nil, .str e], w ++ (gcRun p p.metas).2.1) := by
  have hloop := loopM_state (fun i => Val.ref i 1) (rangeIter (gcPrims p) "_" "meta" gcBody)
    (fun acc => [("components", refsNil acc), ("opts", opts)]) (gcStep p) (by
      intro j m acc w'
      cases hg : p.get (p.nameOf m) <;>
        simp [go_eval, rangeIter_blank, gcBody, Progs.factory_GetComponents, gcFn_append, gcStep, ctlOf, hg]) p.metas 0 []
  simp only [gcBody, Progs.factory_GetComponents, refsNil.eq_1] at hloop
  simp [go_eval, Progs.factory_GetComponents, hloop, gcStep_loop]
  cases (gcRun p p.metas).2.2 <;> simp [go_eval]

end getcomponents

section prepare
variable (p : PCP)

def pcBody : List Stmt := match Progs.factory_PrepareComponents.body with | [_, _, _, .range _ _ _ b, _, _, _] => b | _ => []
def pcTail : List Stmt := match Progs.factory_PrepareComponents.body with | [_, _, _, _, a, b, c] => [a, b, c] | _ => []
theorem pc_shape : Progs.factory_PrepareComponents.body =
    [.define ["singletonNames"] (.call "self.singletonRegistry.GetSingletonNames" []),
     .store (.glob "self") "registeredComponents" (.call "make:map[string]any" [(.call "len" [(.var "singletonNames")])]),
     .define ["factoryPostProcessors"] .nil,
     .range "_" "name" (.var "singletonNames") pcBody] ++ pcTail := rfl

theorem pcFn_append (fpp : List Nat) (i : Nat) (w : PCW) :
    pcFn p "append" [refsNil fpp, .ref i 0] w = some (refsNil (fpp ++ [i]), w) := by
  cases fpp <;> simp [refsNil, refsVal, go_eval]

theorem pcFn_appendDef (i : Nat) (w w' : PCW) :
    pcFn p "append" [refsVal w.defPPs, .ref i 0] w' = some (.list (w.defPPs.map (fun i => Val.ref i 0) ++ [.ref i 0]), w') := pcFn.eq_11 ..

theorem pcFn_invoke (fpp : List Nat) (w : PCW) :
    pcFn p "self.postProcessorRegistrationDelegate.InvokeBeanFactoryPostProcessors" [.ref 0 120, refsNil fpp] w =
      some (match p.invokeErr fpp with | none => .nil | some e => .str e, { w with invoked := some fpp }) := by
  cases fpp <;> simp [refsNil, refsVal, go_eval, decRefs, decRefs_map] <;> rfl

theorem prepareComponents_sem (w : PCW) :
    run (pcPrims p) Progs.factory_PrepareComponents [] w =
      (let r := stepLoop (pcStep p) p.names [] { w with regComps := [] }
       match r.2.2 with
       | some v => some (v, r.2.1)
       | none => some (match p.invokeErr r.1 with | none => .nil | some e => .str e, { r.2.1 with invoked := some r.1 })) := by
  have hloop := loopM_state Val.str (rangeIter (pcPrims p) "_" "name" pcBody)
    (fun fpp => [("factoryPostProcessors", refsNil fpp), ("singletonNames", .list (p.names.map Val.str))]) (pcStep p) (by
      intro j n fpp w'
      cases hs : p.single n <;>
        simp [go_eval, rangeIter_blank, pcBody, Progs.factory_PrepareComponents, singleVal, some_assertVal, pcFn_append, refsVal,
          decRefs_snoc, pcStep, ctlOf, hs]
      cases p.isCPP _ <;> cases p.isDRPP _ <;> cases p.isCFPP _ <;> rfl) p.names 0 []
  simp only [pcBody, Progs.factory_PrepareComponents, refsNil.eq_1] at hloop
  simp [go_eval, Progs.factory_PrepareComponents, hloop, pcFn_invoke]
  rcases stepLoop (pcStep p) p.names [] { w with regComps := [] } with ⟨fpp, w1, _ | v⟩
  · cases p.invokeErr fpp <;> simp [go_eval]
  · simp [go_eval]
/-- when every singleton can be fetched: the three lists are the singletons of each kind IN THE ENUMERATION ORDER -/
theorem pcStep_loop_ok (idOf : String → Nat) : ∀ (names : List String) (fpp : List Nat) (w : PCW),
    (∀ n ∈ names, p.single n = .ok (idOf n)) →
    (stepLoop (pcStep p) names fpp w).1 = fpp ++ (names.map idOf).filter p.isCFPP ∧
    (stepLoop (pcStep p) names fpp w).2.2 = none ∧
    (stepLoop (pcStep p) names fpp w).2.1.defPPs = w.defPPs ++ (names.map idOf).filter p.isDRPP ∧
    (stepLoop (pcStep p) names fpp w).2.1.beanPPs =
      w.beanPPs ++ (names.filter (fun n => p.isCPP (idOf n))).map (fun n => (idOf n, n)) ∧
    (stepLoop (pcStep p) names fpp w).2.1.invoked = w.invoked := by
  intro names
  induction names with
  | nil => intro fpp w _; simp [stepLoop]
  | cons n rest ih =>
    intro fpp w h
    have hn := h n (by simp)
    have hrest : ∀ m ∈ rest, p.single m = .ok (idOf m) := fun m hm => h m (by simp [hm])
    simp only [stepLoop, pcStep, hn]
    obtain ⟨a, b, c, d, e⟩ := ih (if p.isCFPP (idOf n) then fpp ++ [idOf n] else fpp)
      { w with beanPPs := if p.isCPP (idOf n) then w.beanPPs ++ [(idOf n, n)] else w.beanPPs,
               defPPs := if p.isDRPP (idOf n) then w.defPPs ++ [idOf n] else w.defPPs,
               regComps := rcSet n (idOf n) w.regComps } hrest
    refine ⟨?_, b, ?_, ?_, e⟩
    · rw [a]; cases hc : p.isCFPP (idOf n) <;> simp [hc]
    · rw [c]; cases hc : p.isDRPP (idOf n) <;> simp [hc]
    · rw [d]; cases hc : p.isCPP (idOf n) <;> simp [hc]

end prepare

end Ioc.Sem
