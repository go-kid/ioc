/-
  Semantic theorems for the REGENERATED small methods of package processors (interpretation: Ioc.SemProcessors).
-/
import Ioc.SemProcessors
import IocProofs.Lemmas.GoEval
namespace Ioc.Sem
open Ioc Ioc.Go

attribute [local go_eval] ppFn.eq_1 ppFn.eq_2 ppFn.eq_3 ppFn.eq_4 ppFn.eq_5 ppFn.eq_6 ppFn.eq_7 ppFn.eq_8 ppFn.eq_9 ppFn.eq_10
  ppFn.eq_11 ppFn.eq_12
@[local go_eval] theorem ppPrims_fn : ppPrims.fn = ppFn := rfl

/-! Processors whose regenerated method bodies are the same MiniGo term share one evaluation: all nine
    `PostProcessAfterInstantiation`, `Order` of the two dependency processors and of props/value, `PostProcessComponentFactory`
    of quote/props and of the two dependency processors. -/

theorem pp_quote_Order_sem (w : Option Val) : run ppPrims Progs.pp_quote_Order [] w = some (.str "PriorityOrderPropertyConfigQuoteAware", w) := by
  simp [go_eval, Progs.pp_quote_Order]
theorem pp_quote_After_sem (c n : Val) (w : Option Val) :
    run ppPrims Progs.pp_quote_AfterInstantiation [c, n] w = some (.tuple [.bool true, .nil], w) := by
  simp [go_eval, Progs.pp_quote_AfterInstantiation]
theorem pp_quote_Factory_sem (w : Option Val) :
    run ppPrims Progs.pp_quote_ComponentFactory [.ref 0 171] w =
      some (.nil, some (.tuple [.str "Configure", .str "factory.GetConfigure()"])) := by
  simp [go_eval, Progs.pp_quote_ComponentFactory]
theorem pp_dep_Order_sem (w : Option Val) : run ppPrims Progs.pp_dep_Order [] w = some (.str "OrderDependencyAware", w) := by
  simp [go_eval, Progs.pp_dep_Order]
theorem pp_dep_After_sem (c n : Val) (w : Option Val) :
    run ppPrims Progs.pp_dep_AfterInstantiation [c, n] w = some (.tuple [.bool true, .nil], w) := pp_quote_After_sem c n w
theorem pp_dep_Factory_sem (w : Option Val) :
    run ppPrims Progs.pp_dep_ComponentFactory [.ref 0 171] w =
      some (.nil, some (.tuple [.str "Registry", .str "factory.GetDefinitionRegistry()"])) := by
  simp [go_eval, Progs.pp_dep_ComponentFactory]
theorem pp_depfn_Order_sem (w : Option Val) : run ppPrims Progs.pp_depfn_Order [] w = some (.str "OrderDependencyAware", w) := pp_dep_Order_sem w
theorem pp_depfn_After_sem (c n : Val) (w : Option Val) :
    run ppPrims Progs.pp_depfn_AfterInstantiation [c, n] w = some (.tuple [.bool true, .nil], w) := pp_quote_After_sem c n w
theorem pp_depfn_Factory_sem (w : Option Val) :
    run ppPrims Progs.pp_depfn_ComponentFactory [.ref 0 171] w =
      some (.nil, some (.tuple [.str "Registry", .str "factory.GetDefinitionRegistry()"])) := pp_dep_Factory_sem w
theorem pp_further_Order_sem (w : Option Val) : run ppPrims Progs.pp_further_Order [] w = some (.str "OrderDependencyFurtherMatching", w) := by
  simp [go_eval, Progs.pp_further_Order]
theorem pp_further_After_sem (c n : Val) (w : Option Val) :
    run ppPrims Progs.pp_further_AfterInstantiation [c, n] w = some (.tuple [.bool true, .nil], w) := pp_quote_After_sem c n w
theorem pp_expr_Order_sem (w : Option Val) : run ppPrims Progs.pp_expr_Order [] w = some (.str "PriorityOrderPropertyExpressionTagAware", w) := by
  simp [go_eval, Progs.pp_expr_Order]
theorem pp_expr_After_sem (c n : Val) (w : Option Val) :
    run ppPrims Progs.pp_expr_AfterInstantiation [c, n] w = some (.tuple [.bool true, .nil], w) := pp_quote_After_sem c n w
theorem pp_logger_Order_sem (w : Option Val) : run ppPrims Progs.pp_logger_Order [] w = some (.str "PriorityOrderLoggerAware", w) := by
  simp [go_eval, Progs.pp_logger_Order]
theorem pp_logger_After_sem (c n : Val) (w : Option Val) :
    run ppPrims Progs.pp_logger_AfterInstantiation [c, n] w = some (.tuple [.bool true, .nil], w) := pp_quote_After_sem c n w
theorem pp_props_Order_sem (w : Option Val) : run ppPrims Progs.pp_props_Order [] w = some (.str "PriorityOrderPopulateProperties", w) := by
  simp [go_eval, Progs.pp_props_Order]
theorem pp_props_After_sem (c n : Val) (w : Option Val) :
    run ppPrims Progs.pp_props_AfterInstantiation [c, n] w = some (.tuple [.bool true, .nil], w) := pp_quote_After_sem c n w
theorem pp_props_Factory_sem (w : Option Val) :
    run ppPrims Progs.pp_props_ComponentFactory [.ref 0 171] w =
      some (.nil, some (.tuple [.str "Configure", .str "factory.GetConfigure()"])) := pp_quote_Factory_sem w
theorem pp_validate_Order_sem (w : Option Val) : run ppPrims Progs.pp_validate_Order [] w = some (.str "OrderValidate", w) := by
  simp [go_eval, Progs.pp_validate_Order]
theorem pp_validate_After_sem (c n : Val) (w : Option Val) :
    run ppPrims Progs.pp_validate_AfterInstantiation [c, n] w = some (.tuple [.bool true, .nil], w) := pp_quote_After_sem c n w
theorem pp_value_Order_sem (w : Option Val) : run ppPrims Progs.pp_value_Order [] w = some (.str "PriorityOrderPopulateProperties", w) := pp_props_Order_sem w
theorem pp_value_After_sem (c n : Val) (w : Option Val) :
    run ppPrims Progs.pp_value_AfterInstantiation [c, n] w = some (.tuple [.bool true, .nil], w) := pp_quote_After_sem c n w

theorem pp_default_sem (c n : Val) (w : Option Val) :
    run ppPrims Progs.pp_default_BeforeInitialization [c, n] w = some (.tuple [c, .nil], w) ∧
    run ppPrims Progs.pp_default_AfterInitialization [c, n] w = some (.tuple [c, .nil], w) ∧
    run ppPrims Progs.pp_default_BeforeInstantiation [c, n] w = some (.tuple [.nil, .nil], w) ∧
    run ppPrims Progs.pp_default_AfterInstantiation [c, n] w = some (.tuple [.bool false, .nil], w) ∧
    (∀ ps, run ppPrims Progs.pp_default_Properties [ps, c, n] w = some (.tuple [.nil, .nil], w)) := by
  simp [go_eval, Progs.pp_default_BeforeInitialization, Progs.pp_default_AfterInitialization, Progs.pp_default_BeforeInstantiation,
    Progs.pp_default_AfterInstantiation, Progs.pp_default_Properties]

section loggerpp
variable (ps : List LProp)

attribute [local go_eval] lgFn.eq_1 lgFn.eq_2 lgFn.eq_3 lgFn.eq_4 lgFn.eq_5 lgFn.eq_6 lgFn.eq_7 lgFn.eq_8 lgFn.eq_9 lgFn.eq_10
  lgFn.eq_11 lgFn.eq_12 lgFn.eq_13 lgFn.eq_14 lgFn.eq_15 lgFn.eq_16
@[local go_eval] theorem lgPrims_fn : (lgPrims ps).fn = lgFn ps := rfl

def lgBody : List Stmt := match Progs.pp_logger_Properties.body with | [.range _ _ _ b, _] => b | _ => []
theorem lg_shape : Progs.pp_logger_Properties.body =
    [.range "_" "property" (.var "properties") lgBody, .ret [(.var "properties"), .nil]] := rfl

theorem lgStep_loop (l : List Nat) (w : List (Nat × String)) :
    stepLoop (lgStep ps) l () w =
      ((), w ++ (l.filter (fun i => (lpropAt ps i).isLoggerTag && (lpropAt ps i).implements)).map
                  (fun i => (i, loggerPref (lpropAt ps i))), none) := by
  induction l generalizing w with
  | nil => simp [stepLoop]
  | cons i rest ih =>
    simp only [stepLoop, lgStep]
    cases h : ((lpropAt ps i).isLoggerTag && (lpropAt ps i).implements) <;> simp [ih, h, List.append_assoc]

/-- the logger processor: exactly the properties that carry the logger tag AND whose type implements syslog.Logger get a logger,
    in order, with the prefix `loggerPref`; every other property is left alone; the properties are returned unchanged, never an
    error -/
theorem loggerProperties_sem (n : Nat) (w : List (Nat × String)) :
    run (lgPrims ps) Progs.pp_logger_Properties [.list ((List.range' 0 n).map (fun i => Val.ref i 20)), .str "c", .str "n"] w =
      some (.tuple [.list ((List.range' 0 n).map (fun i => Val.ref i 20)), .nil],
        w ++ ((List.range' 0 n).filter (fun i => (lpropAt ps i).isLoggerTag && (lpropAt ps i).implements)).map
               (fun i => (i, loggerPref (lpropAt ps i)))) := by
  -- one round of the loop is `lgStep`, whatever the environment around it
  have hloop (e : Env) := loopM_rounds (fun i => Val.ref i 20) (rangeIter (lgPrims ps) "_" "property" lgBody) (fun _ : Unit => e)
    (lgStep ps) (by
      intro j i _ w
      simp [go_eval, rangeIter, lgBody, Progs.pp_logger_Properties, lgStep, loggerPref, ctlOf]
      grind) (List.range' 0 n) 0 () w
  simp only [lgBody, Progs.pp_logger_Properties] at hloop
  simp [go_eval, Progs.pp_logger_Properties, hloop, lgStep_loop, ctlOf]

end loggerpp
end Ioc.Sem
