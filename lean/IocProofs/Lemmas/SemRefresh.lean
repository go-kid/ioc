/-
  The regenerated programs `defaultFactory.Refresh` and `Meta.IsSelf` (a type switch and a three-clause loop) compute the
  models of Ioc.SemRefresh: Refresh creates the non-lazy definitions in the order of their sorted names, IsSelf walks the
  whole proxy chain.
-/
import Ioc.SemRefresh
import IocProofs.Lemmas.GoEval
namespace Ioc.Sem
open Ioc Ioc.Go Ioc.Order

attribute [local go_eval] refreshFn.eq_1 refreshFn.eq_2 refreshFn.eq_3 refreshFn.eq_4 refreshFn.eq_5 refreshFn.eq_6 refreshFn.eq_7
  refreshHfn.eq_1 refreshHfn.eq_2 isSelfFn.eq_1 isSelfFn.eq_2 isSelfFn.eq_3 isSelfFn.eq_4
@[local go_eval] theorem refreshPrims_fn (sort : (Nat → Nat → Bool) → List Nat → List Nat) (metas : List Nat) (lazy getFails : Nat → Bool) :
    (refreshPrims sort metas lazy getFails).fn = refreshFn metas lazy getFails := rfl
@[local go_eval] theorem refreshPrims_hfn (sort : (Nat → Nat → Bool) → List Nat → List Nat) (metas : List Nat) (lazy getFails : Nat → Bool) :
    (refreshPrims sort metas lazy getFails).hfn = refreshHfn sort := rfl
@[local go_eval] theorem isSelfPrims_fn (selfPtr : Nat) (addr : Nat → Nat) (fuel : Nat) : (isSelfPrims selfPtr addr fuel).fn = isSelfFn selfPtr addr := rfl

section isself
variable (selfPtr : Nat) (addr : Nat → Nat)

def isStep (t : Option Nat) (w : Unit) : Option Nat × Unit × Option Ctl :=
  match t with
  | none => (none, w, some .norm)
  | some k =>
    if addr k == selfPtr then (some k, w, some (.ret (.bool true)))
    else (match k with | 0 => none | k' + 1 => some k', w, none)

theorem isStep_loop (k : Nat) : ∀ n, k + 2 ≤ n →
    ∃ t', stepWhile (isStep selfPtr addr) n (some k) () =
      some (t', (), if isSelfModel selfPtr addr (some k) then .ret (.bool true) else .norm) := by
  induction k with
  | zero =>
    intro n hn
    obtain ⟨m, rfl⟩ : ∃ m, n = m + 2 := ⟨n - 2, by omega⟩
    by_cases h : addr 0 == selfPtr
    · exact ⟨some 0, by simp [stepWhile, isStep, h, isSelfModel, List.range_succ]⟩
    · exact ⟨none, by simp [stepWhile, isStep, h, isSelfModel, List.range_succ]⟩
  | succ k ih =>
    intro n hn
    obtain ⟨m, rfl⟩ : ∃ m, n = m + 1 := ⟨n - 1, by omega⟩
    by_cases h : addr (k + 1) == selfPtr
    · exact ⟨some (k + 1), by simp [stepWhile, isStep, h, isSelfModel, List.range_succ]⟩
    · obtain ⟨t', ht⟩ := ih m (by omega)
      refine ⟨t', ?_⟩
      simp only [stepWhile, isStep, h, Bool.false_eq_true, if_false]
      rw [ht]
      have : isSelfModel selfPtr addr (some (k + 1)) = isSelfModel selfPtr addr (some k) := by
        simp only [isSelfModel]
        rw [List.range_succ (n := k + 1), List.any_append]
        simp [h]
      simp [this]


def isBody : List Stmt :=
  match Progs.meta_IsSelf.body with
  | [.forc _ _ _ b, _] => b
  | _ => []
theorem is_shape : Progs.meta_IsSelf.body =
    [.forc [.define ["p"] (.var "o")] (.bin "!=" (.var "p") .nil) [.assign ["p"] (.sel (.var "p") "ProxyMeta")] isBody,
     .ret [.bool false]] := rfl
theorem is_params : Progs.meta_IsSelf.params = ["o"] := rfl

def envIS (o : Val) (t : Option Nat) : Env := [("p", encMetaO t), ("o", o)]

/-- one round of the loop: condition, body, post statement -/
theorem is_iter (fuel : Nat) (o : Val) (t : Option Nat) (w : Unit) :
    forcIter (isSelfPrims selfPtr addr fuel) (.bin "!=" (.var "p") .nil) [.assign ["p"] (.sel (.var "p") "ProxyMeta")] isBody (envIS o t) w =
    some (envIS o (isStep selfPtr addr t w).1, (isStep selfPtr addr t w).2.1, (isStep selfPtr addr t w).2.2) := by
  -- `ProxyMeta` answers to the end of the chain and to an inner meta separately
  rcases t with _ | _ | k <;>
    simp [forcIter, go_eval, envIS, encMetaO, encMeta, isStep, isBody, Progs.meta_IsSelf]
  all_goals (simp only [Int.natCast_inj, eq_comm (a := selfPtr)]; split <;> rfl)

/-- Meta.IsSelf, regenerated (meta.go:76-83): true exactly when some meta on the proxy chain of `o` has the holder's
    address as its origin address — for EVERY chain length, given enough fuel (any fuel above the chain length + 1) -/
theorem isSelf_sem (t : Option Nat) (fuel : Nat) (hf : (match t with | none => 1 | some k => k + 2) ≤ fuel) :
    run (isSelfPrims selfPtr addr fuel) Progs.meta_IsSelf [encMetaO t] () =
      some (.bool (isSelfModel selfPtr addr t), ()) := by
  have hforc := evalS_forc_state (isSelfPrims selfPtr addr fuel) [("o", encMetaO t)] () () [.define ["p"] (.var "o")] _ _ isBody
    (envIS (encMetaO t)) (isStep selfPtr addr) t (by simp [go_eval, envIS]) (is_iter selfPtr addr fuel (encMetaO t))
  obtain ⟨t', ht⟩ : ∃ t', stepWhile (isStep selfPtr addr) fuel t () =
      some (t', (), if isSelfModel selfPtr addr t then .ret (.bool true) else .norm) := by
    cases t with
    | none =>
      obtain ⟨m, rfl⟩ : ∃ m, fuel = m + 1 := ⟨fuel - 1, by simp at hf; omega⟩
      exact ⟨none, by simp [stepWhile, isStep, isSelfModel]⟩
    | some k => exact isStep_loop selfPtr addr k fuel (by simpa using hf)
  simp only [isBody, Progs.meta_IsSelf, show (isSelfPrims selfPtr addr fuel).fuel = fuel from rfl, ht] at hforc
  simp [go_eval, Progs.meta_IsSelf, hforc]
  cases isSelfModel selfPtr addr t <;> rfl

end isself

section refresh
variable (sort : (Nat → Nat → Bool) → List Nat → List Nat) (metas : List Nat) (lazy getFails : Nat → Bool)

def ltb (a b : Nat) : Bool := decide (a < b)

def encNames : List Nat → Val
  | [] => .nil
  | l => .list (l.map (fun (n : Nat) => Val.int n))

/-- the names Refresh creates, in creation order: the non-lazy definitions, sorted by name -/
def refreshNames : List Nat :=
  match metas.filter (fun n => !lazy n) with
  | [] => []
  | l => sort ltb l

def rfStmt (i : Nat) : Stmt := Progs.fac_Refresh.body.getD i .brk
theorem rf_body : Progs.fac_Refresh.body = [rfStmt 0, rfStmt 1, rfStmt 2, rfStmt 3, rfStmt 4] := rfl
theorem rf_params : Progs.fac_Refresh.params = [] := rfl
def rfBody1 : List Stmt := match rfStmt 1 with | .range _ _ _ b => b | _ => []
def rfBody3 : List Stmt := match rfStmt 3 with | .range _ _ _ b => b | _ => []

abbrev RFP := refreshPrims sort metas lazy getFails

def collectStep (n : Nat) (l : List Nat) (w : List Nat) : List Nat × List Nat × Option Val :=
  (if lazy n then l else l ++ [n], w, none)

theorem collectStep_loop (xs l w : List Nat) :
    stepLoop (collectStep lazy) xs l w = (l ++ xs.filter (fun n => !lazy n), w, none) := by
  induction xs generalizing l with
  | nil => simp [stepLoop]
  | cons x xs ih =>
    simp only [stepLoop, collectStep, List.filter_cons]
    cases hl : lazy x <;> simp [ih]

theorem encNames_snoc (l : List Nat) (n : Nat) : encNames (l ++ [n]) = .list ((l ++ [n]).map (fun (n : Nat) => Val.int n)) := by
  cases l <;> rfl

theorem decInts_map (l : List Nat) : decInts (l.map (fun (n : Nat) => Val.int n)) = some l := by
  induction l with
  | nil => rfl
  | cons a l ih => simp [decInts, ih]

def getStep (n : Nat) (_ : Unit) (w : List Nat) : Unit × List Nat × Option Val :=
  ((), w ++ [n], if getFails n then some errN else none)

theorem getStep_loop (xs w : List Nat) :
    stepLoop (getStep getFails) xs () w = ((), (runLoop getFails xs w).1, if (runLoop getFails xs w).2 then some errN else none) := by
  induction xs generalizing w with
  | nil => simp [stepLoop, runLoop]
  | cons x xs ih =>
    by_cases hf : getFails x = true
    · simp [stepLoop, getStep, runLoop, hf]
    · simp [stepLoop, getStep, runLoop, hf, ih]

/-- Refresh, regenerated (factory.go:92-118): the non-lazy definitions' names are collected in enumeration order, SORTED
    with the comparator `i < j`, and created in that order; the first failing creation ends the refresh -/
theorem refresh_sem :
    run (RFP sort metas lazy getFails) Progs.fac_Refresh [] [] =
      some (if (runLoop getFails (refreshNames sort metas lazy) []).2 then errN else .nil,
            (runLoop getFails (refreshNames sort metas lazy) []).1) := by
  have h1 (w : List Nat) := loopM_rounds (fun n => Val.ref n 70) (rangeIter (RFP sort metas lazy getFails) "_" "meta" rfBody1)
    (fun l => [("names", encNames l)]) (collectStep lazy) (by
      intro i n l w
      -- `append` answers to nil and to a slice separately
      cases l <;> simp [go_eval, rangeIter, rfBody1, rfStmt, Progs.fac_Refresh, collectStep, encNames, ctlOf] <;> split <;> simp) metas 0 [] w
  have h3 (v : Val) (xs w : List Nat) := loopM_rounds (fun n : Nat => Val.int n) (rangeIter (RFP sort metas lazy getFails) "_" "name" rfBody3)
    (fun _ : Unit => [("names", v)]) (getStep getFails) (by
      intro i n _ w
      simp [go_eval, rangeIter, rfBody3, rfStmt, Progs.fac_Refresh, getStep, ctlOf, errN]
      split <;> rfl) xs 0 () w
  simp only [rfBody1, rfBody3, rfStmt, Progs.fac_Refresh, List.getD_cons_succ, List.getD_cons_zero, encNames, collectStep_loop, getStep_loop,
    apply_ite ctlOf, ctlOf.eq_1, ctlOf.eq_2] at h1 h3
  unfold refreshNames ltb
  cases hl : metas.filter (fun n => !lazy n) <;>
    simp [go_eval, Progs.fac_Refresh, h1, h3, hl, litHandler, decInts_map, runLoop, -List.map_cons]
  split <;> rfl

end refresh

/-- the creation order does not depend on the order in which the registry enumerates the definitions: any sort that returns
    a sorted permutation gives the same list for permuted inputs -/
theorem refreshNames_perm (sort : (Nat → Nat → Bool) → List Nat → List Nat) (lazy : Nat → Bool) (m1 m2 : List Nat)
    (hs : ∀ l, (sort ltb l).Perm l ∧ (sort ltb l).Pairwise (fun a b => a ≤ b)) (h : m1.Perm m2) :
    refreshNames sort m1 lazy = refreshNames sort m2 lazy := by
  have hf : (m1.filter (fun n => !lazy n)).Perm (m2.filter (fun n => !lazy n)) := h.filter _
  unfold refreshNames ltb
  cases h1 : m1.filter (fun n => !lazy n) with
  | nil =>
    rw [h1] at hf
    have : m2.filter (fun n => !lazy n) = [] := List.Perm.eq_nil hf.symm
    simp [this]
  | cons a l =>
    cases h2 : m2.filter (fun n => !lazy n) with
    | nil => rw [h1, h2] at hf; exact absurd (List.Perm.eq_nil hf) (by simp)
    | cons b l' =>
      simp only []
      rw [h1, h2] at hf
      exact List.Perm.eq_of_pairwise (le := fun a b => a ≤ b) (fun a b _ _ h1 h2 => Nat.le_antisymm h1 h2)
        (hs _).2 (hs _).2 (((hs _).1.trans hf).trans (hs _).1.symm)

end Ioc.Sem
