/-
  The regenerated programs of singleton_component_registry.go (Ioc.Progs.reg_*), run by the MiniGo interpreter
  under the map/set interpretation of Ioc.SemRegistry, compute exactly the model functions of Ioc.Registry (M1).
  For every registry, every name, every result of the factories.
-/
import Ioc.SemRegistry
import IocProofs.Lemmas.GoEval
namespace Ioc.Sem
open Ioc Ioc.Go Ioc.Reg

variable (early : Except Err Obj) (body : Body)

attribute [local go_eval] baseFn.eq_1 baseFn.eq_2 baseFn.eq_3 baseFn.eq_4 baseFn.eq_5 baseFn.eq_6 baseFn.eq_7 baseFn.eq_8
  baseFn.eq_9 baseFn.eq_10 baseFn.eq_11 baseFn.eq_12 baseFn.eq_13 baseFn.eq_14 basePrims encObj

@[local go_eval] theorem regPrims_fn (f : String) (args : List Val) (r : Reg) : (regPrims early body).fn f args r =
    match f with
    | "self.RemoveSingleton" => callRemove early body args r
    | "self.AddSingleton" => callAdd early body args r
    | _ => baseFn early body f args r := rfl

theorem addSingletonFactory_sem (r : Reg) (n m : Nat) :
    run (regPrims early body) Progs.reg_AddSingletonFactory [.int n, .ref m 0] r = some (.tuple [], r.addFactory n) := by
  simp [go_eval, Progs.reg_AddSingletonFactory, Reg.addFactory]

theorem removeSingleton_base (r : Reg) (n : Nat) :
    run (basePrims early body) Progs.reg_RemoveSingleton [.int n] r = some (.tuple [], r.remove n) := by
  simp [go_eval, Progs.reg_RemoveSingleton, Reg.remove]

theorem removeSingleton_sem (r : Reg) (n : Nat) :
    run (regPrims early body) Progs.reg_RemoveSingleton [.int n] r = some (.tuple [], r.remove n) := by
  simp [go_eval, Progs.reg_RemoveSingleton, Reg.remove]

theorem addSingleton_base (r : Reg) (n : Nat) (o : Obj) :
    run (basePrims early body) Progs.reg_AddSingleton [.int n, encObj o] r = some (.tuple [], r.addSingleton n o) := by
  simp [go_eval, Progs.reg_AddSingleton, Reg.addSingleton]

theorem addSingleton_sem (r : Reg) (n : Nat) (o : Obj) :
    run (regPrims early body) Progs.reg_AddSingleton [.int n, encObj o] r = some (.tuple [], r.addSingleton n o) := by
  simp [go_eval, Progs.reg_AddSingleton, Reg.addSingleton]

theorem isInCreation_sem (r : Reg) (n : Nat) :
    run (regPrims early body) Progs.reg_IsSingletonCurrentlyInCreation [.int n] r = some (.bool (r.isInCreation n), r) := by
  simp [go_eval, Progs.reg_IsSingletonCurrentlyInCreation]

theorem getSingleton_sem (r : Reg) (n : Nat) (b : Bool) :
    run (regPrims early body) Progs.reg_GetSingleton [.int n, .bool b] r
      = some (encGet (r.get n b early).1, (r.get n b early).2) := by
  unfold Reg.get
  cases h1 : r.l1? n with
  | some o => simp [go_eval, Progs.reg_GetSingleton, h1, encGet, encOpt]
  | none =>
    cases h2 : r.l2? n with
    | some o => simp [go_eval, Progs.reg_GetSingleton, h1, h2, encGet, encOpt]
    | none =>
      -- what `singletonFactories.Load` and the early-reference factory hand back decides how the program goes on
      cases b <;> by_cases h3 : n ∈ r.l3 <;> cases early <;>
        simp [go_eval, Progs.reg_GetSingleton, h1, h2, h3, encGet, encRes, encOpt, errVal]

/-- GetSingletonOrCreateByFactory = beginCreate, the factory, endCreate -/
theorem getSingletonOrCreate_sem (r : Reg) (n : Nat) :
    run (regPrims early body) Progs.reg_GetSingletonOrCreateByFactory [.int n, .ref n 1] r
      = some (match (r.beginCreate n).1 with
              | some o => (.tuple [encObj o, .nil], r)
              | none =>
                let x := body (r.beginCreate n).2
                (encRes x.1, x.2.endCreate n x.1)) := by
  have hA (o : Obj) (r' : Reg) : callAdd early body [.int n, .ref o.name o.ver] r' = some (.tuple [], r'.addSingleton n o) :=
    addSingleton_base early body r' n o
  have hR (r' : Reg) : callRemove early body [.int n] r' = some (.tuple [], r'.remove n) := removeSingleton_base early body r' n
  unfold Reg.beginCreate
  cases h1 : r.l1? n <;> simp [go_eval, Progs.reg_GetSingletonOrCreateByFactory, h1, encOpt]
  rcases body { r with inCr := sput n r.inCr } with ⟨_ | o, r2⟩ <;> simp [go_eval, encRes, errVal, Reg.endCreate, hA, hR]

end Ioc.Sem
