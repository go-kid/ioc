/-
  Semantic theorems for the REGENERATED Meta.scanFields and reflectx.ForEachFieldV2 (interpretation: Ioc.SemScanFields).
-/
import Ioc.SemScanFields
import IocProofs.Lemmas.GoEval
namespace Ioc.Sem
open Ioc Ioc.Go

section scan
variable {α : Type} (fs : List LField) (own : Nat → α) (sub : Nat → List α)

abbrev SCP := scanPrims fs own sub

def sfClosure : List String × List Stmt :=
  match Progs.meta_scanFields.body with
  | [.assign _ (.hcall _ _ ps b)] => (ps, b)
  | _ => ([], [])
theorem sf_shape : Progs.meta_scanFields.body =
    [.assign ["_"] (.hcall "reflectx.ForEachFieldV2" [.sel (.var "holder") "Type", .sel (.var "holder") "Value", .bool false]
      sfClosure.1 sfClosure.2)] := rfl
theorem sf_params : Progs.meta_scanFields.params = ["holder"] := rfl

def envSF : Env := [("holder", .str "holder")]

attribute [local go_eval] scanFn_hType scanFn_hValue scanFn_fType scanFn_Anonymous scanFn_Tag scanFn_Kind scanFn_rStruct scanFn_Base
  scanFn_Embed scanFn_rec scanFn_CanSet scanFn_self scanFn_selfFields scanFn_Field scanFn_append scanFn_setFields
@[local go_eval] theorem scanPrims_fn : (scanPrims fs own sub).fn = scanFn fs own sub := rfl
@[local go_eval] theorem scanPrims_hfn (k : Handler (List α)) (w : List α) :
    (scanPrims fs own sub).hfn "reflectx.ForEachFieldV2" [.str "T", .str "V", .bool false] k w =
      feLoopK k (List.range' 0 fs.length) w := rfl

/-- the function literal on field i: nil, and `m.Fields` grows by what the field contributes -/
theorem sf_closure (i : Nat) (w : List α) :
    litHandler (SCP fs own sub) envSF sfClosure.1 sfClosure.2 [.ref i 60, .ref i 61] w =
      some (.nil, w ++ fieldScan (lfieldAt fs i) (own i) (sub i)) := by
  simp [go_eval, litHandler, store_as "Fields" ".set:Fields" rfl, sfClosure, Progs.meta_scanFields, envSF]
  rcases lfieldAt fs i with ⟨a, t, s, c⟩
  cases a <;> cases t <;> cases s <;> cases c <;> simp [fieldScan, LField.descends]

theorem feLoopK_sf (h : Handler (List α))
    (hh : ∀ i w, h [.ref i 60, .ref i 61] w = some (.nil, w ++ fieldScan (lfieldAt fs i) (own i) (sub i))) :
    ∀ (is : List Nat) (k : Nat) (w : List α), feLoopK h is w = some (.nil, w ++ levelScan fs own sub k is) := by
  intro is
  induction is with
  | nil => intro k w; simp [feLoopK, levelScan]
  | cons i rest ih =>
    intro k w
    simp only [feLoopK, hh, levelScan]
    rw [ih k]
    simp [List.append_assoc]

/-- Meta.scanFields, regenerated WITH its function literal (the recursive call is the primitive `self.scanFields`): one level of
    a struct contributes, field by field in declaration order, what `fieldScan` says — the embedded struct's own scan for an
    anonymous, untagged, by-value struct (settable or not), the field itself when it is settable, nothing otherwise -/
theorem scanFields_sem (w : List α) :
    run (SCP fs own sub) Progs.meta_scanFields [.str "holder"] w =
      some (.tuple [], w ++ levelScan fs own sub 0 (List.range' 0 fs.length)) := by
  have hl := feLoopK_sf fs own sub _ (sf_closure fs own sub) (List.range' 0 fs.length) 0 w
  simp only [sfClosure, Progs.meta_scanFields, envSF] at hl
  simp [go_eval, Progs.meta_scanFields, hl]

end scan
section fe
variable {σ : Type} (n : Nat) (pub : Nat → Bool) (cb : Nat → σ → Option String × σ)

def feBody : List Stmt := match Progs.reflectx_ForEachFieldV2.body with | [_, _, .forc _ _ _ b, _] => b | _ => []
def fePre : List Stmt := Progs.reflectx_ForEachFieldV2.body.take 2
theorem fe_shape : Progs.reflectx_ForEachFieldV2.body =
    fePre ++ [.forc [.define ["i"] (.int 0)] (.bin "<" (.var "i") (.mcall (.var "t") "NumField" []))
                [.assign ["i"] (.bin "+" (.var "i") (.int 1))] feBody,
              .ret [.nil]] := rfl
theorem fe_params : Progs.reflectx_ForEachFieldV2.params = ["t", "v", "excludePrivateField", "f"] := rfl

def envFE (ex : Bool) (i : Nat) : Env :=
  [("i", .int i), ("t", .str "T"), ("v", .str "V"), ("excludePrivateField", .bool ex), ("f", .ref 0 40)]

def encOptErr : Option String → Val
  | none => .nil
  | some e => .str e

/-- one round of the loop on the model state (the index) -/
def feStep (ex : Bool) (i : Nat) (w : σ) : Nat × σ × Option Ctl :=
  if i < n then
    if ex && !pub i then (i + 1, w, none)
    else match (cb i w).1 with
      | none => (i + 1, (cb i w).2, none)
      | some e => (i, (cb i w).2, some (.ret (.str e)))
  else (i, w, some .norm)

attribute [local go_eval] feFn.eq_1 feFn.eq_2 feFn.eq_3 feFn.eq_4 feFn.eq_5 feFn.eq_6 feFn.eq_7 feFn.eq_8 feFn.eq_9 feFn.eq_10 feFn.eq_11
@[local go_eval] theorem fePrims_fn (fuel : Nat) : (fePrims n pub cb fuel).fn = feFn n pub cb := rfl

/-- the callback's answer as a decision: the program's test `err != nil` then decides -/
@[local go_eval] theorem feFn_call (i j : Nat) (w : σ) : feFn n pub cb ".call" [.ref 0 40, .ref i 60, .ref j 61] w =
    some (if (cb i w).1.isSome then .str ((cb i w).1.getD "") else .nil, (cb i w).2) := by
  rw [feFn]; cases (cb i w).1 <;> rfl

theorem fe_iter (fuel : Nat) (ex : Bool) (i : Nat) (w : σ) :
    forcIter (fePrims n pub cb fuel) (.bin "<" (.var "i") (.mcall (.var "t") "NumField" []))
        [.assign ["i"] (.bin "+" (.var "i") (.int 1))] feBody (envFE ex i) w =
    some (envFE ex (feStep n pub cb ex i w).1, (feStep n pub cb ex i w).2.1, (feStep n pub cb ex i w).2.2) := by
  simp [go_eval, forcIter_eq, feBody, Progs.reflectx_ForEachFieldV2, envFE]
  unfold feStep
  by_cases hlt : i < n <;> cases ex <;> cases pub i <;> rcases cb i w with ⟨_ | e, w'⟩ <;> simp [hlt]

def feFinish (r : Option (Nat × σ × Ctl)) : Option (Val × σ) :=
  match r with
  | some (_, w', .norm) => some (.nil, w')
  | some (_, w', .ret v) => some (v, w')
  | _ => none

/-- the rounds from index i on are the model loop over the remaining indices -/
theorem feStep_loop (ex : Bool) : ∀ (m i : Nat) (w : σ) (fuel : Nat), i + m = n → m + 1 ≤ fuel →
    feFinish (stepWhile (feStep n pub cb ex) fuel i w) =
      some (encOptErr (feLoop cb (fun j => ex && !pub j) (List.range' i m) w).1,
            (feLoop cb (fun j => ex && !pub j) (List.range' i m) w).2) := by
  intro m
  induction m with
  | zero =>
    intro i w fuel hi hf
    obtain ⟨f', rfl⟩ : ∃ f', fuel = f' + 1 := ⟨fuel - 1, by omega⟩
    have : ¬ i < n := by omega
    simp [stepWhile, feStep, this, feFinish, feLoop, encOptErr]
  | succ m ih =>
    intro i w fuel hi hf
    obtain ⟨f', rfl⟩ : ∃ f', fuel = f' + 1 := ⟨fuel - 1, by omega⟩
    have hlt : i < n := by omega
    simp only [stepWhile, feStep, hlt, if_true, List.range'_succ, feLoop]
    cases hsk : (ex && !pub i) with
    | true => simp only [if_true]; exact ih (i + 1) w f' (by omega) (by omega)
    | false =>
      simp only [Bool.false_eq_true, if_false]
      rcases hcb : cb i w with ⟨r, w'⟩
      cases r with
      | none => simp only []; exact ih (i + 1) w' f' (by omega) (by omega)
      | some e => simp [feFinish, encOptErr]

theorem fePrims_fuel (fuel : Nat) : (fePrims n pub cb fuel).fuel = fuel := rfl

/-- on a struct type, directly (`p = false`) or through a pointer, which is followed first: the rounds of the loop -/
theorem fe_run (fuel : Nat) (ex p : Bool) (w : σ) :
    run (fePrims n pub cb fuel) Progs.reflectx_ForEachFieldV2
        [.str (if p then "PT" else "T"), .str (if p then "PV" else "V"), .bool ex, .ref 0 40] w =
      feFinish (stepWhile (feStep n pub cb ex) fuel 0 w) := by
  have hw := whileM_state _ (envFE ex) (feStep n pub cb ex) (fun t w' => fe_iter n pub cb fuel ex t w') fuel 0 w
  simp only [envFE, feBody, Progs.reflectx_ForEachFieldV2, show ((0 : Nat) : Int) = 0 from rfl] at hw
  cases p <;> simp [go_eval, Progs.reflectx_ForEachFieldV2, fePrims_fuel, hw] <;>
    rcases stepWhile (feStep n pub cb ex) fuel 0 w with _ | ⟨t, w', c⟩ <;> first | rfl | (cases c <;> rfl)

/-- reflectx.ForEachFieldV2, regenerated, on a struct type with n fields: every field index in order, private fields skipped
    when asked to, the first callback error ends the walk and is the result — for EVERY callback (which may change the world) -/
theorem forEachField_sem (fuel : Nat) (ex : Bool) (w : σ) (hf : n + 1 ≤ fuel) :
    run (fePrims n pub cb fuel) Progs.reflectx_ForEachFieldV2 [.str "T", .str "V", .bool ex, .ref 0 40] w =
      some (encOptErr (feLoop cb (fun j => ex && !pub j) (List.range' 0 n) w).1,
            (feLoop cb (fun j => ex && !pub j) (List.range' 0 n) w).2) :=
  (fe_run n pub cb fuel ex false w).trans (feStep_loop n pub cb ex n 0 w fuel (by omega) hf)

/-- … through a POINTER to such a struct it is the same walk (the pointer is followed first), and on any other kind nothing
    is visited -/
theorem forEachField_ptr_sem (fuel : Nat) (ex : Bool) (w : σ) (_hf : n + 1 ≤ fuel) :
    run (fePrims n pub cb fuel) Progs.reflectx_ForEachFieldV2 [.str "PT", .str "PV", .bool ex, .ref 0 40] w =
      run (fePrims n pub cb fuel) Progs.reflectx_ForEachFieldV2 [.str "T", .str "V", .bool ex, .ref 0 40] w :=
  (fe_run n pub cb fuel ex true w).trans (fe_run n pub cb fuel ex false w).symm

theorem forEachField_other_sem (fuel : Nat) (ex : Bool) (v : Val) (w : σ) :
    run (fePrims n pub cb fuel) Progs.reflectx_ForEachFieldV2 [.str "OT", v, .bool ex, .ref 0 40] w = some (.nil, w) := by
  simp [go_eval, Progs.reflectx_ForEachFieldV2]

end fe
/-! ### the walk the primitive `reflectx.ForEachFieldV2` does for scanFields IS the regenerated ForEachFieldV2 on the literal -/

theorem feLoopK_total {σ : Type} (k : Handler σ) (cb : Nat → σ → Option String × σ)
    (hk : ∀ i w, k [.ref i 60, .ref i 61] w = some (encOptErr (cb i w).1, (cb i w).2)) :
    ∀ (is : List Nat) (w : σ),
      feLoopK k is w = some (encOptErr (feLoop cb (fun _ => false) is w).1, (feLoop cb (fun _ => false) is w).2) := by
  intro is
  induction is with
  | nil => intro w; simp [feLoopK, feLoop, encOptErr]
  | cons i rest ih =>
    intro w
    simp only [feLoopK, feLoop, hk, Bool.false_eq_true, if_false]
    rcases hcb : cb i w with ⟨r, w'⟩
    cases r with
    | none => simp only [encOptErr]; exact ih w'
    | some e => simp [encOptErr]

theorem levelScan_eq_flatMap {α : Type} (fs : List LField) (own : Nat → α) (sub : Nat → List α) (k : Nat) (is : List Nat) :
    levelScan fs own sub k is = is.flatMap (fun i => fieldScan (lfieldAt fs i) (own i) (sub i)) := by
  induction is with
  | nil => rfl
  | cons i rest ih => simp [levelScan, ih]

theorem map_getD_range' {β : Type} (d : β) : ∀ (l : List β) (pre : List β),
    (List.range' pre.length l.length).map (fun i => (pre ++ l).getD i d) = l := by
  intro l
  induction l with
  | nil => intro pre; simp
  | cons x rest ih =>
    intro pre
    rw [List.length_cons, List.range'_succ, List.map_cons]
    have h1 : (pre ++ x :: rest).getD pre.length d = x := by simp [List.getD_eq_getElem?_getD]
    have h2 := ih (pre ++ [x])
    simp only [List.length_append, List.length_cons, List.length_nil, List.append_assoc, List.cons_append, List.nil_append] at h2
    rw [h1, h2]

end Ioc.Sem
