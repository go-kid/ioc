/-
  Semantic theorems for the REGENERATED registry readers, holder constructors and GetAllProperties (interpretation: Ioc.SemSmall).
-/
import Ioc.SemSmall
import IocProofs.Lemmas.GoEval

namespace Ioc.Sem
open Ioc Ioc.Go

attribute [local go_eval] srFn.eq_1 srFn.eq_2 srFn.eq_3 srFn.eq_4 srFn.eq_5 hoFn.eq_1 hoFn.eq_2 hoFn.eq_3 hoFn.eq_4
  gaFn.eq_1 gaFn.eq_2 gaFn.eq_3
@[local go_eval] theorem srPrims_fn : srPrims.fn = srFn := rfl
@[local go_eval] theorem srPrims_hfnE (k : HandlerE CMap) (env : Env) (w : CMap) :
    srPrims.hfnE "self.componentsMap.Range" [] k env w = rangeLoopG k w env w := rfl
@[local go_eval] theorem hoPrims_fn : hoPrims.fn = hoFn := rfl
@[local go_eval] theorem gaPrims_fn (gs : List (String × List Nat)) : (gaPrims gs).fn = gaFn gs := rfl

/-- GetSingleton: the registered object, or an error naming the missing singleton; the registry is not changed -/
theorem sregGetSingleton_sem (n : String) (w : CMap) :
    run srPrims Progs.sreg_GetSingleton [.str n] w =
      some (match cmLoad w n with
            | some j => .tuple [.ref j 0, .nil]
            | none => .tuple [.nil, .str ("singleton not exist: " ++ n)], w) := by
  cases hl : cmLoad w n <;> simp [go_eval, Progs.sreg_GetSingleton, hl]

theorem sregContains_sem (n : String) (w : CMap) :
    run srPrims Progs.sreg_ContainsSingleton [.str n] w = some (.bool (cmLoad w n).isSome, w) := by
  cases hl : cmLoad w n <;> simp [go_eval, Progs.sreg_ContainsSingleton, hl]

/-! GetSingletonNames: the literal handed to Range appends to the captured `names` -/

def gnClosure : List String × List Stmt :=
  match Progs.sreg_GetSingletonNames.body with
  | [_, .hcallS _ _ _ ps b, _] => (ps, b)
  | _ => ([], [])

theorem gn_shape : Progs.sreg_GetSingletonNames.body =
    [.define ["names"] .nil, .hcallS [] "self.componentsMap.Range" [] gnClosure.1 gnClosure.2, .ret [(.var "names")]] := rfl

theorem srFn_append (acc : List String) (k : String) (w : CMap) :
    srFn "append" [strsNil acc, .str k] w = some (strsNil (acc ++ [k]), w) := by
  cases acc <;> simp [strsNil, go_eval]

theorem rangeLoopG_gn (k : HandlerE CMap)
    (hk : ∀ acc n i w, k [.str n, .ref i 0] [("names", strsNil acc)] w = some (.bool true, [("names", strsNil (acc ++ [n]))], w)) :
    ∀ (es : CMap) (acc : List String) (w : CMap),
      rangeLoopG k es [("names", strsNil acc)] w = some (.tuple [], [("names", strsNil (acc ++ es.map (·.1)))], w) := by
  intro es
  induction es with
  | nil => intro acc w; simp [rangeLoopG]
  | cons e rest ih => intro acc w; simp [rangeLoopG, hk, ih]

/-- GetSingletonNames: the names in the order in which the map enumerates its entries — nothing else orders them; an empty
    registry gives a nil slice -/
theorem sregNames_sem (w : CMap) :
    run srPrims Progs.sreg_GetSingletonNames [] w = some (strsNil (w.map (·.1)), w) := by
  have hloop := rangeLoopG_gn (litHandlerE srPrims gnClosure.1 gnClosure.2) (by
    intro acc n i w
    simp [go_eval, litHandlerE, gnClosure, Progs.sreg_GetSingletonNames, srFn_append]) w [] w
  simp only [gnClosure, Progs.sreg_GetSingletonNames, strsNil.eq_1] at hloop
  simp [go_eval, Progs.sreg_GetSingletonNames, hloop]

/-- GetSingletonCount: the number of names -/
theorem sregCount_sem (w : CMap) :
    run srPrims Progs.sreg_GetSingletonCount [] w = some (.int w.length, w) := by
  cases w <;> simp [go_eval, Progs.sreg_GetSingletonCount, strsNil]

/-- NewHolder: the definition's own Base, the definition, not embedded, no outer holder; NewEmbedHolder: the embedded
    struct's Base, the OUTER holder's definition, embedded, the outer holder as parent -/
theorem newHolder_sem (m : Nat) :
    run hoPrims Progs.holder_NewHolder [.ref m 1] () =
      some (.tuple [.str "Holder", .ref m 130, .ref m 1, .bool false, .nil], ()) := by
  simp [go_eval, Progs.holder_NewHolder]

theorem newEmbedHolder_sem (b hb hm he hh : Val) :
    run hoPrims Progs.holder_NewEmbedHolder [b, .tuple [.str "Holder", hb, hm, he, hh]] () =
      some (.tuple [.str "Holder", b, hm, .bool true, .tuple [.str "Holder", hb, hm, he, hh]], ()) := by
  simp [go_eval, Progs.holder_NewEmbedHolder]

def gaBody : List Stmt := match Progs.meta_GetAllProperties.body with | [_, .range _ _ _ b, _] => b | _ => []
theorem ga_shape : Progs.meta_GetAllProperties.body =
    [.define ["props"] .nil, .range "_" "groupNodes" (.glob "self.propertyGroup") gaBody, .ret [(.var "props")]] := rfl

/-- nil until a group is appended (a group may be empty: `append(nil, empty...)` of a non-nil empty slice is that slice) -/
def propsAcc : Option (List Nat) → Val
  | none => .nil
  | some l => .list (l.map (fun i => Val.ref i 20))

def gaAcc (acc : Option (List Nat)) (g : List Nat) : Option (List Nat) := some (acc.getD [] ++ g)

theorem gaFn_append (gs : List (String × List Nat)) (acc : Option (List Nat)) (g : List Nat) :
    gaFn gs "append..." [propsAcc acc, .list (g.map (fun i => Val.ref i 20))] () = some (propsAcc (gaAcc acc g), ()) := by
  cases acc <;> simp [propsAcc, gaAcc, go_eval]

theorem ga_loop (f : Nat → Val → Env → Unit → Option (Env × Unit × Ctl))
    (hf : ∀ n kk (g : List Nat) acc, f n (.tuple [kk, .list (g.map (fun i => Val.ref i 20))]) [("props", propsAcc acc)] () =
      some ([("props", propsAcc (gaAcc acc g))], (), .norm)) :
    ∀ (l : List (String × List Nat)) (i : Nat) (acc : Option (List Nat)),
      loopM f i (l.map (fun g => Val.tuple [.str g.1, .list (g.2.map (fun i => Val.ref i 20))])) [("props", propsAcc acc)] () =
        some ([("props", propsAcc (l.foldl (fun a g => gaAcc a g.2) acc))], (), .norm) := by
  intro l
  induction l with
  | nil => intro i acc; simp [loopM]
  | cons g rest ih => intro i acc; simp [loopM, hf, ih]

/-- GetAllProperties: the groups CONCATENATED IN THE ORDER IN WHICH THE MAP RANGE ENUMERATES THEM — the order of the
    properties of different types in the result is that of the map iteration, within a type the order of the group -/
theorem getAllProperties_sem (gs : List (String × List Nat)) :
    run (gaPrims gs) Progs.meta_GetAllProperties [] () =
      some (propsAcc (gs.foldl (fun a g => gaAcc a g.2) none), ()) := by
  have hloop := ga_loop (rangeIterMap (gaPrims gs) "_" "groupNodes" gaBody) (by
    intro n kk g acc
    simp [go_eval, rangeIterMap, gaBody, Progs.meta_GetAllProperties, gaFn_append]) gs 0 none
  simp only [gaBody, Progs.meta_GetAllProperties, propsAcc.eq_1] at hloop
  simp [go_eval, Progs.meta_GetAllProperties, groupsVal, hloop]

end Ioc.Sem
