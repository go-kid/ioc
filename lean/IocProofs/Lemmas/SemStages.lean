/-
  The regenerated configuration stages (interpretation: Ioc.SemStages) compute the model's stage loops: every stage is a
  `for range` over the property nodes whose rounds are the stage's node function, followed by `return nil, nil`
  (`stage_run`); each round is evaluated once and compared with the node function.
-/
import Ioc.SemStages
import IocProofs.Lemmas.GoEval
namespace Ioc.Sem
open Ioc Ioc.Go

def envS (n : Nat) : Env :=
  [("properties", .list ((List.range' 0 n).map (fun i => Val.ref i 20))), ("component", .str "c"), ("componentName", .str "n")]

def stageRet : Option String → Option Val
  | none => none
  | some e => some (.tuple [.nil, .str e])

def stageResult : Option String → Val
  | none => .tuple [.nil, .nil]
  | some e => .tuple [.nil, .str e]

/-- `stageLoop` as a `stepLoop` -/
def nodeStep (node : Nat → SW → SW × Option String) (i : Nat) (_ : Unit) (w : SW) : Unit × SW × Option Val :=
  ((), (node i w).1, stageRet (node i w).2)

theorem nodeStep_loop (node : Nat → SW → SW × Option String) (is : List Nat) (w : SW) :
    stepLoop (nodeStep node) is () w = ((), (stageLoop node is w).1, stageRet (stageLoop node is w).2) := by
  induction is generalizing w with
  | nil => rfl
  | cons i rest ih =>
    simp only [stepLoop, stageLoop, nodeStep]
    rcases h : node i w with ⟨w', r⟩
    cases r with
    | none => simp only [stageRet]; exact ih w'
    | some e => simp [stageRet]

/-- what one round of a stage's loop leaves: the environment as it was, the node's events, and `return nil, err` when
    the node fails -/
def stageOut (e : Env) (r : SW × Option String) : Out SW := some (e, r.1, ctlOf (stageRet r.2))

@[simp] theorem stageOut_none (e : Env) (w : SW) : stageOut e (w, none) = some (e, w, .norm) := rfl
@[simp] theorem stageOut_some (e : Env) (w : SW) (s : String) :
    stageOut e (w, some s) = some (e, w, .ret (.tuple [.nil, .str s])) := rfl
/-- for an error that is a primitive's answer: the form in which the program's `if err != nil` leaves it -/
@[simp low] theorem stageOut_mk (e : Env) (w : SW) (o : Option String) : stageOut e (w, o) =
    if o.isSome = true then some (e, w, .ret (.tuple [.nil, encErr o])) else some (e, w, .norm) := by cases o <;> rfl
@[simp] theorem stageOut_mk_ite (e : Env) (w : SW) (c : Prop) [Decidable c] (a b : Option String) :
    stageOut e (w, if c then a else b) = if c then stageOut e (w, a) else stageOut e (w, b) := by split <;> rfl
@[simp] theorem stageOut_ite (e : Env) (c : Prop) [Decidable c] (a b : SW × Option String) :
    stageOut e (if c then a else b) = if c then stageOut e a else stageOut e b := by split <;> rfl

theorem valEq_encErr (o : Option String) : valEq (encErr o) .nil = some o.isNone := by cases o <;> rfl

def stageBody (f : Func) : List Stmt := match f.body with | [.range _ _ _ b, _] => b | _ => []

/-- the shared shape: a `for range` over the nodes whose rounds are `node`, then `return nil, nil` -/
theorem stage_run (P : Prims SW) (f : Func) (node : Nat → SW → SW × Option String)
    (hshape : f.body = [.range "_" "prop" (.var "properties") (stageBody f), .ret [.nil, .nil]])
    (hparams : f.params = ["properties", "component", "componentName"])
    (hiter : ∀ (n i k : Nat) (w : SW), settle (rangeIter P "_" "prop" (stageBody f) i (.ref k 20) (envS n) w) =
      stageOut (envS n) (node k w))
    (n : Nat) (w : SW) :
    run P f [.list ((List.range' 0 n).map (fun i => Val.ref i 20)), .str "c", .str "n"] w =
      some (stageResult (stageLoop node (List.range' 0 n) w).2, (stageLoop node (List.range' 0 n) w).1) := by
  have hloop := loopM_rounds (fun i => Val.ref i 20) (rangeIter P "_" "prop" (stageBody f)) (fun _ : Unit => envS n)
    (nodeStep node) (fun i k _ w => hiter n i k w) (List.range' 0 n) 0 () w
  rw [nodeStep_loop] at hloop
  simp only [envS] at hloop
  simp [go_eval, hshape, hparams, hloop]
  cases (stageLoop node (List.range' 0 n) w).2 <;> rfl

section loops
variable (props : List SProp) (cfg : String → Option Nat) (unm : Nat → Nat → Option String) (parse : String → Except String Nat)

abbrev SP := stagePrims props cfg unm parse

attribute [local go_eval] stageFn_prefixTag stageFn_valueTag stageFn_Tag stageFn_TagVal stageFn_IsRequired stageFn_Get
  stageFn_SetCfgNil stageFn_SetCfg stageFn_Unmarshall stageFn_ParseAny stageFn_Errorf stageFn_WithMessagef
@[local go_eval] theorem stagePrims_fn : (stagePrims props cfg unm parse).fn = stageFn props cfg unm parse := rfl

/-- propertiesAwarePostProcessors.PostProcessProperties, regenerated: the nodes in order, each through `prefixNode`
    (SetConfiguration, then — only for a configured key — Unmarshall), the first failure ends the stage -/
theorem props_sem (n : Nat) (w : SW) :
    run (SP props cfg unm parse) Progs.props_PostProcessProperties
        [.list ((List.range' 0 n).map (fun i => Val.ref i 20)), .str "c", .str "n"] w =
      some (stageResult (stageLoop (prefixNode props cfg unm) (List.range' 0 n) w).2,
            (stageLoop (prefixNode props cfg unm) (List.range' 0 n) w).1) := by
  refine stage_run _ _ _ rfl rfl (fun n i k w => ?_) n w
  -- what `Configure.Get` hands back decides which calls follow
  cases hc : cfg (tagValNow props w k) <;>
    simp [go_eval, valEq_encErr, rangeIter, stageBody, Progs.props_PostProcessProperties, envS, prefixNode, hc, encCV]

/-- what `prefixNode` returns is the decision `prefixDecision` of the three answers -/
theorem prefixNode_decision (i : Nat) (w : SW) (ht : (spropAt props i).tag = "prefix") :
    (prefixNode props cfg unm i w).2 =
      match prefixNodeDecision props cfg unm i w with
      | .fail e => some e
      | _ => none := by
  unfold prefixNode prefixNodeDecision prefixDecision
  simp only [ht, bne_self_eq_false, Bool.false_eq_true, if_false]
  cases hc : cfg (tagValNow props w i) with
  | none => cases (spropAt props i).required <;> simp
  | some a => cases hu : unm i a <;> simp [hu]

/-- … and the decoder runs exactly when the key is configured -/
theorem prefixNode_events (i : Nat) (w : SW) (ht : (spropAt props i).tag = "prefix") :
    (prefixNode props cfg unm i w).1 =
      w ++ [.setCfg i (tagValNow props w i) (cfg (tagValNow props w i))] ++
        (match cfg (tagValNow props w i) with
         | none => []
         | some a => [.unmarshal i a]) := by
  unfold prefixNode
  simp only [ht, bne_self_eq_false, Bool.false_eq_true, if_false]
  cases cfg (tagValNow props w i) <;> simp

/-- valueAwarePostProcessors.PostProcessProperties, regenerated -/
theorem value_sem (n : Nat) (w : SW) :
    run (SP props cfg unm parse) Progs.value_PostProcessProperties
        [.list ((List.range' 0 n).map (fun i => Val.ref i 20)), .str "c", .str "n"] w =
      some (stageResult (stageLoop (valueNode props unm parse) (List.range' 0 n) w).2,
            (stageLoop (valueNode props unm parse) (List.range' 0 n) w).1) := by
  refine stage_run _ _ _ rfl rfl (fun n i k w => ?_) n w
  cases hp : parse (tagValNow props w k) <;>
    simp [go_eval, valEq_encErr, rangeIter, stageBody, Progs.value_PostProcessProperties, envS, valueNode, hp, encParse]

theorem valueNode_decision (i : Nat) (w : SW) (ht : (spropAt props i).tag = "value") :
    (valueNode props unm parse i w).2 =
      match valueNodeDecision props unm parse i w with
      | .fail e => some e
      | _ => none := by
  unfold valueNode valueNodeDecision valueDecision
  simp only [ht, bne_self_eq_false, Bool.false_eq_true, if_false]
  by_cases he : tagValNow props w i = ""
  · simp only [he, beq_self_eq_true, if_true]
    cases (spropAt props i).required <;> simp
  · have he' : (tagValNow props w i == "") = false := by simpa using he
    simp only [he', Bool.false_eq_true, if_false]
    cases hp : parse (tagValNow props w i) with
    | error e => simp
    | ok a => cases hu : unm i a <;> simp [hu]

end loops

section validate
variable (props : List SProp) (vS : Nat → Option String) (vV : Nat → String → Option String)

abbrev VP := validPrims props vS vV

attribute [local go_eval] validFn_cfgType validFn_argValidate validFn_rPointer validFn_rStruct validFn_timeType validFn_Conv
  validFn_ConvElem validFn_PropertyType validFn_Args validFn_Find validFn_Type validFn_Kind validFn_Elem validFn_KindElem
  validFn_Value validFn_IsNil validFn_CanInterface validFn_Interface validFn_Struct validFn_Var validFn_Join validFn_Wrapf
  strsOf_map str_ite
@[local go_eval] theorem validPrims_fn : (validPrims props vS vV).fn = validFn props vS vV := rfl

/-- validateAwarePostProcessors.PostProcessProperties, regenerated -/
theorem validate_sem (n : Nat) (w : SW) :
    run (VP props vS vV) Progs.validate_PostProcessProperties
        [.list ((List.range' 0 n).map (fun i => Val.ref i 20)), .str "c", .str "n"] w =
      some (stageResult (stageLoop (validateNode props vS vV) (List.range' 0 n) w).2,
            (stageLoop (validateNode props vS vV) (List.range' 0 n) w).1) := by
  refine stage_run _ _ _ rfl rfl (fun n i k w => ?_) n w
  cases hv : (spropAt props k).validate with
  | none => simp [go_eval, rangeIter, stageBody, Progs.validate_PostProcessProperties, envS, validateNode, hv]
  | some ts =>
    simp [go_eval, valEq_encErr, ite_and_nest, ite_eq_false_swap, rangeIter, stageBody, Progs.validate_PostProcessProperties,
      envS, validateNode, hv]
    -- where the type is no pointer the program still asks whether its kind is one
    cases (spropAt props k).isPtr <;> simp

theorem validateNode_decision (i : Nat) (w : SW) :
    (validateNode props vS vV i w).2 =
      match validateNodeDecision props vS vV i with
      | .fail e => some e
      | _ => none := by
  unfold validateNode validateNodeDecision validateDecision
  simp only []
  cases (spropAt props i).cfgType
  · rfl
  rcases (spropAt props i).validate with _ | ts
  · rfl
  cases ((spropAt props i).isPtr && (spropAt props i).isNil) <;>
    cases ((spropAt props i).isStruct && !(spropAt props i).isTime) <;> cases (spropAt props i).canIface <;> simp <;>
    first | (cases vS i <;> rfl) | (cases vV i (",".intercalate ts) <;> rfl)

end validate
section el
variable {σ : Type} (ops : ElOps String) (cb : String → σ → Except String String × σ) (bound : Nat)

attribute [local go_eval] elFn.eq_1 elFn.eq_2 elFn.eq_3 elFn.eq_4 elFn.eq_5 elFn.eq_6
@[local go_eval] theorem elPrims_fn (fuel : Nat) : (elPrims ops cb bound fuel).fn = elFn ops cb bound := rfl

def elBody : List Stmt := match Progs.el_ReplaceAllContent.body with | [_, .forc _ _ _ b, _] => b | _ => []
theorem el_shape : Progs.el_ReplaceAllContent.body =
    [.define ["result"] (.var "s"),
     .forc [.define ["round"] (.int 0)] (.bool true) [.assign ["round"] (.bin "+" (.var "round") (.int 1))] elBody,
     .ret [.var "result", .nil]] := rfl
theorem el_params : Progs.el_ReplaceAllContent.params = ["s", "f"] := rfl

def envEl (s0 : String) (t : Nat × String) : Env :=
  [("round", .int t.1), ("result", .str t.2), ("s", .str s0), ("f", .ref 0 40)]

/-- one round on the model state (round, result) -/
def elStep (t : Nat × String) (w : σ) : (Nat × String) × σ × Option Ctl :=
  if ops.find t.2 == "" then (t, w, some .norm)
  else if t.1 ≥ bound then (t, w, some (.ret (.tuple [.str "", .str "unresolved"])))
  else match (cb (ops.content (ops.find t.2)) w).1 with
    | .error e => (t, (cb (ops.content (ops.find t.2)) w).2, some (.ret (.tuple [.str "", .str e])))
    | .ok r => ((t.1 + 1, ops.replace1 t.2 (ops.find t.2) r), (cb (ops.content (ops.find t.2)) w).2, none)

theorem el_iter (fuel : Nat) (s0 : String) (t : Nat × String) (w : σ) :
    forcIter (elPrims ops cb bound fuel) (.bool true) [.assign ["round"] (.bin "+" (.var "round") (.int 1))] elBody (envEl s0 t) w =
    some (envEl s0 (elStep ops cb bound t w).1, (elStep ops cb bound t w).2.1, (elStep ops cb bound t w).2.2) := by
  obtain ⟨round, result⟩ := t
  rcases hcb : cb (ops.content (ops.find result)) w with ⟨_ | _, w'⟩ <;>
    simp [go_eval, forcIter, envEl, elStep, elBody, Progs.el_ReplaceAllContent, hcb, encStrRes]
  all_goals by_cases he : ops.find result = "" <;> by_cases hb : bound ≤ round <;> simp [he, hb]

def encElRes : Except String String → Val
  | .ok r => .tuple [.str r, .nil]
  | .error e => .tuple [.str "", .str e]

/-- what `run` makes of the loop's outcome followed by `return result, nil` -/
def elFinish (r : Option ((Nat × String) × σ × Ctl)) : Option (Val × σ) :=
  match r with
  | some (t, w', .norm) => some (.tuple [.str t.2, .nil], w')
  | some (_, w', .ret v) => some (v, w')
  | _ => none

/-- the rounds of the regenerated loop are the model loop -/
theorem elStep_loop (hE : ∀ s, ops.isEmpty s = (s == "")) : ∀ (fuel round : Nat) (s : String) (w : σ),
    elFinish (stepWhile (elStep ops cb bound) fuel (round, s) w) =
      (elLoop ops cb "unresolved" bound fuel round s w).map (fun r => (encElRes r.1, r.2)) := by
  intro fuel
  induction fuel with
  | zero => intro round s w; rfl
  | succ n ih =>
    intro round s w
    simp only [stepWhile, elLoop, elStep, hE]
    by_cases he : ops.find s = ""
    · simp [he, elFinish, encElRes]
    · have he' : (ops.find s == "") = false := by simpa using he
      simp only [he', Bool.false_eq_true, if_false]
      by_cases hb : round ≥ bound
      · simp [hb, elFinish, encElRes]
      · simp only [hb, if_false]
        rcases hcb : cb (ops.content (ops.find s)) w with ⟨r, w'⟩
        cases r with
        | error e => simp [elFinish, encElRes]
        | ok r => simp only []; exact ih (round + 1) _ w'

/-- elHelper.ReplaceAllContent, regenerated (el.go:42-61): for EVERY string operations table, callback (which may change
    the world), bound and input it is the model loop `elLoop` — same rounds, same order of callback invocations, the bound
    checked after the search and before the callback, the first callback error ends it -/
theorem el_sem (hE : ∀ s, ops.isEmpty s = (s == "")) (fuel : Nat) (s : String) (w : σ) :
    run (elPrims ops cb bound fuel) Progs.el_ReplaceAllContent [.str s, .ref 0 40] w =
      (elLoop ops cb "unresolved" bound fuel 0 s w).map (fun r => (encElRes r.1, r.2)) := by
  rw [← elStep_loop ops cb bound hE]
  have hforc := evalS_forc_state (elPrims ops cb bound fuel) [("result", .str s), ("s", .str s), ("f", .ref 0 40)] w w
    [.define ["round"] (.int 0)] _ _ _ (envEl s) (elStep ops cb bound) (0, s) (by simp [go_eval, envEl])
    (fun t w' => el_iter ops cb bound fuel s t w')
  simp only [elBody, Progs.el_ReplaceAllContent, show (elPrims ops cb bound fuel).fuel = fuel from rfl] at hforc
  rcases hr : stepWhile (elStep ops cb bound) fuel (0, s) w with _ | ⟨t, w', _ | _ | _ | v⟩ <;>
    simp [go_eval, Progs.el_ReplaceAllContent, hforc, hr, elFinish, envEl, finish]

/-- with fuel above the bound the interpretation never runs out: the loop ends for every callback -/
theorem elLoop_terminates {S ε : Type} (o : ElOps S) (c : S → σ → Except ε S × σ) (be : ε) :
    ∀ (fuel round : Nat) (s : S) (w : σ), 1 ≤ fuel → bound + 1 ≤ fuel + round →
      (elLoop o c be bound fuel round s w).isSome = true := by
  intro fuel
  induction fuel with
  | zero => intro round s w h; omega
  | succ n ih =>
    intro round s w _ h2
    simp only [elLoop]
    by_cases he : o.isEmpty (o.find s) = true
    · simp [he]
    · simp only [he, Bool.false_eq_true, if_false]
      by_cases hb : round ≥ bound
      · simp [hb]
      · simp only [hb, if_false]
        rcases hcb : c (o.content (o.find s)) w with ⟨r, w'⟩
        cases r with
        | error e => simp
        | ok r => simp only []; exact ih (round + 1) _ w' (by omega) (by omega)

end el
section quote
variable (props : List SProp) (ops : ElOps String) (splitN : String → String × Option String) (cfg : String → Option QV)
  (lenOf : Nat → Nat) (parse : String → Except String Nat) (fmtAny : Nat → Except String String) (bound fuel : Nat)

abbrev QP := quotePrims props ops splitN cfg lenOf parse fmtAny bound fuel

/-- a function literal that always answers like the total callback `cb` makes the literal loop the model loop -/
theorem elLoopK_total {σ : Type} (o : ElOps String) (k : Handler σ) (cb : String → σ → Except String String × σ) (b : Nat)
    (hE : ∀ s, o.isEmpty s = (s == ""))
    (hk : ∀ c w, k [.str c] w = some (encStrRes (cb c w).1, (cb c w).2)) :
    ∀ (fuel round : Nat) (s : String) (w : σ),
      elLoopK o k b fuel round s w = (elLoop o cb "unresolved" b fuel round s w).map (fun r => (encElRes r.1, r.2)) := by
  intro fuel
  induction fuel with
  | zero => intro round s w; rfl
  | succ n ih =>
    intro round s w
    simp only [elLoopK, elLoop, hE, hk]
    by_cases he : o.find s = ""
    · simp [he, encElRes]
    · have he' : (o.find s == "") = false := by simpa using he
      simp only [he', Bool.false_eq_true, if_false]
      by_cases hb : round ≥ b
      · simp [hb, encElRes]
      · simp only [hb, if_false]
        rcases hcb : cb (o.content (o.find s)) w with ⟨r, w'⟩
        cases r with
        | error e => simp [encStrRes, encElRes]
        | ok r => simp only [encStrRes]; exact ih (round + 1) _ w'

@[local go_eval] theorem quotePrims_fn : (quotePrims props ops splitN cfg lenOf parse fmtAny bound fuel).fn =
    quoteFn props ops splitN cfg lenOf parse fmtAny := rfl
@[local go_eval] theorem quotePrims_hfn (s : String) (k : Handler SW) (w : SW) :
    (quotePrims props ops splitN cfg lenOf parse fmtAny bound fuel).hfn "self.el.ReplaceAllContent" [.str s] k w =
      elLoopK ops k bound fuel 0 s w := rfl

/-- the body of the function literal handed to ReplaceAllContent -/
def qpLit : List Stmt := match stageBody Progs.quote_PostProcessProperties with | [_, .define _ (.hcall _ _ _ b), _, _] => b | _ => []

/-- the statement of the literal that decides whether the default is to be used -/
def qpAbsent : Stmt := qpLit.getD 4 .brk

attribute [local go_eval] qpLit stageBody Progs.quote_PostProcessProperties envS

/-- the answer of SplitN with its first element in sight, whatever the default -/
theorem quoteFn_SplitN' (e : String) (w : SW) :
    quoteFn props ops splitN cfg lenOf parse fmtAny "strings.SplitN" [.str e, .str ":", .int 2] w =
      some (.list (.str (splitN e).1 :: match (splitN e).2 with | none => [] | some d => [.str d]), w) := by
  rw [quoteFn_SplitN]; cases (splitN e).2 <;> rfl

attribute [local go_eval] quoteFn_Match quoteFn_TagStr quoteFn_SplitN' quoteFn_Get quoteFn_assertMap30 quoteFn_assertMap31
  quoteFn_assertMap32 quoteFn_assertList30 quoteFn_assertList31 quoteFn_assertList32 quoteFn_ParseAny quoteFn_FormatAny
  quoteFn_SetCfgNil quoteFn_SetCfg quoteFn_setTagVal quoteFn_Wrapf quoteFn_WithMessagef

/-- nil, an empty map and an empty list set `useDefaultValue` -/
theorem qp_absent (n k : Nat) (q : Option QV) (sp : Val) (key : String) (w : SW) :
    evalS (QP props ops splitN cfg lenOf parse fmtAny bound fuel)
        (("useDefaultValue", .bool false) :: ("expVal", encQV q) :: ("spExp", sp) :: ("exp", .str key) :: ("prop", .ref k 20) :: envS n)
        w qpAbsent =
      some (("useDefaultValue", .bool (quoteAbsent lenOf q)) :: ("expVal", encQV q) :: ("spExp", sp) :: ("exp", .str key) ::
        ("prop", .ref k 20) :: envS n, w, .norm) := by
  rcases q with _ | ⟨a, _ | _ | _⟩ <;> simp [go_eval, qpAbsent, encQV, QKind.code, quoteAbsent]
  all_goals split <;> simp [*]

/-- the function literal IS the callback `quoteCb` of the node -/
theorem qp_closure (n k : Nat) (c : String) (w : SW) :
    litHandler (QP props ops splitN cfg lenOf parse fmtAny bound fuel) (("prop", .ref k 20) :: envS n) ["exp"] qpLit [.str c] w =
      some (encStrRes (quoteCb splitN cfg lenOf parse fmtAny k c w).1, (quoteCb splitN cfg lenOf parse fmtAny k c w).2) := by
  rcases hs : splitN c with ⟨key, dflt⟩
  simp only [quoteCb, hs]
  generalize hq : cfg key = q
  have h5 := qp_absent props ops splitN cfg lenOf parse fmtAny bound fuel n k q
  simp only [qpAbsent, qpLit, stageBody, Progs.quote_PostProcessProperties, envS, List.getD_cons_succ, List.getD_cons_zero] at h5
  cases hab : quoteAbsent lenOf q
  · rcases q with _ | ⟨a, kd⟩
    · simp [quoteAbsent] at hab
    · simp only [encQV] at h5
      simp [go_eval, litHandler, hs, hq, h5, hab, quoteDecision, encQV]
      cases fmtAny a <;> simp [go_eval, encStrRes]
  · simp [go_eval, litHandler, hs, hq, h5, hab, quoteDecision]
    rcases dflt with _ | d <;> simp [go_eval, encStrRes]
    by_cases hd : d = "" <;> simp [go_eval, hd]
    rcases parse d with e | b <;> simp [go_eval, encParse, Except.map, encStrRes]
    cases fmtAny b <;> simp [go_eval]

/-- configQuoteAwarePostProcessors.PostProcessProperties, regenerated WITH its function literal: the nodes in order, each
    through `quoteNode` — the bounded replacement loop over `quoteCb` on the tag text as written; TagVal is stored only
    after a loop without error; the first failing node ends the stage -/
theorem quote_sem (hE : ∀ s, ops.isEmpty s = (s == "")) (hfuel : bound + 1 ≤ fuel) (n : Nat) (w : SW) :
    run (QP props ops splitN cfg lenOf parse fmtAny bound fuel) Progs.quote_PostProcessProperties
        [.list ((List.range' 0 n).map (fun i => Val.ref i 20)), .str "c", .str "n"] w =
      some (stageResult (stageLoop (quoteNode props ops splitN cfg lenOf parse fmtAny bound fuel) (List.range' 0 n) w).2,
            (stageLoop (quoteNode props ops splitN cfg lenOf parse fmtAny bound fuel) (List.range' 0 n) w).1) := by
  refine stage_run _ _ _ rfl rfl (fun n i k w => ?_) n w
  have hl := elLoopK_total ops _ _ bound hE (qp_closure props ops splitN cfg lenOf parse fmtAny bound fuel n k) fuel 0
  have hterm := elLoop_terminates (σ := SW) bound ops (quoteCb splitN cfg lenOf parse fmtAny k) "unresolved" fuel 0
    (spropAt props k).tagStr w (by omega) (by omega)
  simp only [qpLit, stageBody, Progs.quote_PostProcessProperties, envS] at hl
  rcases hr : elLoop ops (quoteCb splitN cfg lenOf parse fmtAny k) "unresolved" bound fuel 0 (spropAt props k).tagStr w
    with _ | ⟨_ | _, w'⟩
  · simp [hr] at hterm
  all_goals simp [go_eval, rangeIter, quoteNode, hl, hr, encElRes]

end quote
section exprs
variable (props : List SProp) (ops : ElOps String) (compile : String → Except String Nat) (runP : Nat → Except String Nat)
  (fmtAny : Nat → Except String String) (bound fuel : Nat)

abbrev XP := exprPrims props ops compile runP fmtAny bound fuel

attribute [local go_eval] exprFn_Match exprFn_TagVal exprFn_Compile exprFn_Run exprFn_FormatAny exprFn_setTagVal exprFn_Wrapf
  exprFn_WithMessagef
@[local go_eval] theorem exprPrims_fn : (exprPrims props ops compile runP fmtAny bound fuel).fn =
    exprFn props ops compile runP fmtAny := rfl
@[local go_eval] theorem exprPrims_hfn (s : String) (k : Handler SW) (w : SW) :
    (exprPrims props ops compile runP fmtAny bound fuel).hfn "self.el.ReplaceAllContent" [.str s] k w =
      elLoopK ops k bound fuel 0 s w := rfl

/-- the body of the function literal handed to ReplaceAllContent -/
def xpLit : List Stmt := match stageBody Progs.expr_PostProcessProperties with | [_, _, .define _ (.hcall _ _ _ b), _, _] => b | _ => []

attribute [local go_eval] xpLit stageBody Progs.expr_PostProcessProperties envS

/-- the function literal IS `exprCb` -/
theorem xp_closure (n k : Nat) (raw c : String) (w : SW) :
    litHandler (XP props ops compile runP fmtAny bound fuel) (("rawTagVal", .str raw) :: ("prop", .ref k 20) :: envS n) ["exp"]
        xpLit [.str c] w =
      some (encStrRes (exprCb compile runP fmtAny c w).1, (exprCb compile runP fmtAny c w).2) := by
  rcases hc : compile c with e | p <;> simp [go_eval, litHandler, exprCb, encNatRes, encStrRes, hc]
  rcases runP p with e | r <;> simp [go_eval, encStrRes]
  cases fmtAny r <;> simp [go_eval]

/-- expressionTagAwarePostProcessors.PostProcessProperties, regenerated with its function literal -/
theorem expr_sem (hE : ∀ s, ops.isEmpty s = (s == "")) (hfuel : bound + 1 ≤ fuel) (n : Nat) (w : SW) :
    run (XP props ops compile runP fmtAny bound fuel) Progs.expr_PostProcessProperties
        [.list ((List.range' 0 n).map (fun i => Val.ref i 20)), .str "c", .str "n"] w =
      some (stageResult (stageLoop (exprNode props ops compile runP fmtAny bound fuel) (List.range' 0 n) w).2,
            (stageLoop (exprNode props ops compile runP fmtAny bound fuel) (List.range' 0 n) w).1) := by
  refine stage_run _ _ _ rfl rfl (fun n i k w => ?_) n w
  have hl := elLoopK_total ops _ _ bound hE
    (xp_closure props ops compile runP fmtAny bound fuel n k (tagValNow props w k)) fuel 0
  have hterm := elLoop_terminates (σ := SW) bound ops (exprCb compile runP fmtAny) "unresolved" fuel 0
    (tagValNow props w k) w (by omega) (by omega)
  simp only [xpLit, stageBody, Progs.expr_PostProcessProperties, envS] at hl
  rcases hr : elLoop ops (exprCb compile runP fmtAny) "unresolved" bound fuel 0 (tagValNow props w k) w with _ | ⟨_ | _, w'⟩
  · simp [hr] at hterm
  all_goals simp [go_eval, rangeIter, exprNode, hl, hr, encElRes]

end exprs
end Ioc.Sem
