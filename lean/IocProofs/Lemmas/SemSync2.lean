/-
  The regenerated programs of util/sync2/map.go: Load is the lookup; LoadOrStoreFn returns the stored value without running
  the constructor when the key is present, and otherwise runs it exactly once and stores its value.
-/
import Ioc.SemSync2
import IocProofs.Lemmas.GoEval
namespace Ioc.Sem
open Ioc Ioc.Go

attribute [local go_eval] mapFn.eq_1 mapFn.eq_2 mapFn.eq_3 mapFn.eq_4
@[local go_eval] theorem mapBase_fn (fv : Nat) : (mapBase fv).fn = mapFn fv := rfl
@[local go_eval] theorem mapPrims_fn (fv : Nat) (f : String) (args : List Val) (w : MapW) : (mapPrims fv).fn f args w =
    match f with
    | "self.Load" => callMapLoad fv args w
    | _ => mapFn fv f args w := rfl

theorem sync2_load_sem (fv : Nat) (k : Nat) (w : MapW) :
    run (mapBase fv) Progs.sync2_Load [.int k] w =
      some (match alookup k w.m with
            | some v => .tuple [.int v, .bool true]
            | none => .tuple [.nil, .bool false], w) := by
  cases h : alookup k w.m <;> simp [go_eval, Progs.sync2_Load, h]

theorem sync2_loadOrStoreFn_sem (fv : Nat) (k : Nat) (w : MapW) :
    run (mapPrims fv) Progs.sync2_LoadOrStoreFn [.int k, .ref 0 30] w =
      some (match alookup k w.m with
            | some v => (.tuple [.int v, .bool true], w)
            | none => (.tuple [.int fv, .bool false], { m := ainsert k fv w.m, fCalls := w.fCalls + 1 })) := by
  have hl : callMapLoad fv [.int k] w = _ := sync2_load_sem fv k w
  cases h : alookup k w.m <;> simp [go_eval, Progs.sync2_LoadOrStoreFn, hl, h]

end Ioc.Sem
