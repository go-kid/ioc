/-
  Semantic theorems for the REGENERATED tag-scan processor and NewProperty (interpretation: Ioc.SemTagScan).
-/
import Ioc.SemTagScan
import IocProofs.Lemmas.GoEval

namespace Ioc.Sem
open Ioc Ioc.Go

attribute [local go_eval] npFn.eq_1 npFn.eq_2 npFn.eq_3 npFn.eq_4
@[local go_eval] theorem npPrims_fn (pv : String → String) : (npPrims pv).fn = npFn pv := rfl

/-- NewProperty: TagStr and TagVal are BOTH what Parse returns for the tag text, the args are the map that very Parse call
    filled, Configurations is a fresh empty map, and field, type and tag are the arguments unchanged -/
theorem newProperty_sem (pv : String → String) (f pt : Val) (t tv : String) (w : List NObj) :
    run (npPrims pv) Progs.prop_NewProperty [f, pt, .str t, .str tv] w =
      some (.ref (w.length + 2) 42,
        w ++ [.args (some tv), .conf, .prop f pt t (pv tv) (pv tv) (w.length + 1) w.length]) := by
  simp [go_eval, Progs.prop_NewProperty]

def tsBody1 : List Stmt := match Progs.scan_PostProcessDefinitionRegistry.body with | [_, _, .range _ _ _ b, _, _, _] => b | _ => []
def tsBody2 : List Stmt := match Progs.scan_PostProcessDefinitionRegistry.body with | [_, _, _, .range _ _ _ b, _, _] => b | _ => []
theorem ts_shape : Progs.scan_PostProcessDefinitionRegistry.body =
    [.define ["meta"] (.mcall (.var "registry") "GetMetaOrRegister" [(.var "componentName"), (.var "component")]),
     .define ["properties"] .nil,
     .range "_" "field" (.sel (.var "meta") "Fields") tsBody1,
     .range "_" "property" (.var "properties") tsBody2,
     .expr (.mcall (.var "meta") "SetProperties" [(.var "properties")]),
     .ret [.nil]] := rfl

section tagscan
variable (d : TSD) (fs : List Nat)

-- the clauses of `tsFn` that have no lemma of their own below; naming them here also derives `tsFn`'s equations once for the file
attribute [local go_eval] tsFn.eq_10 tsFn.eq_11
@[local go_eval] theorem tsPrims_fn : (tsPrims d fs).fn = tsFn d fs := rfl

def envT (nm : String) (t : List Nat) : Env :=
  [("properties", propVals t), ("meta", .ref 0 1), ("registry", .ref 0 2), ("component", .ref 0 3), ("componentName", .str nm)]

def step1 (i : Nat) (t : List Nat) (w : TW) : List Nat × TW × Option Val :=
  match recogS d i with
  | some r => (t ++ [i], setProp w i ⟨i, d.nodeType, r.1, r.2, false⟩, none)
  | none => (t, w, none)

theorem propVals_snoc (t : List Nat) (i : Nat) :
    (match propVals t with
     | .nil => some (Val.list [.ref i 30])
     | .list l => some (Val.list (l ++ [.ref i 30]))
     | _ => none) = some (propVals (t ++ [i])) := by
  cases t with
  | nil => rfl
  | cons x r => simp [propVals]

theorem tsFn_append (t : List Nat) (i : Nat) (w : TW) :
    tsFn d fs "append" [propVals t, .ref i 30] w = some (propVals (t ++ [i]), w) := by
  cases t with
  | nil => exact tsFn.eq_13 ..
  | cons x r => simp [propVals, tsFn.eq_14]

theorem tsFn_GetMeta (nm : String) (w : TW) : tsFn d fs ".GetMetaOrRegister" [.ref 0 2, .str nm, .ref 0 3] w = some (.ref 0 1, w) := by rw [tsFn]
theorem tsFn_Fields (w : TW) : tsFn d fs ".Fields" [.ref 0 1] w = some (.list (fs.map (fun i => Val.ref i 60)), w) := by rw [tsFn]
theorem tsFn_Tag (w : TW) : tsFn d fs "$self.Tag" [] w = some (.str d.tag, w) := by rw [tsFn]
theorem tsFn_NodeType (w : TW) : tsFn d fs "$self.NodeType" [] w = some (.str d.nodeType, w) := by rw [tsFn]
theorem tsFn_Required (w : TW) : tsFn d fs "$self.Required" [] w = some (.bool d.required, w) := by rw [tsFn]
theorem tsFn_EH (w : TW) : tsFn d fs "$self.ExtractHandler" [] w = some (if d.hasExt then .ref 0 5 else .nil, w) := by rw [tsFn]
theorem tsFn_ArgReq (w : TW) : tsFn d fs "$component_definition.ArgRequired" [] w = some (.ref 0 7, w) := by rw [tsFn]
theorem tsFn_SF (i : Nat) (w : TW) : tsFn d fs ".StructField" [.ref i 60] w = some (.ref i 61, w) := by rw [tsFn]
theorem tsFn_FTag (i : Nat) (w : TW) : tsFn d fs ".Tag" [.ref i 61] w = some (.ref i 62, w) := by rw [tsFn]
theorem tsFn_NewProperty (i : Nat) (nt t tv : String) (w : TW) :
    tsFn d fs "component_definition.NewProperty" [.ref i 60, .str nt, .str t, .str tv] w =
      some (.ref i 30, setProp w i ⟨i, nt, t, tv, false⟩) := by rw [tsFn]
theorem tsFn_Args (i : Nat) (w : TW) : tsFn d fs ".Args" [.ref i 30] w = some (.ref i 31, w) := by rw [tsFn]
theorem tsFn_Has (i : Nat) (w : TW) : tsFn d fs ".Has" [.ref i 31, .ref 0 7] w = (w.prop i).map (fun p => (.bool (p.has d), w)) := by rw [tsFn]
theorem tsFn_SetArg (i : Nat) (w : TW) : tsFn d fs ".SetArg" [.ref i 30, .ref 0 7] w =
    (w.prop i).map (fun p => (.tuple [], setProp w i { p with reqSet := true })) := by rw [tsFn]

theorem tsFn_SetProperties (t : List Nat) (w : TW) :
    tsFn d fs ".SetProperties" [.ref 0 1, propVals t] w =
      some (.tuple [], { w with metaProps := w.metaProps ++ t.filterMap w.prop }) := by
  cases t with
  | nil => simp [propVals, tsFn.eq_18]
  | cons x r =>
    have := decIdx_map (x :: r)
    simp only [List.map_cons] at this
    simp [propVals, tsFn.eq_19, this]

attribute [local go_eval] tsFn_append tsFn_GetMeta tsFn_Fields tsFn_Tag tsFn_NodeType tsFn_Required tsFn_EH tsFn_ArgReq tsFn_SF
  tsFn_FTag tsFn_NewProperty tsFn_Args tsFn_Has tsFn_SetArg tsFn_SetProperties

/-- a property list is ranged over like the slice it stands for -/
@[local go_eval ↓] theorem rangeOver_propVals (k v : String) (body : List Stmt) (env : Env) (t : List Nat) (w : TW) :
    rangeOver (tsPrims d fs) k v body env (propVals t) w =
      loopM (rangeIter (tsPrims d fs) k v body) 0 (t.map fun i => Val.ref i 30) env w := by
  cases t <;> rfl

/-- What `Lookup` and the ExtractHandler answer, as tuples of projections: the program's own tests of `ok` decide. -/
theorem lookupVal_eq (i : Nat) : lookupVal d i = .tuple [.str ((d.lookup i).getD ""), .bool (d.lookup i).isSome] := by
  unfold lookupVal; cases d.lookup i <;> rfl
theorem extVal_eq (i : Nat) :
    extVal d i = .tuple [.str ((d.ext i).getD ("", "")).1, .str ((d.ext i).getD ("", "")).2, .bool (d.ext i).isSome] := by
  unfold extVal; rcases d.ext i with _ | ⟨t, tv⟩ <;> rfl

theorem ts_iter1 (nm : String) (j i : Nat) (t : List Nat) (w : TW) :
    settle (rangeIter (tsPrims d fs) "_" "field" tsBody1 j (.ref i 60) (envT nm t) w) =
      some (envT nm (step1 d i t w).1, (step1 d i t w).2.1, ctlOf (step1 d i t w).2.2) := by
  simp [go_eval, rangeIter, tsBody1, Progs.scan_PostProcessDefinitionRegistry, envT, lookupVal_eq, extVal_eq]
  unfold step1 recogS
  by_cases ht : d.tag = "" <;> cases d.hasExt <;> cases d.lookup i <;> rcases d.ext i with _ | ⟨tg, tv⟩ <;>
    simp [ht, ctlOf] <;> split <;> simp [*]

/-! the second loop: lines 38-42 -/

def reqStep (w : TW) (j : Nat) : TW :=
  if d.required then
    match w.prop j with
    | some p => if p.has d then w else setProp w j { p with reqSet := true }
    | none => w
  else w

theorem ts_iter2 (nm : String) (k j : Nat) (t : List Nat) (w : TW) (hp : (w.prop j).isSome) :
    settle (rangeIter (tsPrims d fs) "_" "property" tsBody2 k (.ref j 30) (envT nm t) w) =
      some (envT nm t, reqStep d w j, .norm) := by
  obtain ⟨p, hp⟩ := Option.isSome_iff_exists.mp hp
  simp [go_eval, rangeIter, tsBody2, Progs.scan_PostProcessDefinitionRegistry, envT, hp, reqStep]
  cases d.required <;> cases p.has d <;> rfl

/-! the two loops as functions of the world -/

def mk1 (i : Nat) (r : String × String) : TSProp := ⟨i, d.nodeType, r.1, r.2, false⟩

def new1 (w : TW) (i : Nat) : TW :=
  match recogS d i with
  | some r => setProp w i (mk1 d i r)
  | none => w

theorem step1_loop : ∀ (l t : List Nat) (w : TW),
    stepLoop (step1 d) l t w = (t ++ l.filter (fun i => (recogS d i).isSome), l.foldl (new1 d) w, none) := by
  intro l
  induction l with
  | nil => intro t w; simp [stepLoop]
  | cons i rest ih =>
    intro t w
    simp only [stepLoop, step1, List.foldl_cons, new1, List.filter_cons]
    cases hr : recogS d i with
    | none => simp [ih]
    | some r => simp [ih, mk1, List.append_assoc]

/-- Rounds that rewrite the property of their own field by an idempotent function, and no other: what the loop leaves
    at `k` (a field may occur twice in the list). -/
theorem foldl_prop (step : TW → Nat → TW) (u : Nat → Option TSProp → Option TSProp) (hu : ∀ i x, u i (u i x) = u i x)
    (hs : ∀ w i k, (step w i).prop k = if k = i then u i (w.prop i) else w.prop k) (l : List Nat) (w : TW) (k : Nat) :
    (l.foldl step w).prop k = if k ∈ l then u k (w.prop k) else w.prop k := by
  induction l generalizing w with
  | nil => simp
  | cons i rest ih =>
    rw [List.foldl_cons, ih, hs]
    by_cases hki : k = i
    · subst hki; by_cases hin : k ∈ rest <;> simp [hin, hu]
    · by_cases hin : k ∈ rest <;> simp [hki, hin]

theorem foldl_meta (step : TW → Nat → TW) (hs : ∀ w i, (step w i).metaProps = w.metaProps) (l : List Nat) (w : TW) :
    (l.foldl step w).metaProps = w.metaProps := by
  induction l generalizing w with
  | nil => rfl
  | cons i rest ih => rw [List.foldl_cons, ih, hs]

theorem new1_prop (w : TW) (i k : Nat) :
    (new1 d w i).prop k = if k = i then ((recogS d i).map (mk1 d i)).or (w.prop i) else w.prop k := by
  unfold new1
  cases recogS d i <;> by_cases hk : k = i <;> simp [setProp, hk]

theorem new1_meta (w : TW) (i : Nat) : (new1 d w i).metaProps = w.metaProps := by
  unfold new1; split <;> rfl

theorem reqStep_prop (w : TW) (j k : Nat) :
    (reqStep d w j).prop k = if k = j then (w.prop j).map (TSProp.applyReq d) else w.prop k := by
  unfold reqStep TSProp.applyReq
  by_cases hk : k = j <;> cases d.required <;> rcases hp : w.prop j with _ | p <;> simp [hk, hp] <;>
    cases hh : p.has d <;> simp [setProp, hk, hp]

theorem reqStep_meta (w : TW) (j : Nat) : (reqStep d w j).metaProps = w.metaProps := by
  unfold reqStep
  repeat' split
  all_goals rfl

theorem applyReq_idem (p : TSProp) : TSProp.applyReq d (TSProp.applyReq d p) = TSProp.applyReq d p := by
  obtain ⟨f, n, t, tv, rs⟩ := p
  cases hr : d.required <;> cases hh : d.hasReq tv <;> cases rs <;> simp [TSProp.applyReq, TSProp.has, hr, hh]

theorem filterMap_congr_mem {α β : Type} (g h : α → Option β) (l : List α) (hgh : ∀ x ∈ l, g x = h x) :
    l.filterMap g = l.filterMap h := by
  induction l with
  | nil => rfl
  | cons x rest ih =>
    simp only [List.filterMap_cons, hgh x (by simp)]
    rw [ih (fun y hy => hgh y (by simp [hy]))]

/-- the world after the call -/
def afterScan (w : TW) : TW :=
  let t := fs.filter (fun i => (recogS d i).isSome)
  let w2 := t.foldl (reqStep d) (fs.foldl (new1 d) w)
  { w2 with metaProps := w2.metaProps ++ t.filterMap w2.prop }

/-- what the meta is handed in the end -/
theorem handed_is_spec (w : TW) :
    let t := fs.filter (fun i => (recogS d i).isSome)
    t.filterMap (t.foldl (reqStep d) (fs.foldl (new1 d) w)).prop = tagScanSpec d fs := by
  intro t
  rw [List.filterMap_filter]
  apply filterMap_congr_mem
  intro k hk
  rw [foldl_prop _ _ (fun _ x => by cases x <;> simp [applyReq_idem]) (reqStep_prop d),
    foldl_prop _ _ (fun _ x => by rw [← Option.or_assoc, Option.or_self]) (new1_prop d)]
  cases hr : recogS d k <;> simp [t, hk, hr, mk1]

theorem tagScan_run (nm : String) (w : TW) :
    run (tsPrims d fs) Progs.scan_PostProcessDefinitionRegistry [.ref 0 2, .ref 0 3, .str nm] w =
      some (.nil, afterScan d fs w) := by
  have h1 := loopM_rounds (fun i => Val.ref i 60) (rangeIter (tsPrims d fs) "_" "field" tsBody1) (envT nm) (step1 d)
    (fun j i t w => ts_iter1 d fs nm j i t w) fs 0 [] w
  rw [step1_loop] at h1
  have h2 := loopM_foldl (fun i => Val.ref i 30) (rangeIter (tsPrims d fs) "_" "property" tsBody2)
    (envT nm (fs.filter fun i => (recogS d i).isSome)) (reqStep d)
    (fun w => ∀ j ∈ fs.filter fun i => (recogS d i).isSome, (w.prop j).isSome)
    (fun w x hw j hj => by have := hw j hj; rw [reqStep_prop]; split <;> simp_all) (fs.filter fun i => (recogS d i).isSome) 0
    (fs.foldl (new1 d) w)
    (fun j hj => by
      rw [foldl_prop _ _ (fun _ x => by rw [← Option.or_assoc, Option.or_self]) (new1_prop d)]
      obtain ⟨hj, hr⟩ := List.mem_filter.mp hj
      obtain ⟨r, hr⟩ := Option.isSome_iff_exists.mp hr
      simp [hj, hr])
    (fun j hj k w hw => ts_iter2 d fs nm k j _ w (hw j hj))
  simp only [envT, propVals.eq_1, tsBody1, tsBody2, Progs.scan_PostProcessDefinitionRegistry, List.nil_append, ctlOf] at h1 h2
  simp [go_eval, Progs.scan_PostProcessDefinitionRegistry, h1, h2, afterScan]

/-- PostProcessDefinitionRegistry, regenerated: the meta is handed ONE property for every field the processor recognises
    (the `d.Tag` lookup first, else the ExtractHandler, whose empty tag means `d.Tag`), in field order, each marked required
    when the processor is a requiring one and the tag text does not say otherwise; what it held before is kept -/
theorem tagScan_sem (nm : String) (w : TW) :
    ∃ w', run (tsPrims d fs) Progs.scan_PostProcessDefinitionRegistry [.ref 0 2, .ref 0 3, .str nm] w = some (.nil, w') ∧
      w'.metaProps = w.metaProps ++ tagScanSpec d fs := by
  refine ⟨afterScan d fs w, tagScan_run d fs nm w, ?_⟩
  simp only [afterScan, foldl_meta _ (reqStep_meta d), foldl_meta _ (new1_meta d)]
  rw [handed_is_spec d fs w]

end tagscan

theorem optStr_some (s : String) : optStr (some s) = some (.str s, ()) := rfl

attribute [local go_eval] vxFn.eq_1 vxFn.eq_2 vxFn.eq_3 vxFn.eq_4 vxFn.eq_5 vxFn.eq_6 vxFn.eq_7 vxFn.eq_8
  mxFn.eq_1 mxFn.eq_2 mxFn.eq_3 mxFn.eq_4
@[local go_eval] theorem vxPrims_fn (o : VXOps) : (vxPrims o).fn = vxFn o := rfl
@[local go_eval] theorem mxPrims_fn (marker : Option String) : (mxPrims marker).fn = mxFn marker := rfl

/-- the value scanner's handler, regenerated: no `prop` tag — not recognised; else `${key}` with the argument part (from the
    first top-level comma on) appended unchanged; an out-of-range slice is the panic (`none`) -/
theorem valueExtract_sem (o : VXOps) :
    run (vxPrims o) Progs.scan_valueExtract [.ref 0 1, .ref 0 60] () = (valueExtractS o).map (fun r => (encExtract r, ())) := by
  unfold valueExtractS
  cases hl : o.lookup with
  | none => simp [go_eval, Progs.scan_valueExtract, hl, encExtract]
  | some tv =>
    simp [go_eval, Progs.scan_valueExtract, hl, encExtract]
    -- what the two slice expressions answer decides how the program goes on
    cases o.sliceTo tv (o.idx tv) <;> cases h2 : o.sliceFrom tv (o.idx tv) <;> simp [go_eval, optStr, h2]

/-- the properties scanner's handler, regenerated: recognised exactly when the field's value implements
    ConfigurationProperties; the tag text is what its `Prefix()` returns, the tag is left empty (so: `d.Tag`) -/
theorem markerExtract_sem (marker : Option String) :
    run (mxPrims marker) Progs.scan_markerExtract [.ref 0 1, .ref 0 60] () =
      some (encExtract (match marker with | some p => ("", p, true) | none => ("", "", false)), ()) := by
  cases marker <;> simp [go_eval, Progs.scan_markerExtract, encExtract]

end Ioc.Sem
