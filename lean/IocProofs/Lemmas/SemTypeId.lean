/-
  Semantic theorems for the REGENERATED reflectx.Id / TypeId and FileLoader.Order (interpretation: Ioc.SemTypeId).
-/
import Ioc.SemTypeId
import IocProofs.Lemmas.GoEval
namespace Ioc.Sem
open Ioc Ioc.Go

section typeid
variable (ts : List TyD) (typeOf : Nat → Nat) (join : String → String → String)

attribute [local go_eval] tiFn.eq_1 tiFn.eq_2 tiFn.eq_3 tiFn.eq_4 tiFn.eq_5 tiFn.eq_6 tiFn.eq_7 tiFn.eq_8 tiFn.eq_9
@[local go_eval] theorem tiPrims_fn : (tiPrims ts typeOf join).fn = tiFn ts typeOf join := rfl

/-- TypeId: exactly ONE pointer level is removed (a pointer to a pointer is rendered by String()); an unnamed type is its
    String(), a named type path.Join(PkgPath, Name) -/
theorem typeId_sem (t : Nat) :
    run (tiPrims ts typeOf join) Progs.reflectx_TypeId [.ref t 190] () = some (.str (typeIdOf ts join t), ()) := by
  simp [go_eval, Progs.reflectx_TypeId, typeIdOf]
  cases (tyAt ts t).isPtr <;> simp <;> split <;> rfl

/-- Id: "<nil>" for nil, else the type id of the component's dynamic type -/
theorem id_sem (c : Nat) :
    run (tiPrims ts typeOf join) Progs.reflectx_Id [.nil] () = some (.str "<nil>", ()) ∧
    run (tiPrims ts typeOf join) Progs.reflectx_Id [.ref c 0] () = some (.str (typeIdOf ts join (typeOf c)), ()) := by
  constructor
  · simp [go_eval, Progs.reflectx_Id]
  · simp [go_eval, Progs.reflectx_Id, typeIdOf]

end typeid

theorem fileLoaderOrder_sem : run (tiPrims [] id (· ++ ·)) Progs.loader_File_Order [] () = some (.int 0, ()) := by
  simp [go_eval, Progs.loader_File_Order]

end Ioc.Sem
