/-
  Semantic theorems for the REGENERATED Property.Unmarshall, newDecodeConfig, reflectx.SetValue and the small Property
  methods (interpretation: Ioc.SemUnmarshall).
-/
import Ioc.SemUnmarshall
import IocProofs.Lemmas.GoEval
namespace Ioc.Sem
open Ioc Ioc.Go

attribute [local go_eval] svFn.eq_1 svFn.eq_2 svFn.eq_3 svFn.eq_4 svFn.eq_5 svFn.eq_6 svFn.eq_7 svFn.eq_8 svFn.eq_9 svFn.eq_10
  svFn.eq_11 pmFn.eq_1 pmFn.eq_2 pmFn.eq_3 pmFn.eq_4 pmFn.eq_5 pmFn.eq_6 pmFn.eq_7
  umFn.eq_1 umFn.eq_2 umFn.eq_3 umFn.eq_4 umFn.eq_5 umFn.eq_6 umFn.eq_7 umFn.eq_8 umFn.eq_9 umFn.eq_10 umFn.eq_11 umFn.eq_12
  umFn.eq_13 umFn.eq_14 umFn.eq_15 umFn.eq_16 umFn.eq_17 umFn.eq_18 umFn.eq_19 umFn.eq_20

/-- SetValue, regenerated: the setter runs exactly once, on a FRESH zero value (never on what the field holds); when it fails
    its error is returned as it is and the field keeps what it held; when it succeeds the field holds the new value (a pointer
    to it for a pointer-typed field, its contents otherwise) -/
theorem setValue_sem {σ : Type} (isPtr : Bool) (setter : Nat → σ → Option String × σ) (w : SVW σ) :
    run (svPrims isPtr setter) Progs.reflectx_SetValue [.str "value", .str "setter"] w =
      some (encOptErrS (setter w.fresh w.inner).1,
        { cell := if (setter w.fresh w.inner).1.isNone then some (w.fresh, isPtr) else w.cell,
          fresh := w.fresh + 1, inner := (setter w.fresh w.inner).2 }) := by
  have hfn : (svPrims isPtr setter).fn = svFn isPtr setter := rfl
  cases isPtr <;> cases hs : (setter w.fresh w.inner).1 <;>
    simp [go_eval, Progs.reflectx_SetValue, hfn, encOptErrS, hs]

/-- newDecodeConfig, regenerated: the hooks composed, the result pointer as given, tag name `yaml`, WeaklyTypedInput on, and
    ErrorUnused, ErrorUnset, ZeroFields, Squash, IgnoreUntaggedFields off, no Metadata, no MatchName -/
theorem newDecodeConfig_sem (v hooks : Val) :
    run ndcPrims Progs.prop_newDecodeConfig [v, hooks] () =
      some (.tuple [.str "DecoderConfig", .tuple [.str "compose", hooks], .bool false, .bool false, .bool false, .bool true,
                    .bool false, .nil, v, .str "yaml", .bool false, .nil], ()) := by
  have hfn : ndcPrims.fn = ndcFn := rfl
  simp [go_eval, Progs.prop_newDecodeConfig, hfn, ndcFn, ndcName]

section small
variable (has : AM → String → List String → Bool) (fmtKey : String → String)

@[local go_eval] theorem pmPrims_fn : (pmPrims has fmtKey).fn = pmFn has fmtKey := rfl

/-- IsRequired: required unless the `required` argument holds the value "false" -/
theorem isRequired_sem (w : PW) :
    run (pmPrims has fmtKey) Progs.prop_IsRequired [] w = some (.bool (!(has w.args "required" ["false"])), w) := by
  simp [go_eval, Progs.prop_IsRequired]

/-- SetConfiguration: the value is stored under the path (an earlier value under the same path is replaced) -/
theorem setConfiguration_sem (path : String) (v : Val) (w : PW) :
    run (pmPrims has fmtKey) Progs.prop_SetConfiguration [.str path, v] w =
      some (.tuple [], { w with confs := (path, v) :: w.confs.filter (fun e => e.1 != path) }) := by
  simp [go_eval, Progs.prop_SetConfiguration]

/-- Args / SetArg / AddArg go to the property's OWN map -/
theorem args_sem (w : PW) : run (pmPrims has fmtKey) Progs.prop_Args [] w = some (.ref 0 78, w) := by
  simp [go_eval, Progs.prop_Args]

theorem setArg_sem (k : String) (vs : List String) (w : PW) :
    run (pmPrims has fmtKey) Progs.prop_SetArg [.str k, strsVal vs] w =
      some (.tuple [], { w with args := if k = "" then w.args else amSet (fmtKey k) vs w.args }) := by
  simp [go_eval, Progs.prop_SetArg, strsVal, valStrs_map]

theorem addArg_sem (k : String) (vs : List String) (w : PW) :
    run (pmPrims has fmtKey) Progs.prop_AddArg [.str k, strsVal vs] w =
      some (.tuple [], { w with args := if k = "" then w.args else amSet (fmtKey k) ((amGet (fmtKey k) w.args).getD [] ++ vs) w.args }) := by
  simp [go_eval, Progs.prop_AddArg, strsVal, valStrs_map]
end small

section unmarshall
variable (p : UMP)

@[local go_eval] theorem umPrims_fn : (umPrims p).fn = umFn p := rfl
@[local go_eval] theorem umPrims_hfn : (umPrims p).hfn = umHfn := rfl

/-- a property that is not a Configuration property refuses, and nothing is decoded or written -/
theorem unmarshall_notConf (cv : Val) (w : UW) (h : p.isConf = false) :
    run (umPrims p) Progs.prop_Unmarshall [cv] w = some (.str "not allowed to unmarshall", w) := by
  simp [go_eval, Progs.prop_Unmarshall, h]

/-- a nil configuration value: nothing is decoded, the field is not written, no error -/
theorem unmarshall_nil (w : UW) (h : p.isConf = true) :
    run (umPrims p) Progs.prop_Unmarshall [.nil] w = some (.nil, w) := by
  simp [go_eval, Progs.prop_Unmarshall, h]

/-- `timeLayout` / `mapper`, when present, have a first value (TagArg.Parse stores at least `[""]` for an argument) -/
def UMP.argsOk (p : UMP) : Prop :=
  (p.timeLayout = none ∨ ∃ l ls, p.timeLayout = some (l :: ls)) ∧ (p.mapper = none ∨ ∃ t ts, p.mapper = some (t :: ts))

theorem unmarshall_value (w : UW) (h : p.isConf = true) (ha : p.argsOk) :
    run (umPrims p) Progs.prop_Unmarshall [.ref 0 72] w =
      some (encOptErrS (unmarshallS p w).1, (unmarshallS p w).2) := by
  obtain ⟨htl, hmp⟩ := ha
  -- the evaluation stops at each answer that is not known yet: the two `Find`s, then `NewDecoder`, then `Decode`
  rcases htl with htl | ⟨l, ls, htl⟩ <;>
    simp [go_eval, Progs.prop_Unmarshall, umHfn, litHandler, h, htl, findVal, strsVal, valStrs, unmarshallS, unmarshallCfg]
  all_goals
    rcases hmp with hmp | ⟨t, ts, hmp⟩ <;> simp [go_eval, hmp] <;>
    generalize p.newDecoderErr _ = nd <;> cases nd <;> simp [go_eval, encOptErrS] <;>
    generalize p.decodeErr _ = dec <;> cases dec <;> simp [go_eval]

end unmarshall

end Ioc.Sem
