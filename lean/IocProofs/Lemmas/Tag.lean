/-
  Lemmas about strings2.Index (Ioc.Tag.index): range of the result, and exactness on
  bracket-balanced text.
-/
import Ioc.Tag
namespace Ioc.Tag
variable {α : Type} [DecidableEq α]

theorem idxFrom_lt (sep : α) (l : List α) (k : Nat) (h : idxFrom sep l = some k) : k < l.length := by
  induction l generalizing k with
  | nil => cases h
  | cons a l ih =>
    unfold idxFrom at h
    split at h
    · cases h; simp
    · obtain ⟨j, hj, rfl⟩ := Option.map_eq_some_iff.mp h
      simpa using ih j hj

theorem idxFrom_eq_none {sep : α} {l : List α} : idxFrom sep l = none ↔ sep ∉ l := by
  induction l with
  | nil => simp [idxFrom]
  | cons a l ih => by_cases h : a = sep <;> simp [idxFrom, h, ih, eq_comm (a := sep)]

theorem idxFrom_plain (sep : α) (pre post : List α) (h : ∀ b ∈ pre, b ≠ sep) :
    idxFrom sep (pre ++ sep :: post) = some pre.length := by
  induction pre with
  | nil => simp [idxFrom]
  | cons a pre ih => simp_all [idxFrom]

theorem loop_bounds (sep : α) (isL isR : α → Bool) (rest : List α) (i : Nat) (inn idx : Int)
    (hidx : idx < i + rest.length) (h0 : 0 ≤ idx) :
    -1 ≤ loop sep isL isR rest i inn idx ∧ loop sep isL isR rest i inn idx < i + rest.length := by
  fun_induction loop sep isL isR rest i inn idx
  case case1 => omega
  all_goals simp only [List.length_cons] at *
  case case4 k hk ih => have := idxFrom_lt sep _ k hk; omega
  case case6 a rest i inn idx _ _ _ _ ih =>
    cases hk : idxFrom sep (a :: rest) with
    | none => simp only [hk, optI] at *; omega
    | some k => have := idxFrom_lt sep _ k hk; simp only [hk, optI, List.length_cons] at *; omega
  all_goals omega

/-- `pre` is bracket-balanced from depth `d`, never closes below 0, and has the separator only inside brackets -/
def WFpre (sep : α) (isL isR : α → Bool) : List α → Nat → Bool
  | [], d => d == 0
  | a :: rest, d =>
    if isL a then WFpre sep isL isR rest (d+1)
    else if isR a then decide (0 < d) && WFpre sep isL isR rest (d-1)
    else if a = sep then decide (0 < d) && WFpre sep isL isR rest d
    else WFpre sep isL isR rest d

theorem WFpre_append (sep : α) (isL isR : α → Bool) (s t : List α) (d : Nat)
    (hs : WFpre sep isL isR s d = true) (ht : WFpre sep isL isR t 0 = true) :
    WFpre sep isL isR (s ++ t) d = true := by
  fun_induction WFpre sep isL isR s d <;> simp_all [WFpre]

theorem WFpre_plain_append (sep : α) (isL isR : α → Bool) (k t : List α) (d : Nat)
    (h : ∀ b ∈ k, b ≠ sep ∧ isL b = false ∧ isR b = false) :
    WFpre sep isL isR (k ++ t) d = WFpre sep isL isR t d := by
  induction k with
  | nil => rfl
  | cons a k ih =>
    have ha := h a (by simp)
    simp only [List.cons_append, WFpre, ha.1, ha.2.1, ha.2.2, Bool.false_eq_true, if_false]
    exact ih (fun b hb => h b (by simp [hb]))

theorem WFpre_plain (sep : α) (isL isR : α → Bool) (s : List α)
    (h : ∀ b ∈ s, b ≠ sep ∧ isL b = false ∧ isR b = false) : WFpre sep isL isR s 0 = true := by
  simpa [WFpre] using WFpre_plain_append sep isL isR s [] 0 h

/-- the loop runs through a balanced prefix `pre`; where it closes to depth 0 it has looked up the next separator of
    what follows, so at the end of `pre` it either has stopped with -1 (no separator in `t`) or stands at depth 0 with
    the position of the first separator of `t` (`j` is the position of the head of `t`) -/
theorem loop_wf (sep : α) (isL isR : α → Bool) (t : List α) (j : Nat) (pre : List α) (d : Nat) :
    ∀ (i : Nat) (inn idx : Int), WFpre sep isL isR pre d = true → inn = d → j = i + pre.length →
      (d = 0 → ∃ k, idxFrom sep (pre ++ t) = some k ∧ idx = i + k) →
      loop sep isL isR (pre ++ t) i inn idx =
        match idxFrom sep t with
        | none => -1
        | some k => loop sep isL isR t j 0 (j + k) := by
  fun_induction WFpre sep isL isR pre d <;> intro i inn idx hwf hinn hj hidx
  case case1 d =>
    obtain ⟨k, hk, rfl⟩ := hidx (by simpa using hwf)
    obtain rfl : d = 0 := by simpa using hwf
    simp_all
  all_goals rw [List.cons_append, loop]; simp only [List.length_cons, Bool.and_eq_true, decide_eq_true_eq] at hj hwf
  case case2 hL ih => rw [if_pos hL]; exact ih (i + 1) _ idx hwf (by omega) (by omega) (by omega)
  case case3 a rest d hL hR ih =>
    rw [if_neg hL, if_pos hR]
    split
    · cases hk : idxFrom sep (rest ++ t) with
      | none =>
        have := idxFrom_eq_none.mpr fun m => idxFrom_eq_none.mp hk (List.mem_append_right _ m)
        simp [this]
      | some k => exact ih (i + 1) 0 _ hwf.2 (by omega) (by omega) fun _ => ⟨k, hk, by omega⟩
    · exact ih (i + 1) _ idx hwf.2 (by omega) (by omega) (by omega)
  case case4 hL hR ih =>
    rw [if_neg hL, if_neg hR, if_neg (by omega)]
    exact ih (i + 1) inn idx hwf.2 hinn (by omega) (by omega)
  case case5 a rest d hL hR hs ih =>
    have hidx' : d = 0 → ∃ k, idxFrom sep (rest ++ t) = some k ∧ idx = ↑(i + 1) + ↑k := fun h0 => by
      obtain ⟨k, hk, e⟩ := hidx h0
      obtain ⟨k', hk', rfl⟩ : ∃ k', idxFrom sep (rest ++ t) = some k' ∧ k' + 1 = k := by simpa [idxFrom, hs] using hk
      exact ⟨k', hk', by omega⟩
    have hc : ¬(inn = 0 ∧ idx ≤ i) := fun ⟨hi0, hle⟩ => by obtain ⟨k, _, e⟩ := hidx' (by omega); omega
    rw [if_neg hL, if_neg hR, if_neg hc]
    exact ih (i + 1) inn idx hwf hinn (by omega) hidx'

/-- C19: on bracket-balanced text the first top-level separator is found exactly -/
theorem index_toplevel (sep : α) (isL isR : α → Bool) (hsL : isL sep = false) (hsR : isR sep = false)
    (pre post : List α) (hwf : WFpre sep isL isR pre 0 = true) :
    index sep isL isR (pre ++ sep :: post) = pre.length := by
  unfold index
  cases hk : idxFrom sep (pre ++ sep :: post) with
  | none => simp [idxFrom_eq_none] at hk
  | some k =>
    have := loop_wf sep isL isR (sep :: post) pre.length pre 0 0 0 k hwf rfl (by simp) fun _ => ⟨k, hk, by simp⟩
    simpa [idxFrom, loop, hsL, hsR] using this

theorem index_wf_neg (sep : α) (isL isR : α → Bool) (s : List α)
    (hwf : WFpre sep isL isR s 0 = true) : index sep isL isR s = -1 := by
  unfold index
  cases hk : idxFrom sep s with
  | none => rfl
  | some k =>
    simpa [idxFrom] using
      loop_wf sep isL isR [] s.length s 0 0 0 k hwf rfl (by simp) fun _ => ⟨k, by simpa using hk, by simp⟩

end Ioc.Tag
