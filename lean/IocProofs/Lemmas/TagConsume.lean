/-
  The consumers of tag arguments: what the parser stores is never an empty item list, so the `args[0]` of
  Property.Unmarshall is in range for every tag text; the item that reaches the decoder is the item as written.
-/
import IocProofs.Lemmas.TagTotal
namespace Ioc.Tag

def ItemsNonempty (a : Args) : Prop := ∀ p ∈ a, p.2 ≠ []

theorem mem_ainsert {κ ν : Type} [DecidableEq κ] (k : κ) (v : ν) (m : List (κ × ν)) (p : κ × ν)
    (h : p ∈ ainsert k v m) : p = (k, v) ∨ p ∈ m := by
  induction m with
  | nil => simpa [ainsert] using h
  | cons q rest ih =>
    unfold ainsert at h
    split at h <;> simp only [List.mem_cons] at h ⊢
    · exact h.imp_right .inr
    · rcases h with h | h
      · exact .inr (.inl h)
      · exact (ih h).imp_right .inr

theorem alookup_mem {κ ν : Type} [DecidableEq κ] (k : κ) (m : List (κ × ν)) (v : ν)
    (h : alookup k m = some v) : (k, v) ∈ m := by
  induction m with
  | nil => cases h
  | cons q rest ih =>
    unfold alookup at h
    split at h
    · next hk => cases h; simp [← hk]
    · simp [ih h]

theorem itemsNonempty_setArg (m : Args) (k : Bytes) (v : List Bytes) (hm : ItemsNonempty m) (hv : v ≠ []) :
    ItemsNonempty (setArg m k v) := by
  cases k with
  | nil => exact hm
  | cons b rest =>
    intro p hp
    rcases mem_ainsert _ _ _ _ hp with rfl | h
    · exact hv
    · exact hm p h

theorem parseExp_nonempty (m : Args) (e : Bytes) (hm : ItemsNonempty m) : ItemsNonempty (parseExp m e) := by
  unfold parseExp
  split
  · exact itemsNonempty_setArg m e [[]] hm (by simp)
  · exact itemsNonempty_setArg m _ _ hm (split_ne_nil _ _ _ _)

/-- TagArg.Parse never stores an empty item list: a bare name gets the one item "" -/
theorem parse?_nonempty (s v : Bytes) (a : Args) (h : parse? s = some (v, a)) : ItemsNonempty a := by
  have all : ∀ (es : List Bytes) (m : Args), ItemsNonempty m → ItemsNonempty (es.foldl parseExp m) := by
    intro es
    induction es with
    | nil => exact fun _ hm => hm
    | cons e es ih => exact fun m hm => ih _ (parseExp_nonempty m e hm)
  unfold parse? at h
  rw [split?_eq] at h
  split at h
  · next exps _ =>
    simp only [parseExps?_eq, Option.map_some, Option.some.injEq, Prod.mk.injEq] at h
    exact h.2 ▸ all exps [] (fun _ hp => nomatch hp)
  · cases h
  · cases h

theorem find_items_ne (a : Args) (k : Bytes) (items : List Bytes) (hn : ItemsNonempty a)
    (h : find a k = some items) : items ≠ [] := by
  unfold find at h
  split at h
  · next k' _ => exact hn (k', items) (alookup_mem k' a items h)
  · cases h

/-- the first-letter rule on a lower-case ASCII letter and on its capital -/
theorem upperFirst_lower (b : UInt8) (hb : 97 ≤ b ∧ b ≤ 122) : upperFirst b = [b - 32] ∧ upperFirst (b - 32) = [b - 32] := by
  refine ⟨by simp [upperFirst, hb], ?_⟩
  obtain ⟨h1, h2⟩ := hb
  rw [UInt8.le_iff_toNat_le] at h1 h2
  have h : (b - 32).toNat = b.toNat - 32 :=
    UInt8.toNat_sub_of_le _ _ (by rw [UInt8.le_iff_toNat_le]; simp at h1 ⊢; omega)
  have e1 : ¬ ((97 : UInt8) ≤ b - 32 ∧ b - 32 ≤ 122) := by
    simp only [UInt8.le_iff_toNat_le, h]; simp at h1 h2 ⊢; omega
  have e2 : ¬ (b - 32 ≥ (128 : UInt8)) := by
    simp only [ge_iff_le, UInt8.le_iff_toNat_le, h]; simp at h1 h2 ⊢; omega
  simp [upperFirst, e1, e2]

theorem create?_parse {scanned req : Bool} {s v : Bytes} {a : Args} (hp : parse? s = some (v, a)) :
    create? scanned req s = some (v, if scanned then scanDefault req a else a) := by
  cases scanned <;> simp [create?, scan?, hp]

theorem create?_total (scanned req : Bool) (s : Bytes) : ∃ v a, create? scanned req s = some (v, a) := by
  obtain ⟨v, a, hp⟩ := parse?_total s
  exact ⟨v, _, create?_parse hp⟩

/-- the second property of a history is what its own text creates -/
theorem hist?_snd {scanned req : Bool} {t t2 : Bytes} {ops : List ArgOp} {a b : Bytes × Args}
    (h : hist? scanned req t ops t2 = some (a, b)) : create? scanned req t2 = some b := by
  unfold hist? at h
  split at h
  · next h2 => rw [h2, (Prod.mk.inj (Option.some.inj h)).2]
  · cases h

theorem scan?_some {req : Bool} {s v : Bytes} {a : Args} (h : scan? req s = some (v, a)) :
    ∃ a0, parse? s = some (v, a0) ∧ a = scanDefault req a0 := by
  obtain ⟨v0, a0, hp⟩ := parse?_total s
  simp only [scan?, hp, Option.map_some, Option.some.injEq, Prod.mk.injEq] at h
  exact ⟨a0, h.1 ▸ hp, h.2.symm⟩

theorem setArg_kRequired (a : Args) (v : List Bytes) : setArg a kRequired v = ainsert kRequired v a := by
  rw [show kRequired = 82 :: ofString "equired" by decide +kernel, setArg, show upperFirst 82 = [82] by decide]
  rfl

theorem find_kRequired (a : Args) : find a kRequired = alookup kRequired a := by
  rw [find, show formatArgType? kRequired = some kRequired by decide +kernel]

/-- the bare `Required` marker, stored where the tag has no required argument, makes nothing optional -/
theorem isRequired_marker (a : Args) (h : has a kRequired [] = false) :
    isRequired (setArg a kRequired []) = isRequired a := by
  have h0 : alookup kRequired a = none := by
    cases hf : alookup kRequired a with
    | none => rfl
    | some items => simp [has, find_kRequired, hf] at h
  simp [isRequired, has, find_kRequired, setArg_kRequired, alookup_ainsert_same, h0]

theorem find_setRequired (a : Args) (k : Bytes) (hk : formatArgType? k ≠ some kRequired) (v : List Bytes) :
    find (setArg a kRequired v) k = find a k := by
  rw [setArg_kRequired]
  unfold find
  cases h : formatArgType? k with
  | none => rfl
  | some k' => exact alookup_ainsert_other _ _ _ _ fun e => hk (by rw [h, e])

/-- the scanner's `Required` marker is stored under `Required`: lookups of other names do not see it -/
theorem find_scanDefault (req : Bool) (a : Args) (k k' : Bytes) (hk : formatArgType? k = some k')
    (hne : k' ≠ kRequired) : find (scanDefault req a) k = find a k := by
  unfold scanDefault
  split
  · exact find_setRequired a k (by rw [hk]; exact fun e => hne (Option.some.inj e)) []
  · rfl

theorem find_scan_timeLayout (req : Bool) (a : Args) : find (scanDefault req a) kTimeLayout = find a kTimeLayout :=
  find_scanDefault req a kTimeLayout (ofString "TimeLayout") (by decide +kernel) (by decide +kernel)

theorem find_scan_mapper (req : Bool) (a : Args) : find (scanDefault req a) kMapper = find a kMapper :=
  find_scanDefault req a kMapper (ofString "Mapper") (by decide +kernel) (by decide +kernel)

theorem first?_some (items : List Bytes) (h : items ≠ []) : ∃ x, first? items = some x := by
  cases items with
  | nil => exact absurd rfl h
  | cons x _ => exact ⟨x, rfl⟩

/-- Unmarshall's two `args[0]` are in range whenever the two arguments (if present) have an item -/
theorem decodeOpts?_total (a : Args)
    (h1 : ∀ items, find a kTimeLayout = some items → items ≠ [])
    (h2 : ∀ items, find a kMapper = some items → items ≠ []) : ∃ o, decodeOpts? a = some o := by
  unfold decodeOpts?
  cases hl : find a kTimeLayout with
  | none =>
    cases hm : find a kMapper with
    | none => exact ⟨_, rfl⟩
    | some ms =>
      obtain ⟨x, hx⟩ := first?_some ms (h2 ms hm)
      exact ⟨(none, x), by simp [hx]⟩
  | some items =>
    obtain ⟨l, hl'⟩ := first?_some items (h1 items hl)
    simp only [hl']
    cases hm : find a kMapper with
    | none => exact ⟨_, rfl⟩
    | some ms =>
      obtain ⟨x, hx⟩ := first?_some ms (h2 ms hm)
      exact ⟨(some l, x), by simp [hx]⟩

/-- with a `timeLayout` argument whose first item is `item` (and a `mapper` argument, if any, that has an item) the text is
    read by time.Parse with exactly that item as its layout -/
theorem bindTime?_item (a : Args) (item : Bytes) (more : List Bytes) (value : Bytes)
    (hl : find a kTimeLayout = some (item :: more))
    (h2 : ∀ items, find a kMapper = some items → items ≠ []) :
    bindTime? a value = some (.time (timeParse item value)) := by
  unfold bindTime? decodeOpts?
  simp only [hl, first?]
  cases hm : find a kMapper with
  | none => rfl
  | some ms =>
    cases ms with
    | nil => exact absurd rfl (h2 [] hm)
    | cons x rest => rfl

end Ioc.Tag
