/-
  Faithfulness of the tag grammar: Split is the inverse of joining bracket-balanced parts, and
  TagArg.Parse recovers exactly what `render` wrote.
-/
import IocProofs.Lemmas.TagTotal
namespace Ioc.Tag

theorem joinB_cons2 (sep : UInt8) (p q : Bytes) (r : List Bytes) :
    joinB sep (p :: q :: r) = p ++ sep :: joinB sep (q :: r) := rfl

theorem splitGo_joinB (sep : UInt8) (isL isR : UInt8 → Bool) (hsL : isL sep = false) (hsR : isR sep = false)
    (parts : List Bytes) (hne : parts ≠ []) (hwf : ∀ p ∈ parts, WFpre sep isL isR p 0 = true)
    (k : Nat) (hk : parts.length ≤ k + 1) :
    splitGo sep isL isR k (joinB sep parts) = parts := by
  induction parts generalizing k with
  | nil => exact absurd rfl hne
  | cons p rest ih =>
    cases rest with
    | nil =>
      have hp := index_wf_neg sep isL isR p (hwf p (by simp))
      cases k <;> simp [joinB, splitGo, hp]
    | cons q r =>
      cases k with
      | zero => simp at hk
      | succ k =>
        have hi := index_toplevel sep isL isR hsL hsR p (joinB sep (q :: r)) (hwf p (by simp))
        rw [joinB_cons2, splitGo, hi, if_neg (by omega), Int.toNat_natCast]
        simp [ih (by simp) (fun x hx => hwf x (by simp [hx])) k (by simp at hk ⊢; omega)]

theorem count_append (sep : UInt8) (s t : Bytes) : count sep (s ++ t) = count sep s + count sep t := by
  simp [count]

theorem count_joinB (sep : UInt8) (parts : List Bytes) : parts.length ≤ count sep (joinB sep parts) + 1 := by
  induction parts with
  | nil => simp
  | cons p rest ih =>
    cases rest with
    | nil => simp
    | cons q r =>
      have : count sep (sep :: joinB sep (q :: r)) = count sep (joinB sep (q :: r)) + 1 := by simp [count]
      rw [joinB_cons2, count_append, this]
      simp only [List.length_cons] at ih ⊢
      omega

/-- strings2.Split undoes the join of bracket-balanced parts whose separators are all inside brackets -/
theorem split_joinB (sep : UInt8) (isL isR : UInt8 → Bool) (hsL : isL sep = false) (hsR : isR sep = false)
    (parts : List Bytes) (hne : parts ≠ []) (hwf : ∀ p ∈ parts, WFpre sep isL isR p 0 = true) :
    split sep isL isR (joinB sep parts) = parts := by
  apply splitGo_joinB sep isL isR hsL hsR parts hne hwf
  have h1 := count_joinB sep parts
  have h2 : count sep (joinB sep parts) ≤ (joinB sep parts).length := List.length_filter_le _ _
  omega

theorem split?_joinB (sep : UInt8) (isL isR : UInt8 → Bool) (hsL : isL sep = false) (hsR : isR sep = false)
    (parts : List Bytes) (hne : parts ≠ []) (hwf : ∀ p ∈ parts, WFpre sep isL isR p 0 = true) :
    split? sep isL isR (joinB sep parts) = some parts := by
  rw [split?_eq, split_joinB sep isL isR hsL hsR parts hne hwf]

theorem WFpre_joinB (sep j : UInt8) (isL isR : UInt8 → Bool)
    (hj : j ≠ sep) (hjL : isL j = false) (hjR : isR j = false)
    (parts : List Bytes) (hwf : ∀ p ∈ parts, WFpre sep isL isR p 0 = true) :
    WFpre sep isL isR (joinB j parts) 0 = true := by
  induction parts with
  | nil => rfl
  | cons p rest ih =>
    cases rest with
    | nil => exact hwf p (by simp)
    | cons q r =>
      apply WFpre_append _ _ _ _ _ _ (hwf p (by simp))
      simpa [WFpre, hj, hjL, hjR] using ih fun x hx => hwf x (by simp [hx])

/-- a well-formed argument: non-empty name without `=` `,` or brackets; at least one item; every item bracket-balanced
    with spaces and commas only inside brackets -/
structure WFArg (a : Bytes × List Bytes) : Prop where
  name_ne  : a.1 ≠ []
  name_ok  : ∀ b ∈ a.1, b ≠ cEq ∧ b ≠ cComma ∧ isLB b = false ∧ isRB b = false
  items_ne : a.2 ≠ []
  items_ok : ∀ it ∈ a.2, WFpre cSp isLB isRB it 0 = true ∧ WFpre cComma isLB isRB it 0 = true

theorem WFpre_renderArg (a : Bytes × List Bytes) (h : WFArg a) :
    WFpre cComma isLB isRB (renderArg a) 0 = true := by
  apply WFpre_append
  · exact WFpre_plain _ _ _ _ fun b hb => (h.name_ok b hb).2
  · have := WFpre_joinB cComma cSp isLB isRB (by decide) (by decide) (by decide) a.2 fun it hit => (h.items_ok it hit).2
    simpa [WFpre, show cEq ≠ cComma by decide, show isLB cEq = false by decide, show isRB cEq = false by decide]

theorem parseExp?_renderArg (m : Args) (a : Bytes × List Bytes) (h : WFArg a) :
    parseExp? m (renderArg a) = some (setArg m a.1 a.2) := by
  rw [parseExp?_eq, parseExp, renderArg, idxFrom_plain cEq a.1 _ fun b hb => (h.name_ok b hb).1]
  simp [split_joinB cSp isLB isRB (by decide) (by decide) a.2 h.items_ne fun it hit => (h.items_ok it hit).1]

theorem parseExps?_render (m : Args) (as : List (Bytes × List Bytes)) (has : ∀ a ∈ as, WFArg a) :
    parseExps? m (as.map renderArg) = some (as.foldl (fun m a => setArg m a.1 a.2) m) := by
  induction as generalizing m with
  | nil => rfl
  | cons a as ih =>
    simp only [List.map_cons, parseExps?, parseExp?_renderArg m a (has a (by simp)), List.foldl_cons]
    exact ih _ (fun x hx => has x (by simp [hx]))

/-- TagArg.Parse recovers a rendered structured tag exactly -/
theorem parse?_render (v : Bytes) (as : List (Bytes × List Bytes))
    (hv : WFpre cComma isLB isRB v 0 = true) (has : ∀ a ∈ as, WFArg a) :
    parse? (render v as) = some (v, as.foldl (fun m a => setArg m a.1 a.2) []) := by
  unfold parse? render
  rw [split?_joinB cComma isLB isRB (by decide) (by decide) (v :: as.map renderArg) (by simp)]
  · simp only [parseExps?_render [] as has, Option.map_some]
  · intro p hp
    simp only [List.mem_cons, List.mem_map] at hp
    rcases hp with rfl | ⟨a, ha, rfl⟩
    · exact hv
    · exact WFpre_renderArg a (has a ha)

end Ioc.Tag
