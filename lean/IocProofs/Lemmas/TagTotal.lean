/-
  Totality of the tag grammar: every slice expression of Split / Parse / the prop shorthand is in range.
-/
import IocProofs.Lemmas.Tag
namespace Ioc.Tag
variable {α : Type} [DecidableEq α]

theorem index_bounds (sep : α) (isL isR : α → Bool) (s : List α) :
    index sep isL isR s = -1 ∨ (0 ≤ index sep isL isR s ∧ index sep isL isR s < s.length) := by
  unfold index
  cases hk : idxFrom sep s with
  | none => exact .inl rfl
  | some k =>
    have := idxFrom_lt sep s k hk
    have := loop_bounds sep isL isR s 0 0 k (by omega) (by omega)
    dsimp only
    omega

theorem slice?_some {β : Type} (s : List β) (lo hi : Int) (h : 0 ≤ lo ∧ lo ≤ hi ∧ hi ≤ s.length) :
    slice? s lo hi = some ((s.drop lo.toNat).take (hi.toNat - lo.toNat)) := by
  simp [slice?, h]

theorem slice?_upto {β : Type} (s : List β) (n : Nat) (h : n ≤ s.length) : slice? s 0 n = some (s.take n) := by
  simp [slice?, h]

theorem slice?_after {β : Type} (s : List β) (n : Nat) (h : n < s.length) :
    slice? s ((n : Int) + 1) s.length = some (s.drop (n + 1)) := by
  rw [slice?_some s _ _ (by omega), show ((n : Int) + 1).toNat = n + 1 by omega, List.take_of_length_le (by simp)]

theorem splitGo?_eq (sep : α) (isL isR : α → Bool) (k : Nat) (s : List α) :
    splitGo? sep isL isR k s = some (splitGo sep isL isR k s) := by
  induction k generalizing s with
  | zero => rfl
  | succ k ih =>
    simp only [splitGo?, splitGo]
    rcases index_bounds sep isL isR s with h | ⟨h0, hlt⟩
    · simp [h]
    · obtain ⟨n, hn⟩ := Int.eq_ofNat_of_zero_le h0
      rw [hn] at hlt ⊢
      rw [if_neg (by omega), if_neg (by omega), slice?_upto s n (by omega), slice?_after s n (by omega)]
      simp [ih]

/-- strings2.Split never slices out of range -/
theorem split?_eq (sep : α) (isL isR : α → Bool) (s : List α) :
    split? sep isL isR s = some (split sep isL isR s) := by
  simp [split?, split, splitGo?_eq]

theorem splitGo_ne_nil (sep : α) (isL isR : α → Bool) (k : Nat) (s : List α) :
    splitGo sep isL isR k s ≠ [] := by
  cases k with
  | zero => simp [splitGo]
  | succ k => simp only [splitGo]; split <;> simp

theorem split_ne_nil (sep : α) (isL isR : α → Bool) (s : List α) : split sep isL isR s ≠ [] :=
  splitGo_ne_nil _ _ _ _ _

theorem idxFrom_lt' (sep : α) (l : List α) (k : Nat) (h : idxFrom sep l = some k) : k < l.length :=
  idxFrom_lt sep l k h

/-- `parseExp?` with unchecked `take` / `drop` -/
def parseExp (m : Args) (e : Bytes) : Args :=
  match idxFrom cEq e with
  | none => setArg m e [[]]
  | some i => setArg m (e.take i) (split cSp isLB isRB (e.drop (i + 1)))

theorem parseExp?_eq (m : Args) (e : Bytes) : parseExp? m e = some (parseExp m e) := by
  unfold parseExp? parseExp
  cases hk : idxFrom cEq e with
  | none => rfl
  | some i =>
    have := idxFrom_lt cEq e i hk
    simp only [slice?_upto e i (by omega), slice?_after e i this, split?_eq]

theorem parseExps?_eq (m : Args) (es : List Bytes) : parseExps? m es = some (es.foldl parseExp m) := by
  induction es generalizing m with
  | nil => rfl
  | cons e es ih => simp only [parseExps?, parseExp?_eq, ih, List.foldl_cons]

theorem parseExps?_total (m : Args) (es : List Bytes) : ∃ m', parseExps? m es = some m' :=
  ⟨_, parseExps?_eq m es⟩

theorem parse?_total (tag : Bytes) : ∃ v a, parse? tag = some (v, a) := by
  unfold parse?
  rw [split?_eq]
  cases hs : split cComma isLB isRB tag with
  | nil => exact absurd hs (split_ne_nil _ _ _ _)
  | cons v exps => exact ⟨v, exps.foldl parseExp [], by simp [parseExps?_eq]⟩

theorem propShorthand?_total (s : Bytes) : ∃ r, propShorthand? s = some r := by
  unfold propShorthand?
  dsimp only
  split
  · exact ⟨_, rfl⟩
  · next hne =>
    rcases index_bounds cComma isLB isRB s with h | ⟨h0, hlt⟩
    · exact absurd h hne
    · rw [slice?_some s 0 _ (by omega), slice?_some s _ _ (by omega)]
      exact ⟨_, rfl⟩

end Ioc.Tag
