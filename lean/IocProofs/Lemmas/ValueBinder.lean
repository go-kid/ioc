/-
  Lemmas about the binder model (Ioc.Value.Binder): what a lookup answers after Set, at the path that was set, below it
  and above it.
-/
import Ioc.Value
namespace Ioc.Value

theorem searchMap_deepSet_same (p : List Bytes) (hp : p ≠ []) (m : List (Bytes × Val)) (v : Val) :
    searchMap (deepSet m p v) p = v := by
  fun_induction deepSet m p v <;> simp_all [searchMap, alookup_ainsert_same]

theorem searchMap_deepSet_below (p : List Bytes) (hp : p ≠ []) (q : List Bytes) (m vm : List (Bytes × Val)) :
    searchMap (deepSet m p (.map vm)) (p ++ q) = searchMap vm q := by
  generalize hv : Val.map vm = v
  fun_induction deepSet m p v <;> subst hv <;> simp_all [searchMap, alookup_ainsert_same]
  cases q <;> rfl

theorem searchMap_deepSet_above (a : List Bytes) (ha : a ≠ []) (q : List Bytes) (hq : q ≠ [])
    (m : List (Bytes × Val)) (v : Val) :
    ∃ sub, searchMap (deepSet m (a ++ q) v) a = .map sub ∧ searchMap sub q = v := by
  obtain ⟨q1, qs, rfl⟩ := List.exists_cons_of_ne_nil hq
  induction a generalizing m with
  | nil => exact absurd rfl ha
  | cons k rest ih =>
    cases rest with
    | nil =>
      simp only [List.cons_append, List.nil_append, deepSet, searchMap, alookup_ainsert_same]
      exact ⟨_, rfl, searchMap_deepSet_same _ hq _ v⟩
    | cons k2 rest2 =>
      obtain ⟨sub, h1, h2⟩ := ih (by simp)
        (match alookup k m with
          | some (.map m') => m'
          | _ => [])
      refine ⟨sub, ?_, h2⟩
      simp only [List.cons_append, deepSet, searchMap, alookup_ainsert_same]
      exact h1

theorem splitDots_ne_nil (s : Bytes) : splitDots s ≠ [] := by
  fun_induction splitDots s <;> simp_all

theorem lowerAscii_idem (s : Bytes) : lowerAscii (lowerAscii s) = lowerAscii s := by
  have h : ∀ c, lowerByte (lowerByte c) = lowerByte c := fun c => by
    unfold lowerByte
    split
    · rw [if_neg]
      simp [UInt8.le_iff_toNat_le] at *
      omega
    · rfl
  simp [lowerAscii, h]

theorem splitDots_append (x y : Bytes) : splitDots (x ++ 46 :: y) = splitDots x ++ splitDots y := by
  induction x with
  | nil =>
    obtain ⟨hd, tl, h⟩ := List.exists_cons_of_ne_nil (splitDots_ne_nil y)
    simp [splitDots, h]
  | cons c x ih =>
    obtain ⟨hd, tl, h⟩ := List.exists_cons_of_ne_nil (splitDots_ne_nil x)
    simp only [List.cons_append, splitDots, ih, h]
    split <;> simp

theorem lowerAscii_append_dot (x y : Bytes) : lowerAscii (x ++ 46 :: y) = lowerAscii x ++ 46 :: lowerAscii y := by
  simp [lowerAscii, lowerByte]

theorem Binder.get_of_over (b : Binder) (path : Bytes) (v : Val) (hv : v ≠ .null)
    (h : searchMap b.over (splitDots (lowerAscii path)) = v) : b.get path = v := by
  unfold Binder.get
  cases v <;> first | exact absurd rfl hv | simp only [h]

theorem set_get (b : Binder) (path path' : Bytes) (v : Val) (hc : lowerAscii path' = lowerAscii path)
    (hv : lowerKeys v ≠ .null) : (b.set path v).get path' = lowerKeys v := by
  apply Binder.get_of_over _ _ _ hv
  simp only [Binder.set, hc]
  exact searchMap_deepSet_same _ (splitDots_ne_nil _) _ _

theorem set_seen_through_ancestor (b : Binder) (a q : Bytes) (v : Val) :
    ∃ sub, (b.set (a ++ 46 :: q) v).get a = .map sub ∧ searchMap sub (splitDots (lowerAscii q)) = lowerKeys v := by
  obtain ⟨sub, h1, h2⟩ := searchMap_deepSet_above (splitDots (lowerAscii a)) (splitDots_ne_nil _)
    (splitDots (lowerAscii q)) (splitDots_ne_nil _) b.over (lowerKeys v)
  refine ⟨sub, ?_, h2⟩
  apply Binder.get_of_over _ _ _ (by simp)
  simp only [Binder.set, lowerAscii_append_dot, splitDots_append]
  exact h1

theorem set_seen_below (b : Binder) (a q : Bytes) (vm : List (Bytes × Val)) (w : Val) (hw : w ≠ .null)
    (h : searchMap (lowerKeysM vm) (splitDots (lowerAscii q)) = w) :
    (b.set a (.map vm)).get (a ++ 46 :: q) = w := by
  apply Binder.get_of_over _ _ _ hw
  simp only [Binder.set, lowerAscii_append_dot, splitDots_append, lowerKeys]
  rw [searchMap_deepSet_below _ (splitDots_ne_nil _)]
  exact h

end Ioc.Value
