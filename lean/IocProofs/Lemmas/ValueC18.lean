/-
  Proofs of the C18 statements: the order of the stages, the fold over the regenerated processor table equals the
  composition quote → expression → value/prefix → validate, what the expression engine is handed, validation.
-/
import IocProofs.Lemmas.ValueTop
namespace Ioc.Value
open Ioc Ioc.Tag

/-- the order computed from the regenerated table -/
theorem stageOrder_eq : stageOrder =
    ["loggerAwarePostProcessors", "configQuoteAwarePostProcessors", "expressionTagAwarePostProcessors",
     "propertiesAwarePostProcessors", "valueAwarePostProcessors",
     "dependencyAwarePostProcessors", "dependencyFunctionAwarePostProcessors", "dependencyTypeAwarePostProcessors",
     "dependencyFurtherMatchingPostProcessors", "validateAwarePostProcessors"] := rfl

theorem runStagesOn_cons (J : Json) (evalE : Bytes → Except Err Val) (validate : FVal → List Bytes → Bool)
    (cfg : Cfg) (ty : FieldTy) (n : String) (ns : List String) (st : PState) :
    runStagesOn J evalE validate cfg ty (n :: ns) st =
      stageFn J evalE validate cfg ty n st >>= fun st' => runStagesOn J evalE validate cfg ty ns st' := by
  simp only [runStagesOn]
  cases stageFn J evalE validate cfg ty n st <;> rfl

/-- The processors in their sorted order, on one property in ANY state: the quote stage reads TagStr (and is skipped
    when TagStr holds no placeholder: TagVal stays), the expression stage rewrites TagVal, the one binding stage of the
    property's kind binds, validation sees what is bound now or, failing that, what the field held. -/
theorem runStagesOn_stageOrder (J : Json) (evalE : Bytes → Except Err Val) (validate : FVal → List Bytes → Bool)
    (cfg : Cfg) (ty : FieldTy) (isValue : Bool) (tagStr tagVal : Bytes) (args : Args) (bound : Option FVal) :
    runStagesOn J evalE validate cfg ty stageOrder ⟨isValue, tagStr, tagVal, args, bound⟩ =
      ((match findEl cDollar tagStr with
        | none => pure tagVal
        | some _ => quoteStage J cfg tagStr) >>= fun s1 =>
       exprStage J evalE s1 >>= fun s2 =>
       (if isValue then valueStage J args ty s2 else prefixStage cfg args ty s2) >>= fun b =>
       validateStage validate args ty (b.orElse fun _ => bound) >>= fun b' =>
       pure ⟨isValue, tagStr, s2, args, b'⟩) := by
  simp only [stageOrder_eq, runStagesOn_cons, stageFn, nQuote, nExpr, nValue, nProps, nValidate, String.reduceEq,
    ↓reduceIte, ok_bind]
  cases findEl cDollar tagStr <;> cases isValue <;>
    simp only [map_bind, ok_bind, runStagesOn, ↓reduceIte, Bool.false_eq_true] <;> rfl

theorem orElse_none {α : Type} (b : Option α) : (b.orElse fun _ => none) = b := by cases b <;> rfl

/-- on a freshly scanned property the fold over the processor table is the composition of the stages -/
theorem runProperty_eq (J : Json) (evalE : Bytes → Except Err Val) (validate : FVal → List Bytes → Bool)
    (cfg : Cfg) (isValue : Bool) (tag : Bytes) (ty : FieldTy) :
    runProperty J evalE validate cfg isValue tag ty =
      match Tag.parse? tag with
      | none => .error .panic
      | some (tv, args) =>
        quoteStage J cfg tv >>= fun s1 =>
        exprStage J evalE s1 >>= fun s2 =>
        (if isValue then valueStage J args ty s2 else prefixStage cfg args ty s2) >>= fun b =>
        validateStage validate args ty b >>= fun b' =>
        pure (b'.getD (zero ty)) := by
  unfold runProperty
  cases Tag.parse? tag with
  | none => rfl
  | some p =>
    obtain ⟨tv, args⟩ := p
    -- without a placeholder the quote processor skips the property: TagVal is still TagStr, as after a quote stage
    have hq : (match findEl cDollar tv with
        | none => pure tv
        | some _ => quoteStage J cfg tv) = quoteStage J cfg tv := by
      cases hf : findEl cDollar tv with
      | none => exact (replaceAllF_none _ _ _ _ _ hf).symm
      | some _ => rfl
    dsimp only
    calc _ = runStagesOn J evalE validate cfg ty stageOrder ⟨isValue, tv, tv, args, none⟩ >>= fun st =>
          pure (st.bound.getD (zero ty)) := by
          cases runStagesOn J evalE validate cfg ty stageOrder ⟨isValue, tv, tv, args, none⟩ <;> rfl
      _ = _ := by simp only [runStagesOn_stageOrder, hq, orElse_none, bind_assoc, pure_bind]

theorem runProperty_value (J : Json) (evalE : Bytes → Except Err Val) (validate : FVal → List Bytes → Bool)
    (cfg : Cfg) (tag : Bytes) (ty : FieldTy) :
    runProperty J evalE validate cfg true tag ty = valuePipeline J evalE validate cfg tag ty :=
  runProperty_eq J evalE validate cfg true tag ty

theorem runProperty_prefix (J : Json) (evalE : Bytes → Except Err Val) (validate : FVal → List Bytes → Bool)
    (cfg : Cfg) (tag : Bytes) (ty : FieldTy) :
    runProperty J evalE validate cfg false tag ty = prefixPipeline J evalE validate cfg tag ty :=
  runProperty_eq J evalE validate cfg false tag ty

/-- an engine that refuses every text containing a `${…}` pattern -/
def guardE (evalE : Bytes → Except Err Val) : Bytes → Except Err Val :=
  fun c => if (findEl cDollar c).isSome then .error .panic else evalE c

theorem replaceAllF_congr (x : UInt8) (f g : Bytes → Except Err Bytes) (e : Err)
    (h : ∀ c, (∀ b ∈ c, notBrace b = true) → f c = g c) (n : Nat) (s : Bytes) :
    replaceAllF x f e n s = replaceAllF x g e n s := by
  induction n generalizing s with
  | zero => rfl
  | succ n ih =>
    unfold replaceAllF
    split
    · rfl
    · next pre c post hf =>
      rw [h c (findEl_some x hf).2]
      cases g c with
      | error _ => rfl
      | ok r => exact ih _

theorem exprStage_guard (J : Json) (evalE : Bytes → Except Err Val) (s : Bytes) :
    exprStage J (guardE evalE) s = exprStage J evalE s := by
  unfold exprStage
  apply replaceAllF_congr
  intro c hc
  unfold evalFormat guardE
  simp [findEl_none_of_notBrace cDollar c hc]

/-- the tag text `#{e}` -/
def exprTag (e : Bytes) : Bytes := cHash :: 123 :: (e ++ [125])

theorem exprStage_exprTag (J : Json) (evalE : Bytes → Except Err Val) (e : Bytes) (v : Val)
    (he : ∀ b ∈ e, notBrace b = true) (hv : evalE e = .ok v) (hn : findEl cHash (formatAny J v) = none) :
    exprStage J evalE (exprTag e) = .ok (formatAny J v) :=
  replaceAllF_whole cHash (evalFormat J evalE) .expr e _ he (by simp [evalFormat, hv]) hn

theorem validateStage_spec (validate : FVal → List Bytes → Bool) (args : Args) (ty : FieldTy) (b : Option FVal) :
    validateStage validate args ty b =
      match Tag.find args kValidate with
      | none => .ok b
      | some cs =>
        if isPtrTy ty = true ∧ b.getD (zero ty) = .nil then .ok b
        else if validate (b.getD (zero ty)) cs = true then .ok b else .error .validate := by
  unfold validateStage
  cases Tag.find args kValidate <;> rfl

end Ioc.Value
