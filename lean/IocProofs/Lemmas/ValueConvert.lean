/-
  `convert`: the document value converted to the field's type, for MATCHING kinds — the specification that
  binding by prefix is compared with (C17_prefix_exact).  Deliberately independent of mapstructure's weak
  conversions: a string only fits a string field, an integer fits the integer kinds and float64, …
-/
import IocProofs.Lemmas.ValueDecode
namespace Ioc.Value

mutual
def convert : FieldTy → Val → FVal
  | .string, v => match v with
    | .str s => .str s
    | _ => .nil
  | .int, v => match v with
    | .int i => .int i
    | _ => .nil
  | .uint, v => match v with
    | .int i => .int i
    | _ => .nil
  | .float, v => match v with
    | .int i => .int (roundF64I i)          -- float64 has 53 bits: the conversion to the field's type rounds
    | .dec t => .dec t
    | _ => .nil
  | .bool, v => match v with
    | .bool b => .bool b
    | _ => .nil
  | .any, v => ofVal v
  | .ptr t, v => .ptr (convert t v)
  | .slice t, v => match v with
    | .list l => .list (l.map (fun x => if x = Val.null then zero t else convert t x))
    | _ => .nil
  | .map t, v => match v with
    | .map m => .map (m.map (fun kv => (kv.1, if kv.2 = Val.null then zero t else convert t kv.2)))
    | _ => .nil
  | .struct fs, v => match v with
    | .map m => .struct (convertFields fs m)
    | _ => .nil
/-- a struct field takes the value stored under exactly its name; without one it keeps its zero value -/
def convertFields : List (Bytes × FieldTy) → List (Bytes × Val) → List (Bytes × FVal)
  | [], _ => []
  | (n, t) :: rest, m =>
    (n, match alookup n m with
        | some v => if v = Val.null then zero t else convert t v
        | none => zero t) :: convertFields rest m
end

mutual
/-- the kinds match (and the integer is in the range of the field) -/
def convertible : FieldTy → Val → Bool
  | .string, v => match v with
    | .str _ => true
    | _ => false
  | .int, v => match v with
    | .int _ => true
    | _ => false
  | .uint, v => match v with
    | .int i => decide (0 ≤ i)
    | _ => false
  | .float, v => match v with
    | .int _ => true
    | .dec _ => true
    | _ => false
  | .bool, v => match v with
    | .bool _ => true
    | _ => false
  | .any, _ => true
  | .ptr t, v => convertible t v
  | .slice t, v => match v with
    | .list l => l.all (fun x => x = Val.null || convertible t x)
    | _ => false
  | .map t, v => match v with
    | .map m => m.all (fun kv => kv.2 = Val.null || convertible t kv.2)
    | _ => false
  | .struct fs, v => match v with
    | .map m => convertibleFields fs m
    | _ => false
def convertibleFields : List (Bytes × FieldTy) → List (Bytes × Val) → Bool
  | [], _ => true
  | (n, t) :: rest, m =>
    (match alookup n m with
     | some v => v = Val.null || convertible t v
     | none => (m.find? (fun kv => lowerEq kv.1 n)).isNone) && convertibleFields rest m
end

theorem mapMExcept_ok {α β : Type} (f : α → Except Err β) (g : α → β) (l : List α) (h : ∀ a ∈ l, f a = .ok (g a)) :
    mapMExcept f l = .ok (l.map g) := by
  induction l with
  | nil => rfl
  | cons a r ih =>
    simp only [mapMExcept, h a (by simp), ih (fun b hb => h b (by simp [hb])), List.map_cons]

/-- an entry of a list or a member of a struct: nil leaves the zero value, anything else is decoded -/
theorem entry_convert (t : FieldTy) (x : Val) (h : x = .null ∨ decode t x = .ok (convert t x)) :
    (if x = Val.null then .ok (zero t) else decode t x) = .ok (if x = Val.null then zero t else convert t x) := by
  split
  · rfl
  · exact h.resolve_left ‹_›

mutual
theorem decode_convert : ∀ (ty : FieldTy) (v : Val), convertible ty v = true → decode ty v = .ok (convert ty v)
  | .string, v, h | .int, v, h | .float, v, h | .bool, v, h => by cases v <;> cases h <;> rfl
  | .uint, v, h => by
    cases v with
    | int i =>
      have : ¬ i < 0 := Int.not_lt.mpr (of_decide_eq_true h)
      simp only [decode, decUint, if_neg this]; rfl
    | _ => cases h
  | .any, v, _ => rfl
  | .ptr t, v, h => by simp only [decode, convert, decode_convert t v h]
  | .slice t, v, h => by
    cases v with
    | list l =>
      simp only [convertible, List.all_eq_true, Bool.or_eq_true, decide_eq_true_eq] at h
      simp only [decode, convert]
      rw [mapMExcept_ok _ (fun x => if x = Val.null then zero t else convert t x) l
        fun x hx => entry_convert t x ((h x hx).imp_right (decode_convert t x))]
      rfl
    | _ => cases h
  | .map t, v, h => by
    cases v with
    | map m =>
      simp only [convertible, List.all_eq_true, Bool.or_eq_true, decide_eq_true_eq] at h
      simp only [decode, convert]
      rw [mapMExcept_ok _ (fun kv => (kv.1, if kv.2 = Val.null then zero t else convert t kv.2))]
      · rfl
      · intro kv hkv
        by_cases hz : kv.2 = .null
        · simp only [hz, if_true]
        · simp only [hz, if_false, decode_convert t kv.2 ((h kv hkv).resolve_left hz)]
    | _ => cases h
  | .struct fs, v, h => by
    cases v with
    | map m => simp only [decode, convert, decodeFields_convert fs m h]; rfl
    | _ => cases h
theorem decodeFields_convert : ∀ (fs : List (Bytes × FieldTy)) (m : List (Bytes × Val)), convertibleFields fs m = true →
    decodeFields fs m = .ok (convertFields fs m)
  | [], _, _ => rfl
  | (n, t) :: rest, m, h => by
    simp only [convertibleFields, Bool.and_eq_true] at h
    simp only [decodeFields, convertFields, decodeFields_convert rest m h.2, lookupField]
    have h1 := h.1
    cases ha : alookup n m with
    | some v =>
      simp only [ha, Bool.or_eq_true, decide_eq_true_eq] at h1
      simp only [entry_convert t v (h1.imp_right (decode_convert t v))]
    | none =>
      simp only [ha, Option.isNone_iff_eq_none] at h1
      simp only [h1, Option.map_none]
end

end Ioc.Value
