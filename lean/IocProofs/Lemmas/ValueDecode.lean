/-
  decode does not see the difference between a value and its JSON round trip, for values whose integers fit
  53 bits (and are non-negative where an unsigned field is involved).  (C17)
-/
import IocProofs.Lemmas.ValueFaithful
import IocProofs.Lemmas.ValueKeys
namespace Ioc.Value

mutual
/-- every integer fits the float64 significand -/
def faithfulV : Val → Bool
  | .int i => decide (i.natAbs ≤ 2 ^ 53)
  | .list l => faithfulL l
  | .map m => faithfulM m
  | _ => true
def faithfulL : List Val → Bool
  | [] => true
  | v :: r => faithfulV v && faithfulL r
def faithfulM : List (Bytes × Val) → Bool
  | [] => true
  | (_, v) :: r => faithfulV v && faithfulM r
end

mutual
def nonNegV : Val → Bool
  | .int i => decide (0 ≤ i)
  | .list l => nonNegL l
  | .map m => nonNegM m
  | _ => true
def nonNegL : List Val → Bool
  | [] => true
  | v :: r => nonNegV v && nonNegL r
def nonNegM : List (Bytes × Val) → Bool
  | [] => true
  | (_, v) :: r => nonNegV v && nonNegM r
end

mutual
def usesUint : FieldTy → Bool
  | .uint => true
  | .ptr t => usesUint t
  | .slice t => usesUint t
  | .map t => usesUint t
  | .struct fs => usesUintF fs
  | _ => false
def usesUintF : List (Bytes × FieldTy) → Bool
  | [] => false
  | (_, t) :: r => usesUint t || usesUintF r
end

/-- the two hypotheses of `decode_toF64` -/
def okFor (ty : FieldTy) (v : Val) : Prop := faithfulV v = true ∧ (usesUint ty = true → nonNegV v = true)

theorem roundF64I_small (i : Int) (h : i.natAbs ≤ 2 ^ 53) : roundF64I i = i := by
  rw [roundF64I, roundF64_small _ h, signed_natAbs]

theorem fmtFlt_small (i : Int) (h : i.natAbs ≤ 2 ^ 53) : fmtFlt i = intToDec i := by
  unfold fmtFlt intToDec fmtFltNat
  simp [h]

theorem toF64_eq_null (v : Val) : toF64 v = .null ↔ v = .null := by
  cases v <;> simp [toF64]

/-- the one thing a JSON round trip does to a scalar: an integer comes back as a float64, here with the same value -/
theorem toF64_int (i : Int) (h : faithfulV (.int i) = true) : toF64 (.int i) = .flt i := by
  rw [toF64, roundF64I_small i (of_decide_eq_true h)]

theorem toF64L_eq_map (l : List Val) : toF64L l = l.map toF64 := by
  induction l <;> simp [toF64L, *]

theorem toF64M_eq_map (m : List (Bytes × Val)) : toF64M m = m.map fun kv => (kv.1, toF64 kv.2) := by
  induction m with
  | nil => rfl
  | cons kv r ih => simp [toF64M, ih]

theorem faithfulL_iff (l : List Val) : faithfulL l = true ↔ ∀ x ∈ l, faithfulV x = true := by
  induction l <;> simp [faithfulL, *]

theorem nonNegL_iff (l : List Val) : nonNegL l = true ↔ ∀ x ∈ l, nonNegV x = true := by
  induction l <;> simp [nonNegL, *]

theorem faithfulM_iff (m : List (Bytes × Val)) : faithfulM m = true ↔ ∀ kv ∈ m, faithfulV kv.2 = true := by
  induction m <;> simp [faithfulM, *]

theorem nonNegM_iff (m : List (Bytes × Val)) : nonNegM m = true ↔ ∀ kv ∈ m, nonNegV kv.2 = true := by
  induction m <;> simp [nonNegM, *]

mutual
theorem ofVal_toF64 : ∀ v : Val, faithfulV v = true → ofVal (toF64 v) = ofVal v
  | .int i, h => by rw [toF64_int i h]; rfl
  | .list l, h => by simp only [toF64, ofVal, ofValL_toF64 l h]
  | .map m, h => by simp only [toF64, ofVal, ofValM_toF64 m h]
  | .null, _ | .str _, _ | .flt _, _ | .dec _, _ | .bool _, _ => rfl
theorem ofValL_toF64 : ∀ l : List Val, faithfulL l = true → ofValL (toF64L l) = ofValL l
  | [], _ => rfl
  | v :: r, h => by
    simp only [faithfulL, Bool.and_eq_true] at h
    simp [toF64L, ofValL, ofVal_toF64 v h.1, ofValL_toF64 r h.2]
theorem ofValM_toF64 : ∀ m : List (Bytes × Val), faithfulM m = true → ofValM (toF64M m) = ofValM m
  | [], _ => rfl
  | (k, v) :: r, h => by
    simp only [faithfulM, Bool.and_eq_true] at h
    simp [toF64M, ofValM, ofVal_toF64 v h.1, ofValM_toF64 r h.2]
end

/-- the scalar decoders: a list or map is refused before and after, an integer that fits 53 bits decodes like the
    float64 of the same value (into an unsigned field: when it is not negative) -/
theorem decScalar_toF64 (v : Val) (h : faithfulV v = true) :
    decString (toF64 v) = decString v ∧ decInt (toF64 v) = decInt v ∧ decFloat (toF64 v) = decFloat v ∧
      decBool (toF64 v) = decBool v ∧ (nonNegV v = true → decUint (toF64 v) = decUint v) := by
  cases v with
  | int i =>
    have hi : i.natAbs ≤ 2 ^ 53 := of_decide_eq_true h
    have : (2 : Nat) ^ 53 < 2 ^ 63 := by decide
    rw [toF64_int i h]
    refine ⟨congrArg (fun t => Except.ok (FVal.str t)) (fmtFlt_small i hi), ?_,
      congrArg (fun r => Except.ok (FVal.int r)) (roundF64I_small i hi).symm, rfl, fun hn => ?_⟩
    · have h1 : -(2 ^ 63 : Int) ≤ i ∧ i < 2 ^ 63 := by omega
      simp only [decInt, if_pos h1]
    · have hn : 0 ≤ i := of_decide_eq_true hn
      have h1 : 0 ≤ i ∧ i < 2 ^ 64 := by omega
      simp only [decUint, if_pos h1, if_neg (Int.not_lt.mpr hn)]
  | _ => exact ⟨rfl, rfl, rfl, rfl, fun _ => rfl⟩

theorem mapMExcept_congr {α β : Type} (f g : α → Except Err β) (l : List α) (h : ∀ a ∈ l, f a = g a) :
    mapMExcept f l = mapMExcept g l := by
  induction l with
  | nil => rfl
  | cons a r ih =>
    simp only [mapMExcept, h a (by simp), ih (fun b hb => h b (by simp [hb]))]

theorem mapMExcept_map {α β γ : Type} (f : α → β) (g : β → Except Err γ) (l : List α) :
    mapMExcept g (l.map f) = mapMExcept (fun a => g (f a)) l := by
  induction l with
  | nil => rfl
  | cons a r ih => simp only [List.map_cons, mapMExcept, ih]

theorem alookup_toF64M (n : Bytes) (m : List (Bytes × Val)) : alookup n (toF64M m) = (alookup n m).map toF64 := by
  induction m with
  | nil => rfl
  | cons kv r ih =>
    simp only [toF64M, alookup, ih]
    split <;> rfl

theorem lookupField_toF64M (n : Bytes) (m : List (Bytes × Val)) :
    lookupField n (toF64M m) = (lookupField n m).map toF64 := by
  unfold lookupField
  rw [alookup_toF64M, toF64M_eq_map, List.find?_map]
  cases alookup n m with
  | some v => rfl
  | none => simp only [Option.map_none, Option.map_map]; rfl

theorem lookupField_mem (n : Bytes) (m : List (Bytes × Val)) (v : Val) (h : lookupField n m = some v) :
    ∃ k, (k, v) ∈ m := by
  unfold lookupField at h
  split at h
  · next w ha => exact ⟨n, Tag.alookup_mem n m v (Option.some.inj h ▸ ha)⟩
  · obtain ⟨kv, hf, rfl⟩ := Option.map_eq_some_iff.mp h
    exact ⟨kv.1, List.mem_of_find?_eq_some hf⟩

mutual
theorem decode_toF64 : ∀ (ty : FieldTy) (v : Val), faithfulV v = true → (usesUint ty = true → nonNegV v = true) →
    decode ty (toF64 v) = decode ty v
  | .string, v, h, _ => (decScalar_toF64 v h).1
  | .int, v, h, _ => (decScalar_toF64 v h).2.1
  | .float, v, h, _ => (decScalar_toF64 v h).2.2.1
  | .bool, v, h, _ => (decScalar_toF64 v h).2.2.2.1
  | .uint, v, h, hn => (decScalar_toF64 v h).2.2.2.2 (hn rfl)
  | .any, v, h, _ => by simp only [decode, ofVal_toF64 v h]
  | .ptr t, v, h, hn => by simp only [decode, decode_toF64 t v h hn]
  | .slice t, v, h, hn => by
    cases v with
    | list l =>
      simp only [toF64, decode, toF64L_eq_map, mapMExcept_map]
      rw [mapMExcept_congr]
      intro x hx
      simp only [toF64_eq_null, decode_toF64 t x ((faithfulL_iff l).mp h x hx) fun hu => (nonNegL_iff l).mp (hn hu) x hx]
    | map m =>
      cases m with
      | nil => rfl
      | cons kv r =>
        have := decode_toF64 t (.map (kv :: r)) h hn
        obtain ⟨k, w⟩ := kv
        simp only [toF64, toF64M] at this ⊢
        simp only [decode, this]
    | int i =>
      have := decode_toF64 t (.int i) h hn
      simp only [toF64] at this ⊢
      simp only [decode, this]
    | _ => rfl
  | .map t, v, h, hn => by
    cases v with
    | map m =>
      simp only [toF64, decode, toF64M_eq_map, mapMExcept_map]
      rw [mapMExcept_congr]
      intro kv hkv
      simp only [toF64_eq_null,
        decode_toF64 t kv.2 ((faithfulM_iff m).mp h kv hkv) fun hu => (nonNegM_iff m).mp (hn hu) kv hkv]
    | list l => cases l <;> rfl
    | _ => rfl
  | .struct fs, v, h, hn => by
    cases v with
    | map m => simp only [toF64, decode, decodeFields_toF64 fs m h hn]
    | _ => rfl
theorem decodeFields_toF64 : ∀ (fs : List (Bytes × FieldTy)) (m : List (Bytes × Val)), faithfulM m = true →
    (usesUintF fs = true → nonNegM m = true) → decodeFields fs (toF64M m) = decodeFields fs m
  | [], _, _, _ => rfl
  | (n, t) :: rest, m, h, hn => by
    have hrest := decodeFields_toF64 rest m h (by intro hu; exact hn (by simp [usesUintF, hu]))
    simp only [decodeFields, lookupField_toF64M, hrest]
    cases hl : lookupField n m with
    | none => rfl
    | some v =>
      obtain ⟨k, hk⟩ := lookupField_mem n m v hl
      simp only [Option.map_some, toF64_eq_null, decode_toF64 t v ((faithfulM_iff m).mp h _ hk)
        fun hu => (nonNegM_iff m).mp (hn (by simp [usesUintF, hu])) _ hk]
end

end Ioc.Value
