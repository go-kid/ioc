/-
  A placeholder that declares a default, `${k:d}` (config_quote_aware_post_processors.go:50-82): the default stands in
  for a key that is NOT configured.  When the key is configured — with any present value, the zero values `0`, `false`,
  `0.0` and the empty string included — the default plays no part: the quote stage, and with it the whole value
  pipeline, does what it does for `${k}` (C17_default_ignored).
-/
import IocProofs.Lemmas.ValueTop
namespace Ioc.Value
open Ioc Ioc.Tag

/-- the tag text `${k:d}` -/
def placeholderD (k d : Bytes) : Bytes := placeholder (k ++ 58 :: d)

/-- default texts as the theorem uses them: key characters (letters, digits, `.`, `_`, `-`), possibly none -/
def PlainDefault (d : Bytes) : Bool := d.all keyChar

theorem keyDefault_plain (k d : Bytes) (hk : PlainKey k = true) (hd : PlainDefault d = true) :
    ∀ b ∈ k ++ 58 :: d, (b ≠ cComma ∧ isLB b = false ∧ isRB b = false) ∧ notBrace b = true := by
  have key : ∀ b, keyChar b = true → (b ≠ cComma ∧ isLB b = false ∧ isRB b = false) ∧ notBrace b = true :=
    fun b h => ⟨keyChar_brackets b h, keyChar_notBrace b h⟩
  intro b hb
  rcases List.mem_append.mp hb with hb | hb
  · exact key b (plainKey_mem k hk b hb)
  · rcases List.mem_cons.mp hb with hb | hb
    · subst hb; decide
    · exact key b (List.all_eq_true.mp hd b hb)

theorem WFpre_placeholderD (k d : Bytes) (hk : PlainKey k = true) (hd : PlainDefault d = true) :
    WFpre cComma isLB isRB (placeholderD k d) 0 = true :=
  WFpre_braced _ fun b hb => (keyDefault_plain k d hk hd b hb).1

/-- strings.SplitN(exp, ":", 2) of `k:d` for a key without a colon -/
theorem splitColon_key_default (k d : Bytes) (hk : PlainKey k = true) : splitColon (k ++ 58 :: d) = some (k, d) := by
  unfold splitColon
  rw [idxFrom_plain 58 k d (fun b hb => keyChar_ne b 58 (plainKey_mem k hk b hb) rfl)]
  simp

theorem resolveQuote_key_default (J : Json) (cfg : Cfg) (k d : Bytes) (hk : PlainKey k = true) (hp : present (cfg k) = true) :
    resolveQuote J cfg (k ++ 58 :: d) = resolveQuote J cfg k := by
  rw [resolveQuote_key J cfg k hk hp]
  simp only [present, Bool.and_eq_true, bne_iff_ne, ne_eq] at hp
  unfold resolveQuote
  simp [splitColon_key_default k d hk, hp.1.1, hp.1.2, hp.2]

/-- the quote stage on `${k:d}` and on `${k}` agree when `k` is configured (whatever the formatted value contains:
    after the first replacement both texts are the same) -/
theorem quoteStage_placeholderD (J : Json) (cfg : Cfg) (k d : Bytes) (hk : PlainKey k = true) (hd : PlainDefault d = true)
    (hp : present (cfg k) = true) :
    quoteStage J cfg (placeholderD k d) = quoteStage J cfg (placeholder k) := by
  unfold quoteStage placeholderD placeholder
  rw [maxRounds_succ,
    replaceAllF_whole_succ _ _ _ _ _ _ (fun b hb => (keyDefault_plain k d hk hd b hb).2)
      ((resolveQuote_key_default J cfg k d hk hp).trans (resolveQuote_key J cfg k hk hp)),
    replaceAllF_whole_succ _ _ _ _ _ _ (fun b hb => keyChar_notBrace b (plainKey_mem k hk b hb))
      (resolveQuote_key J cfg k hk hp)]

/-- Binding through `${k:d}` (with any arguments) is binding through `${k}` whenever `k` is configured — with ANY
    present value (not null, not an empty map or list): `0`, `false`, `0.0`, `""` are configured values. -/
theorem value_default_ignored (J : Json) (evalE : Bytes → Except Err Val) (validate : FVal → List Bytes → Bool)
    (cfg : Cfg) (k d : Bytes) (as : List (Bytes × List Bytes)) (ty : FieldTy)
    (hk : PlainKey k = true) (hd : PlainDefault d = true) (has : ∀ a ∈ as, WFArg a) (hp : present (cfg k) = true) :
    valuePipeline J evalE validate cfg (render (placeholderD k d) as) ty =
      valuePipeline J evalE validate cfg (render (placeholder k) as) ty := by
  unfold valuePipeline
  rw [parse?_render (placeholderD k d) as (WFpre_placeholderD k d hk hd) has,
    parse?_render (placeholder k) as (WFpre_placeholder k hk) has]
  simp only [quoteStage_placeholderD J cfg k d hk hd hp]

end Ioc.Value
