/-
  The class of values on which the value path (`${k}` → FormatAny → splice → ParseAny → decode) is faithful,
  and the lemmas that ParseAny reads the formatted text of such a value back (C17).
-/
import IocProofs.Lemmas.ValueStage
namespace Ioc.Value
open Ioc.Tag

/-- no `${…}` and no `#{…}` pattern -/
def noEl (s : Bytes) : Bool := (findEl cDollar s).isNone && (findEl cHash s).isNone

/-- `[`…`]`, `map[`…`]` or `{`…`}` -/
def bracketed (s : Bytes) : Bool :=
  isSlice s || (s.length > 4 && s.take 4 = sMapOpen && lastIs s 93) || (s.head? = some 123 && lastIs s 125)

/-- a string that ParseAny leaves alone: not empty, not bool-like, not number-like, not bracketed, not quoted -/
def plainString (s : Bytes) : Bool :=
  !s.isEmpty && lowerAscii s != sTrue && lowerAscii s != sFalse && !isNumber s && !bracketed s && !isQuoted s

theorem parseAny_plain (J : Json) (s : Bytes) (h : plainString s = true) : parseAny J s = .ok (.str s) := by
  simp only [plainString, Bool.and_eq_true, Bool.not_eq_true', bne_iff_ne, ne_eq] at h
  obtain ⟨⟨⟨⟨⟨h1, h2⟩, h3⟩, h4⟩, h5⟩, h6⟩ := h
  have h4' : splitNumber s = none := by
    unfold isNumber at h4
    cases hs : splitNumber s with
    | none => rfl
    | some x => simp [hs] at h4
  simp only [bracketed, Bool.or_eq_false_iff] at h5
  obtain ⟨⟨h5a, h5b⟩, h5c⟩ := h5
  have hm : isMap J s = false := by
    unfold isMap
    rw [h5b]
    simp only [Bool.false_or, Bool.and_eq_false_iff]
    simp only [Bool.and_eq_false_iff] at h5c
    rcases h5c with h | h
    · exact Or.inl (Or.inl (Or.inr h))
    · exact Or.inl (Or.inr h)
  unfold parseAny parseAnyF
  simp [h1, h2, h3, h4', hm, h5a, h6]

theorem parseAny_bool (J : Json) (b : Bool) : parseAny J (formatAny J (.bool b)) = .ok (.bool b) := by
  cases b <;> rfl

/-- a text that opens with `[` or `{` is neither a boolean nor a number -/
theorem bracket_not_scalar (c : UInt8) (r : Bytes) (hc : c = 91 ∨ c = 123) :
    lowerAscii (c :: r) ≠ sTrue ∧ lowerAscii (c :: r) ≠ sFalse ∧ splitNumber (c :: r) = none := by
  rcases hc with rfl | rfl <;>
    exact ⟨lowerAscii_ne_of_head _ r sTrue (by decide), lowerAscii_ne_of_head _ r sFalse (by decide),
      splitNumber_none_of_head _ r (by decide) (by decide) rfl⟩

theorem lastIs_concat (l : Bytes) (d : UInt8) : lastIs (l ++ [d]) d = true := by
  simp [lastIs]

theorem parseAny_enc_list (J : Json) (hJ : J.Lawful) (l : List Val) (hs : jsonSafeL l = true) :
    parseAny J (J.enc (.list l)) = .ok (toF64 (.list l)) := by
  obtain ⟨mid, hm⟩ := hJ.list_shape l hs
  have hrt := hJ.list_rt l hs
  rw [hm] at hrt ⊢
  obtain ⟨e2, e3, hnum⟩ := bracket_not_scalar 91 (mid ++ [93]) (Or.inl rfl)
  have hmap : isMap J (91 :: (mid ++ [93])) = false := by simp [isMap, sMapOpen, ofString]
  have hslice : isSlice (91 :: (mid ++ [93])) = true := by simp [isSlice, show lastIs (91 :: (mid ++ [93])) 93 = true from lastIs_concat (91 :: mid) 93]
  unfold parseAny parseAnyF
  simp only [List.isEmpty_cons, e2, e3, hnum, hmap, hslice, hrt, if_false, if_true, Bool.false_eq_true]

theorem parseAny_enc_map (J : Json) (hJ : J.Lawful) (m : List (Bytes × Val)) (hs : jsonSafe (.map m) = true) :
    parseAny J (J.enc (.map m)) = .ok (toF64 (.map m)) := by
  obtain ⟨mid, hm⟩ := hJ.map_shape m hs
  have hrt := hJ.map_rt m hs
  rw [hm] at hrt ⊢
  obtain ⟨e2, e3, hnum⟩ := bracket_not_scalar 123 (mid ++ [125]) (Or.inr rfl)
  have hmap : isMap J (123 :: (mid ++ [125])) = true := by simp [isMap, show lastIs (123 :: (mid ++ [125])) 125 = true from lastIs_concat (123 :: mid) 125, hrt]
  unfold parseAny parseAnyF
  simp only [List.isEmpty_cons, e2, e3, hnum, hmap, hrt, if_false, if_true, Bool.false_eq_true]

end Ioc.Value
