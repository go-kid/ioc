/-
  Which key of a map a struct member is bound from (decodeStructFromMap's key search, `Ioc.Value.lookupField`: the key
  spelled exactly like the member's name, else the first key equal to it up to letter case), and two changes to the
  map that the search does not notice.
-/
import Ioc.Value
import IocProofs.Lemmas.TagConsume
namespace Ioc.Value

/-- no two keys of the map are equal up to (ASCII) letter case -/
def foldDistinct : List (Bytes × Val) → Bool
  | [] => true
  | kv :: r => r.all (fun x => !lowerEq x.1 kv.1) && foldDistinct r

theorem lowerEq_refl (a : Bytes) : lowerEq a a = true := by simp [lowerEq]

theorem lowerEq_symm (a b : Bytes) : lowerEq a b = lowerEq b a := by
  simp only [lowerEq, eq_comm]

theorem lowerEq_congr {a a' b b' : Bytes} (ha : lowerEq a a' = true) (hb : lowerEq b b' = true) :
    lowerEq a b = lowerEq a' b' := by
  simp only [lowerEq, decide_eq_true_eq] at ha hb ⊢
  rw [ha, hb]

/-- with keys that are pairwise different up to letter case, the member's key search is the case-insensitive search:
    exact-first and first-match play no part -/
theorem lookupField_eq_find (n : Bytes) (m : List (Bytes × Val)) (h : foldDistinct m = true) :
    lookupField n m = (m.find? (fun kv => lowerEq kv.1 n)).map (·.2) := by
  induction m with
  | nil => rfl
  | cons kw r ih =>
    obtain ⟨k, w⟩ := kw
    simp only [foldDistinct, Bool.and_eq_true, List.all_eq_true, Bool.not_eq_true'] at h
    have ih := ih h.2
    unfold lookupField at ih ⊢
    simp only [alookup, List.find?_cons]
    by_cases hk : k = n
    · subst hk
      simp [lowerEq_refl]
    · simp only [hk, if_false]
      cases hl : lowerEq k n with
      | true =>
        -- the head matches up to case: no later key is spelled exactly like the name
        cases ha : alookup n r with
        | none => rfl
        | some v => exact absurd (lowerEq_symm n k ▸ h.1 (n, v) (Tag.alookup_mem n r v ha)) (by simp [hl])
      | false => exact ih

/-- `m'` spells the keys of `m` in another letter case; order and values are the same -/
inductive Respelled : List (Bytes × Val) → List (Bytes × Val) → Prop
  | nil : Respelled [] []
  | cons {k k' : Bytes} {v : Val} {r r' : List (Bytes × Val)} :
      lowerEq k k' = true → Respelled r r' → Respelled ((k, v) :: r) ((k', v) :: r')

theorem Respelled.all_not (x : Bytes) {m m' : List (Bytes × Val)} (hr : Respelled m m')
    (h : m.all (fun y => !lowerEq y.1 x) = true) (x' : Bytes) (hx : lowerEq x x' = true) :
    m'.all (fun y => !lowerEq y.1 x') = true := by
  induction hr with
  | nil => rfl
  | cons hk _ ih =>
    simp only [List.all_cons, Bool.and_eq_true] at h ⊢
    exact ⟨lowerEq_congr hk hx ▸ h.1, ih h.2⟩

theorem Respelled.foldDistinct {m m' : List (Bytes × Val)} (hr : Respelled m m') (h : foldDistinct m = true) :
    foldDistinct m' = true := by
  induction hr with
  | nil => rfl
  | cons hk hr ih =>
    simp only [Ioc.Value.foldDistinct, Bool.and_eq_true] at h ⊢
    exact ⟨hr.all_not _ h.1 _ hk, ih h.2⟩

theorem Respelled.find (n : Bytes) {m m' : List (Bytes × Val)} (hr : Respelled m m') :
    (m.find? (fun kv => lowerEq kv.1 n)).map (·.2) = (m'.find? (fun kv => lowerEq kv.1 n)).map (·.2) := by
  induction hr with
  | nil => rfl
  | @cons _ k' _ _ _ hk _ ih =>
    simp only [List.find?_cons, lowerEq_congr hk (lowerEq_refl n)]
    cases lowerEq k' n with
    | true => rfl
    | false => exact ih

theorem lookupField_respelled (n : Bytes) {m m' : List (Bytes × Val)} (hr : Respelled m m') (hd : foldDistinct m = true) :
    lookupField n m = lookupField n m' := by
  rw [lookupField_eq_find n m hd, lookupField_eq_find n m' (hr.foldDistinct hd)]
  exact hr.find n

/-- respelling the keys of a map (letter case only, values untouched) does not change what a struct binds from it: a map
    literal `map[Host:a Port:1]` binds like the section the document gives (`host: a, port: 1` after viper lower-cased
    its keys) -/
theorem decodeFields_respelled (fs : List (Bytes × FieldTy)) {m m' : List (Bytes × Val)} (hr : Respelled m m')
    (hd : foldDistinct m = true) : decodeFields fs m = decodeFields fs m' := by
  induction fs with
  | nil => rfl
  | cons f rest ih => simp only [decodeFields, lookupField_respelled f.1 hr hd, ih]

theorem lookupField_decoy (n d : Bytes) (w : Val) (hd : lowerEq d n = false) (m1 m2 : List (Bytes × Val)) :
    lookupField n (m1 ++ (d, w) :: m2) = lookupField n (m1 ++ m2) := by
  have hne : ¬ d = n := fun e => by rw [e, lowerEq_refl] at hd; cases hd
  have ha : alookup n (m1 ++ (d, w) :: m2) = alookup n (m1 ++ m2) := by
    induction m1 with
    | nil => simp [alookup, hne]
    | cons kv r ih => simp only [List.cons_append, alookup, ih]
  unfold lookupField
  rw [ha, List.find?_append, List.find?_append, List.find?_cons_of_neg (by simp [hd])]

/-- a key that equals no member's name up to letter case (`_a`, `a-`, `max_conn` next to `maxconn`) can be added to the
    map anywhere: the struct binds the same -/
theorem decodeFields_decoy (d : Bytes) (w : Val) (m1 m2 : List (Bytes × Val)) (fs : List (Bytes × FieldTy))
    (h : ∀ f ∈ fs, lowerEq d f.1 = false) : decodeFields fs (m1 ++ (d, w) :: m2) = decodeFields fs (m1 ++ m2) := by
  induction fs with
  | nil => rfl
  | cons f rest ih =>
    simp only [decodeFields, lookupField_decoy f.1 d w (h f List.mem_cons_self) m1 m2,
      ih fun g hg => h g (List.mem_cons_of_mem _ hg)]

end Ioc.Value
