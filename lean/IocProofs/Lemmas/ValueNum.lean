/-
  The decimal text of integers (natToDec / intToDec) and what ParseAny makes of a number text (C17).
-/
import Ioc.Value
namespace Ioc.Value

theorem digitByte_toNat (d : Nat) (h : d < 10) : (digitByte d).toNat = 48 + d := by
  unfold digitByte
  rw [UInt8.toNat_ofNat']
  omega

theorem isDigit_iff (b : UInt8) : isDigit b = true ↔ 48 ≤ b.toNat ∧ b.toNat ≤ 57 := by
  unfold isDigit
  simp [UInt8.le_iff_toNat_le]

theorem isDigit_digitByte (d : Nat) (h : d < 10) : isDigit (digitByte d) = true := by
  rw [isDigit_iff, digitByte_toNat d h]; omega

theorem natDigits_acc (f n : Nat) (acc : Bytes) : natDigits f n acc = natDigits f n [] ++ acc := by
  induction f generalizing n acc with
  | zero => rfl
  | succ f ih =>
    unfold natDigits
    split
    · rfl
    · rw [ih _ (_ :: acc), ih _ [_], List.append_assoc]; rfl

theorem decToNat_concat (l : Bytes) (b : UInt8) : decToNat (l ++ [b]) = 10 * decToNat l + (b.toNat - 48) := by
  simp [decToNat]

theorem natDigits_succ (f n : Nat) : natDigits (f + 1) n [] =
    if n < 10 then [digitByte n] else natDigits f (n / 10) [] ++ [digitByte (n % 10)] := by
  rw [natDigits, natDigits_acc]

theorem natDigits_spec (f n : Nat) (h : n < 10 ^ (f + 1)) :
    natDigits (f + 1) n [] ≠ [] ∧ (∀ b ∈ natDigits (f + 1) n [], isDigit b = true) ∧
      decToNat (natDigits (f + 1) n []) = n := by
  have single : ∀ d, d < 10 →
      [digitByte d] ≠ [] ∧ (∀ b ∈ [digitByte d], isDigit b = true) ∧ decToNat [digitByte d] = d :=
    fun d hd => ⟨by simp, by simp [isDigit_digitByte d hd], by simp [decToNat, digitByte_toNat d hd]⟩
  induction f generalizing n with
  | zero => rw [natDigits_succ, if_pos h]; exact single n h
  | succ f ih =>
    rw [natDigits_succ]
    split
    · next hn => exact single n hn
    · have hm : n % 10 < 10 := Nat.mod_lt _ (by omega)
      obtain ⟨_, h2, h3⟩ := ih (n / 10) (Nat.div_lt_of_lt_mul (by rw [Nat.mul_comm, ← Nat.pow_succ]; exact h))
      refine ⟨by simp, ?_, ?_⟩
      · intro b hb
        rcases List.mem_append.mp hb with hb | hb
        · exact h2 b hb
        · cases List.mem_singleton.mp hb; exact isDigit_digitByte _ hm
      · rw [decToNat_concat, h3, digitByte_toNat _ hm, Nat.add_sub_cancel_left]; exact Nat.div_add_mod n 10

theorem natToDec_spec (n : Nat) (h : n < 10 ^ 40) :
    natToDec n ≠ [] ∧ (∀ b ∈ natToDec n, isDigit b = true) ∧ decToNat (natToDec n) = n :=
  natDigits_spec 39 n h

theorem decToNat_dropZeros (l : Bytes) : decToNat (dropZeros l) = decToNat l := by
  induction l with
  | nil => rfl
  | cons b r ih =>
    unfold dropZeros
    split
    · next hb => rw [ih, hb]; simp [decToNat]
    · rfl

theorem signed_natAbs (i : Int) : (if i < 0 then -(i.natAbs : Int) else i.natAbs) = i := by
  split
  · next hi => rw [Int.ofNat_natAbs_of_nonpos (Int.le_of_lt hi), Int.neg_neg]
  · next hi => exact Int.natAbs_of_nonneg (Int.not_lt.mp hi)

theorem roundF64_small (n : Nat) (h : n ≤ 2 ^ 53) : roundF64 n = n := by
  unfold roundF64; simp [h]

theorem splitNumber_none_of_head (c : UInt8) (r : Bytes) (h45 : c ≠ 45) (h43 : c ≠ 43) (hd : isDigit c = false) :
    splitNumber (c :: r) = none := by
  simp [splitNumber, h45, h43, hd]

/-- a text that `isNumber` accepts starts with a sign or a digit -/
theorem splitNumber_head (s : Bytes) (x : Bool × Bytes × Bytes) (h : splitNumber s = some x) :
    ∃ c r, s = c :: r ∧ c.toNat ≤ 57 := by
  cases s with
  | nil => simp [splitNumber] at h
  | cons c r =>
    refine ⟨c, r, rfl, ?_⟩
    by_cases h1 : c = 45
    · subst h1; decide
    by_cases h2 : c = 43
    · subst h2; decide
    cases hd : isDigit c with
    | true => exact ((isDigit_iff c).mp hd).2
    | false => rw [splitNumber_none_of_head c r h1 h2 hd] at h; cases h

theorem lowerAscii_ne_of_head (c : UInt8) (r t : Bytes) (h : t.head? ≠ some (lowerByte c)) : lowerAscii (c :: r) ≠ t :=
  fun e => h (e ▸ rfl)

theorem lowerByte_of_le (c : UInt8) (h : c.toNat ≤ 57) : lowerByte c = c := by
  have : ¬ (65 ≤ c ∧ c ≤ 90) := fun hc => by have := UInt8.le_iff_toNat_le.mp hc.1; simp at this; omega
  simp [lowerByte, this]

/-- a text that `isNumber` accepts is handed to ParseFloat -/
theorem parseAny_of_splitNumber (J : Json) (s : Bytes) (neg : Bool) (ip fr : Bytes)
    (h : splitNumber s = some (neg, ip, fr)) : parseAny J s = parseNumber neg ip fr := by
  obtain ⟨c, r, rfl, hc⟩ := splitNumber_head s _ h
  have hb : ∀ t : Bytes, t.head? = some 116 ∨ t.head? = some 102 → lowerAscii (c :: r) ≠ t := by
    intro t ht
    apply lowerAscii_ne_of_head
    rw [lowerByte_of_le c hc]
    rcases ht with ht | ht <;> (rw [ht]; intro e; cases e; simp at hc)
  unfold parseAny parseAnyF
  simp [hb sTrue (Or.inl rfl), hb sFalse (Or.inr rfl), h]

theorem splitNumber_digits (neg : Bool) (ds : Bytes) (hne : ds ≠ []) (hall : ∀ b ∈ ds, isDigit b = true) :
    splitNumber (if neg then 45 :: ds else ds) = some (neg, ds, []) := by
  have ht : ds.takeWhile isDigit = ds := by simpa using List.takeWhile_append_of_pos (l₂ := []) hall
  have hd : ds.dropWhile isDigit = [] := by simpa using List.dropWhile_append_of_pos (l₂ := []) hall
  cases ds with
  | nil => exact absurd rfl hne
  | cons d r =>
    have h45 : d ≠ 45 := fun e => absurd (hall d (by simp)) (by rw [e]; decide)
    have h43 : d ≠ 43 := fun e => absurd (hall d (by simp)) (by rw [e]; decide)
    cases neg <;> simp [splitNumber, ht, hd, h45, h43]

/-- ParseFloat on an integer text below 2^53 (`-0` is outside the modelled class) -/
theorem parseNumber_int (neg : Bool) (ds : Bytes) (h : decToNat ds ≤ 2 ^ 53) (hz : neg = true → decToNat ds ≠ 0) :
    parseNumber neg ds [] = .ok (.flt (if neg then -(decToNat ds : Int) else decToNat ds)) := by
  have h19 : ¬ decToNat ds ≥ 10 ^ 19 := Nat.not_le.mpr (Nat.lt_of_le_of_lt h (by decide))
  simp [parseNumber, dropTrailingZeros, dropZeros, decToNat_dropZeros, h19, roundF64_small _ h]
  intro h0
  cases neg
  · rfl
  · exact absurd h0 (hz rfl)

theorem parseAny_intToDec (J : Json) (i : Int) (h : i.natAbs ≤ 2 ^ 53) :
    parseAny J (intToDec i) = .ok (.flt i) := by
  obtain ⟨hne, hall, hval⟩ := natToDec_spec i.natAbs (Nat.lt_of_le_of_lt h (by decide))
  have hs := splitNumber_digits (decide (i < 0)) _ hne hall
  simp only [decide_eq_true_eq] at hs
  rw [intToDec, parseAny_of_splitNumber J _ _ _ _ hs,
    parseNumber_int _ _ (by rw [hval]; exact h) (by rw [hval, decide_eq_true_eq]; omega), hval]
  simp only [decide_eq_true_eq]
  rw [signed_natAbs]

end Ioc.Value
