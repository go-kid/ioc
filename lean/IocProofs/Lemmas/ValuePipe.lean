/-
  Evaluation of the value / prefix pipelines on a whole-tag placeholder `${k}` and on a plain key (C17, C18).
-/
import IocProofs.Lemmas.ValueConvert
namespace Ioc.Value
open Ioc.Tag

/-- characters of a configuration key as the theorems use them: letters, digits, `.`, `_`, `-` -/
def keyChar (b : UInt8) : Bool :=
  isDigit b || (97 ≤ b && b ≤ 122) || (65 ≤ b && b ≤ 90) || b == 46 || b == 95 || b == 45

def PlainKey (k : Bytes) : Bool := !k.isEmpty && k.all keyChar

/-- the tag text `${k}` -/
def placeholder (k : Bytes) : Bytes := cDollar :: 123 :: (k ++ [125])

theorem keyChar_ne (b c : UInt8) (h : keyChar b = true) (hc : keyChar c = false) : b ≠ c :=
  fun e => by rw [e, hc] at h; cases h

theorem plainKey_mem (k : Bytes) (hk : PlainKey k = true) : ∀ b ∈ k, keyChar b = true := by
  simp only [PlainKey, Bool.and_eq_true, List.all_eq_true] at hk
  exact hk.2

theorem keyChar_brackets (b : UInt8) (h : keyChar b = true) : b ≠ cComma ∧ isLB b = false ∧ isRB b = false := by
  have ne := fun c hc => keyChar_ne b c h hc
  exact ⟨ne _ (by decide), by simp [isLB, ne 123 (by decide), ne 91 (by decide), ne 40 (by decide)],
    by simp [isRB, ne 125 (by decide), ne 93 (by decide), ne 41 (by decide)]⟩

theorem keyChar_notBrace (b : UInt8) (h : keyChar b = true) : notBrace b = true := by
  simp [notBrace, keyChar_ne b 123 h (by decide), keyChar_ne b 125 h (by decide)]

theorem WFpre_braced (c : Bytes) (h : ∀ b ∈ c, b ≠ cComma ∧ isLB b = false ∧ isRB b = false) :
    WFpre cComma isLB isRB (placeholder c) 0 = true := by
  show WFpre cComma isLB isRB (c ++ [125]) 1 = true
  rw [WFpre_plain_append cComma isLB isRB c [125] 1 h]
  rfl

theorem WFpre_placeholder (k : Bytes) (hk : PlainKey k = true) : WFpre cComma isLB isRB (placeholder k) 0 = true :=
  WFpre_braced k fun b hb => keyChar_brackets b (plainKey_mem k hk b hb)

theorem WFpre_key (k : Bytes) (hk : PlainKey k = true) : WFpre cComma isLB isRB k 0 = true :=
  WFpre_plain _ _ _ _ (fun b hb => keyChar_brackets b (plainKey_mem k hk b hb))

theorem splitColon_key (k : Bytes) (hk : PlainKey k = true) : splitColon k = none := by
  unfold splitColon
  rw [idxFrom_eq_none.mpr fun hm => keyChar_ne 58 58 (plainKey_mem k hk 58 hm) rfl rfl]

theorem findEl_key (x : UInt8) (hx : keyChar x = false) (k : Bytes) (hk : PlainKey k = true) : findEl x k = none :=
  findEl_none_of_no_x x k fun b hb => keyChar_ne b x (plainKey_mem k hk b hb) hx

/-- the value is really there: not null, not an empty map or list (those count as absent) -/
def present (v : Val) : Bool := v != .null && v != .map [] && v != .list []

theorem resolveQuote_key (J : Json) (cfg : Cfg) (k : Bytes) (hk : PlainKey k = true) (hp : present (cfg k) = true) :
    resolveQuote J cfg k = .ok (formatAny J (cfg k)) := by
  simp only [present, Bool.and_eq_true, bne_iff_ne, ne_eq] at hp
  unfold resolveQuote
  simp [splitColon_key k hk, hp.1.1, hp.1.2, hp.2]

theorem quoteStage_placeholder (J : Json) (cfg : Cfg) (k : Bytes) (hk : PlainKey k = true) (hp : present (cfg k) = true)
    (hn : findEl cDollar (formatAny J (cfg k)) = none) :
    quoteStage J cfg (placeholder k) = .ok (formatAny J (cfg k)) :=
  replaceAllF_whole cDollar (resolveQuote J cfg) .quote k _ (fun b hb => keyChar_notBrace b (plainKey_mem k hk b hb))
    (resolveQuote_key J cfg k hk hp) hn

theorem quoteStage_plain (J : Json) (cfg : Cfg) (s : Bytes) (h : findEl cDollar s = none) : quoteStage J cfg s = .ok s :=
  replaceAllF_none _ _ _ _ _ h

theorem exprStage_plain (J : Json) (evalE : Bytes → Except Err Val) (s : Bytes) (h : findEl cHash s = none) :
    exprStage J evalE s = .ok s :=
  replaceAllF_none _ _ _ _ _ h

theorem validateStage_noValidate (args : Args) (ty : FieldTy) (b : Option FVal) :
    validateStage noValidate args ty b = .ok b := by
  unfold validateStage noValidate
  cases Tag.find args kValidate <;> simp

end Ioc.Value
