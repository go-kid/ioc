/-
  Lemmas about the two regular expressions, ReplaceAllContent and the stages (C17, C18).
-/
import IocProofs.Lemmas.ValueNum
import IocProofs.Lemmas.TagRound
namespace Ioc.Value
open Ioc.Tag

theorem ok_bind {ε α β : Type} (a : α) (f : α → Except ε β) : Except.ok a >>= f = f a := rfl

theorem map_bind {ε α β γ : Type} (f : α → β) (x : Except ε α) (g : β → Except ε γ) :
    x.map f >>= g = x >>= fun a => g (f a) := by
  cases x <;> rfl

theorem bind_eq_ok {ε α β : Type} {x : Except ε α} {f : α → Except ε β} {b : β} (h : x >>= f = .ok b) :
    ∃ a, x = .ok a ∧ f a = .ok b := by
  cases x with
  | error e => cases h
  | ok a => exact ⟨a, rfl, h⟩

/-- a successful search splits the text around `x{content}` with a brace-free content -/
theorem findEl_some (x : UInt8) {s pre c post : Bytes} (h : findEl x s = some (pre, c, post)) :
    s = pre ++ x :: 123 :: c ++ 125 :: post ∧ (∀ b ∈ c, notBrace b = true) := by
  induction s generalizing pre with
  | nil => cases h
  | cons b rest ih =>
    have later : (findEl x rest).map (fun r => (b :: r.1, r.2.1, r.2.2)) = some (pre, c, post) →
        b :: rest = pre ++ x :: 123 :: c ++ 125 :: post ∧ (∀ b ∈ c, notBrace b = true) := by
      intro hl
      obtain ⟨⟨p', c', q'⟩, hr, he⟩ := Option.map_eq_some_iff.mp hl
      cases he
      exact ⟨by rw [(ih hr).1]; rfl, (ih hr).2⟩
    unfold findEl at h
    split at h
    · next hb =>
      split at h
      · next r2 =>
        split at h
        · next post' hd =>
          cases h
          refine ⟨?_, fun b hb => List.all_eq_true.mp List.all_takeWhile b hb⟩
          have := List.takeWhile_append_dropWhile (p := notBrace) (l := r2)
          rw [hd] at this
          simp [hb, this]
        · exact later h
      · exact later h
    · exact later h

theorem findEl_none_of_no_x (x : UInt8) (s : Bytes) (h : ∀ b ∈ s, b ≠ x) : findEl x s = none := by
  cases hf : findEl x s with
  | none => rfl
  | some r => exact absurd rfl (h x (by rw [(findEl_some x hf).1]; simp))

theorem findEl_none_of_notBrace (x : UInt8) (c : Bytes) (h : ∀ b ∈ c, notBrace b = true) : findEl x c = none := by
  cases hf : findEl x c with
  | none => rfl
  | some r => exact absurd (h 123 (by rw [(findEl_some x hf).1]; simp)) (by decide)

theorem findEl_whole (x : UInt8) (k : Bytes) (hk : ∀ b ∈ k, notBrace b = true) :
    findEl x (x :: 123 :: (k ++ [125])) = some ([], k, []) := by
  have h125 : ¬ notBrace 125 = true := by decide
  simp [findEl, List.takeWhile_append_of_pos hk, List.dropWhile_append_of_pos hk, h125]

theorem replaceAllF_none (x : UInt8) (f : Bytes → Except Err Bytes) (e : Err) (n : Nat) (s : Bytes)
    (h : findEl x s = none) : replaceAllF x f e n s = .ok s := by
  cases n <;> simp [replaceAllF, h]

/-- whatever the stage returns contains no further match (C18_expr_sees_no_placeholder) -/
theorem replaceAllF_ok_no_match (x : UInt8) (f : Bytes → Except Err Bytes) (e : Err) (n : Nat) (s out : Bytes)
    (h : replaceAllF x f e n s = .ok out) : findEl x out = none := by
  induction n generalizing s with
  | zero =>
    unfold replaceAllF at h
    split at h
    · next hf => cases h; exact hf
    · cases h
  | succ n ih =>
    unfold replaceAllF at h
    split at h
    · next hf => cases h; exact hf
    · split at h
      · cases h
      · exact ih _ h

theorem maxRounds_succ : maxRounds = 999 + 1 := by decide

theorem replaceAllF_whole_succ (x : UInt8) (f : Bytes → Except Err Bytes) (e : Err) (n : Nat) (c r : Bytes)
    (hc : ∀ b ∈ c, notBrace b = true) (hf : f c = .ok r) :
    replaceAllF x f e (n + 1) (x :: 123 :: (c ++ [125])) = replaceAllF x f e n r := by
  rw [replaceAllF, findEl_whole x c hc]
  simp [hf]

theorem replaceAllF_whole (x : UInt8) (f : Bytes → Except Err Bytes) (e : Err) (c r : Bytes)
    (hc : ∀ b ∈ c, notBrace b = true) (hf : f c = .ok r) (hn : findEl x r = none) :
    replaceAllF x f e maxRounds (x :: 123 :: (c ++ [125])) = .ok r := by
  rw [maxRounds_succ, replaceAllF_whole_succ x f e _ c r hc hf, replaceAllF_none x f e _ r hn]

end Ioc.Value
