/-
  Proofs of the C17 statements (the statement file IocProofs/C17.lean only restates them).
-/
import IocProofs.Lemmas.ValuePipe
namespace Ioc.Value
open Ioc Ioc.Tag

/-- `Faithful J ty v`: the value path is expected to deliver `v` unchanged into a field of type `ty`.
    strings: not empty / bool-like / number-like / bracketed / quoted;  integers: |i| ≤ 2^53 (non-negative where
    an unsigned field is involved);  booleans;  decimals that read back as themselves;  non-empty lists and
    maps of such integers with JSON-safe strings (inside a list or map strings are never re-interpreted);
    and in every case the formatted text contains no `${…}` / `#{…}` pattern. -/
def Faithful (J : Json) (ty : FieldTy) (v : Val) : Bool :=
  noEl (formatAny J v) && faithfulV v && (!usesUint ty || nonNegV v) &&
  (match v with
   | .str s => plainString s
   | .int _ => true
   | .bool _ => true
   | .dec t => decide (parseAny J (formatAny J (.dec t)) = .ok (.dec t))
   | .list l => !l.isEmpty && jsonSafeL l
   | .map m => !m.isEmpty && jsonSafe (.map m)
   | .null => false
   | .flt _ => false)

/-- a value tag whose quote stage ends in a text `s1` without `#{…}` that ParseAny reads as `w`: the field receives
    `w` decoded to its type (no expression engine, no validator) -/
theorem bindValue_render (J : Json) (cfg : Cfg) (ty : FieldTy) (tv s1 : Bytes) (as : List (Bytes × List Bytes)) (w : Val)
    (htv : WFpre cComma isLB isRB tv 0 = true) (has : ∀ a ∈ as, WFArg a)
    (hq : quoteStage J cfg tv = .ok s1) (hh : findEl cHash s1 = none) (hne : s1 ≠ [])
    (hp : parseAny J s1 = .ok w) (hw : w ≠ .null) :
    bindValue J cfg ty (render tv as) = decode ty w := by
  have hempty : s1.isEmpty = false := by cases s1 <;> simp_all
  unfold bindValue valuePipeline
  rw [parse?_render tv as htv has]
  simp only [hq, exprStage_plain J noExpr s1 hh, ok_bind, valueStage, hempty, hp, unmarshall, hw, if_false,
    Bool.false_eq_true, validateStage_noValidate]
  cases decode ty w <;> rfl

/-- a prefix tag that is a plain key with a configured value: the field receives that value decoded to its type -/
theorem bindPrefix_key (J : Json) (cfg : Cfg) (ty : FieldTy) (k : Bytes) (as : List (Bytes × List Bytes))
    (hk : PlainKey k = true) (has : ∀ a ∈ as, WFArg a) (hn : cfg k ≠ .null) :
    bindPrefix J cfg ty (render k as) = decode ty (cfg k) := by
  unfold bindPrefix prefixPipeline
  rw [parse?_render k as (WFpre_key k hk) has]
  simp only [quoteStage_plain J cfg k (findEl_key _ rfl k hk), exprStage_plain J noExpr k (findEl_key _ rfl k hk),
    ok_bind, prefixStage, unmarshall, hn, if_false, validateStage_noValidate]
  cases decode ty (cfg k) <;> rfl

/-- Binding by prefix gives exactly the configured value converted to the field's type
    (scalars, pointers, slices, maps, nested structs; `convert` is the specification, see Lemmas/ValueConvert). -/
theorem prefix_exact (J : Json) (cfg : Cfg) (k : Bytes) (as : List (Bytes × List Bytes)) (ty : FieldTy)
    (hk : PlainKey k = true) (has : ∀ a ∈ as, WFArg a)
    (hn : cfg k ≠ .null) (hc : convertible ty (cfg k) = true) :
    bindPrefix J cfg ty (render k as) = .ok (convert ty (cfg k)) := by
  rw [bindPrefix_key J cfg ty k as hk has hn, decode_convert ty (cfg k) hc]

theorem parse_format_faithful (J : Json) (hJ : J.Lawful) (ty : FieldTy) (v : Val) (hf : Faithful J ty v = true) :
    parseAny J (formatAny J v) = .ok (toF64 v) ∧ formatAny J v ≠ [] ∧ present v = true := by
  simp only [Faithful, Bool.and_eq_true] at hf
  obtain ⟨⟨⟨_, hfv⟩, _⟩, hm⟩ := hf
  have key : parseAny J (formatAny J v) = .ok (toF64 v) ∧ present v = true ∧ v ≠ .str [] := by
    cases v with
    | null => cases hm
    | flt i => cases hm
    | str s => exact ⟨parseAny_plain J s hm, rfl, fun e => by cases e; cases hm⟩
    | int i => exact ⟨by rw [toF64_int i hfv]; exact parseAny_intToDec J i (of_decide_eq_true hfv), rfl, nofun⟩
    | bool b => exact ⟨parseAny_bool J b, rfl, nofun⟩
    | dec t => exact ⟨of_decide_eq_true hm, rfl, nofun⟩
    | list l =>
      simp only [Bool.and_eq_true, Bool.not_eq_true'] at hm
      exact ⟨parseAny_enc_list J hJ l hm.2, (by cases l <;> first | rfl | cases hm.1), nofun⟩
    | map m =>
      simp only [Bool.and_eq_true, Bool.not_eq_true'] at hm
      exact ⟨parseAny_enc_map J hJ m hm.2, (by cases m <;> first | rfl | cases hm.1), nofun⟩
  refine ⟨key.1, fun e => key.2.2 ?_, key.2.1⟩
  -- the empty text is read as the empty string, and only the empty string comes back from the round trip as that
  have h : Except.ok (.str []) = Except.ok (toF64 v) := e ▸ key.1
  cases v <;> first | exact (Except.ok.inj h).symm | cases h

/- FULL STATEMENT (false of the code, see C17_counterexamples):
     ∀ J cfg k as ty, bindValue J cfg ty (render (placeholder k) as) = bindPrefix J cfg ty (render k as) -/
/-- Binding a key through the value placeholder `${k}` (with any arguments) gives the same result as binding
    it by prefix — for `Faithful` values, for every field type, including the error cases of the decoder. -/
theorem value_eq_prefix_faithful (J : Json) (hJ : J.Lawful) (cfg : Cfg) (k : Bytes)
    (as : List (Bytes × List Bytes)) (ty : FieldTy)
    (hk : PlainKey k = true) (has : ∀ a ∈ as, WFArg a) (hf : Faithful J ty (cfg k) = true) :
    bindValue J cfg ty (render (placeholder k) as) = bindPrefix J cfg ty (render k as) := by
  obtain ⟨hparse, hne, hpres⟩ := parse_format_faithful J hJ ty (cfg k) hf
  simp only [Faithful, Bool.and_eq_true, noEl, Option.isNone_iff_eq_none, Bool.or_eq_true, Bool.not_eq_true'] at hf
  obtain ⟨⟨⟨⟨hd, hh⟩, hfv⟩, hu⟩, _⟩ := hf
  have hnn : cfg k ≠ .null := by
    simp only [present, Bool.and_eq_true, bne_iff_ne, ne_eq] at hpres
    exact hpres.1.1
  rw [bindValue_render J cfg ty (placeholder k) _ as _ (WFpre_placeholder k hk) has
      (quoteStage_placeholder J cfg k hk hpres hd) hh hne hparse (mt (toF64_eq_null _).mp hnn),
    bindPrefix_key J cfg ty k as hk has hnn]
  exact decode_toF64 ty (cfg k) hfv fun huu => hu.resolve_left (by simp [huu])

/-- The prop shorthand IS the value tag `${key}` with the same arguments (definitional + the C19 index lemma):
    `prop:"k,args"` binds exactly like `value:"${k},args"`, and `prop:"k"` like `value:"${k}"`. -/
theorem prop_is_value (J : Json) (cfg : Cfg) (ty : FieldTy) (k rest : Bytes)
    (hk : WFpre cComma isLB isRB k 0 = true) :
    bindProp J cfg ty (k ++ cComma :: rest) = bindValue J cfg ty (placeholder k ++ cComma :: rest) ∧
    ((∀ b ∈ k, b ≠ cComma) → bindProp J cfg ty k = bindValue J cfg ty (placeholder k)) := by
  constructor
  · unfold bindProp propShorthand?
    rw [index_toplevel cComma isLB isRB (by decide) (by decide) k rest hk]
    have hne : ¬ ((k.length : Int) = -1) := by omega
    simp only [hne, if_false]
    rw [slice?_some _ 0 _ (by simp; omega), slice?_some _ _ _ (by simp; omega)]
    have e0 : (0 : Int).toNat = 0 := rfl
    simp only [Int.toNat_natCast, List.length_append, List.length_cons, e0, Nat.sub_zero, List.drop_zero]
    have e1 : List.take k.length (k ++ cComma :: rest) = k := by simp
    have e2 : List.take (k.length + (rest.length + 1) - k.length) (List.drop k.length (k ++ cComma :: rest)) = cComma :: rest := by
      simp
    rw [e1, e2]
    simp [placeholder, ofString, cDollar]
  · intro hno
    unfold bindProp propShorthand? index
    rw [idxFrom_eq_none.mpr fun hm => hno _ hm rfl]
    simp [placeholder, ofString, cDollar]

/-- a literal that ParseAny leaves alone and that contains no pattern and no top-level separator -/
def PlainLiteral (s : Bytes) : Bool :=
  plainString s && noEl s && WFpre cComma isLB isRB s 0

/- FULL STATEMENT (false of the code: `value:"007"` binds "7"):  ∀ s, bindValue J cfg .string s = ok (str s) -/
/-- A literal written in a value tag is bound as written: the field receives the literal converted to its type;
    in particular a string field receives exactly the literal. -/
theorem literal_plain (J : Json) (cfg : Cfg) (ty : FieldTy) (s : Bytes) (as : List (Bytes × List Bytes))
    (hl : PlainLiteral s = true) (has : ∀ a ∈ as, WFArg a) :
    bindValue J cfg ty (render s as) = decode ty (.str s) ∧
    bindValue J cfg .string (render s as) = .ok (.str s) := by
  simp only [PlainLiteral, Bool.and_eq_true, noEl, Option.isNone_iff_eq_none] at hl
  obtain ⟨⟨hp, hd, hh⟩, hw⟩ := hl
  have main : ∀ ty, bindValue J cfg ty (render s as) = decode ty (.str s) := fun ty =>
    bindValue_render J cfg ty s s as _ hw has (quoteStage_plain J cfg s hd) hh (fun e => by cases e; cases hp)
      (parseAny_plain J s hp) nofun
  exact ⟨main ty, main .string⟩

/-- configuration with the key `k` (and a second key `kz: "zz"`) -/
def cfgK (v : Val) : Cfg := fun key => if key = ofString "k" then v else if key = ofString "kz" then .str (ofString "zz") else .null

def tagV : Bytes := ofString "${k}"
def tagX : Bytes := ofString "k"

end Ioc.Value
