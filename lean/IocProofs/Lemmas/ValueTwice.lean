/-
  A property that is populated more than once (C17, C18): the Property object keeps TagStr, TagVal, its arguments
  and the field between two creations of its component.  Whatever an earlier population left in TagVal plays no
  part when TagStr contains a placeholder: the stages compose on TagStr and the CURRENT configuration.
-/
import IocProofs.Lemmas.ValueC18
namespace Ioc.Value
open Ioc Ioc.Tag

/-- the stages after the quote stage, on a value property whose TagVal is `s1` and whose field holds `old` -/
def afterQuoteValue (J : Json) (evalE : Bytes → Except Err Val) (validate : FVal → List Bytes → Bool)
    (ty : FieldTy) (tagStr s1 : Bytes) (args : Args) (old : Option FVal) : Except Err PState :=
  exprStage J evalE s1 >>= fun s2 =>
  valueStage J args ty s2 >>= fun b =>
  validateStage validate args ty (b.orElse fun _ => old) >>= fun b' =>
  pure ⟨true, tagStr, s2, args, b'⟩

/-- … and on a prefix property -/
def afterQuotePrefix (J : Json) (evalE : Bytes → Except Err Val) (validate : FVal → List Bytes → Bool) (cfg : Cfg)
    (ty : FieldTy) (tagStr s1 : Bytes) (args : Args) (old : Option FVal) : Except Err PState :=
  exprStage J evalE s1 >>= fun s2 =>
  prefixStage cfg args ty s2 >>= fun b =>
  validateStage validate args ty (b.orElse fun _ => old) >>= fun b' =>
  pure ⟨false, tagStr, s2, args, b'⟩

theorem runStages_value_some (J : Json) (evalE : Bytes → Except Err Val) (validate : FVal → List Bytes → Bool)
    (cfg : Cfg) (ty : FieldTy) (tagStr tagVal : Bytes) (args : Args) (old : Option FVal)
    (r : Bytes × Bytes × Bytes) (hf : findEl cDollar tagStr = some r) :
    runStagesOn J evalE validate cfg ty stageOrder ⟨true, tagStr, tagVal, args, old⟩ =
      (quoteStage J cfg tagStr >>= fun s1 => afterQuoteValue J evalE validate ty tagStr s1 args old) := by
  rw [runStagesOn_stageOrder, hf]; rfl

theorem runStages_value_none (J : Json) (evalE : Bytes → Except Err Val) (validate : FVal → List Bytes → Bool)
    (cfg : Cfg) (ty : FieldTy) (tagStr tagVal : Bytes) (args : Args) (old : Option FVal)
    (hf : findEl cDollar tagStr = none) :
    runStagesOn J evalE validate cfg ty stageOrder ⟨true, tagStr, tagVal, args, old⟩ =
      afterQuoteValue J evalE validate ty tagStr tagVal args old := by
  rw [runStagesOn_stageOrder, hf]; rfl

theorem runStages_prefix_some (J : Json) (evalE : Bytes → Except Err Val) (validate : FVal → List Bytes → Bool)
    (cfg : Cfg) (ty : FieldTy) (tagStr tagVal : Bytes) (args : Args) (old : Option FVal)
    (r : Bytes × Bytes × Bytes) (hf : findEl cDollar tagStr = some r) :
    runStagesOn J evalE validate cfg ty stageOrder ⟨false, tagStr, tagVal, args, old⟩ =
      (quoteStage J cfg tagStr >>= fun s1 => afterQuotePrefix J evalE validate cfg ty tagStr s1 args old) := by
  rw [runStagesOn_stageOrder, hf]; rfl

theorem runStages_prefix_none (J : Json) (evalE : Bytes → Except Err Val) (validate : FVal → List Bytes → Bool)
    (cfg : Cfg) (ty : FieldTy) (tagStr tagVal : Bytes) (args : Args) (old : Option FVal)
    (hf : findEl cDollar tagStr = none) :
    runStagesOn J evalE validate cfg ty stageOrder ⟨false, tagStr, tagVal, args, old⟩ =
      afterQuotePrefix J evalE validate cfg ty tagStr tagVal args old := by
  rw [runStagesOn_stageOrder, hf]; rfl

theorem validateStage_ok (validate : FVal → List Bytes → Bool) (args : Args) (ty : FieldTy) (b b' : Option FVal)
    (h : validateStage validate args ty b = .ok b') : b' = b := by
  rw [validateStage_spec] at h
  split at h
  · exact (Except.ok.inj h).symm
  · split at h
    · exact (Except.ok.inj h).symm
    · split at h
      · exact (Except.ok.inj h).symm
      · cases h

/-- Whenever a first-time population under the current configuration binds a value, a later population of the same
    property — whatever TagVal and field contents the earlier one left — binds exactly that value and ends in exactly
    the same state. -/
theorem repopulate_current (J : Json) (evalE : Bytes → Except Err Val) (validate : FVal → List Bytes → Bool)
    (cfg : Cfg) (ty : FieldTy) (isValue : Bool) (tagStr leftVal : Bytes) (args : Args) (leftBound : Option FVal)
    (r : Bytes × Bytes × Bytes) (hf : findEl cDollar tagStr = some r) (fresh : PState) (v : FVal)
    (h0 : runStagesOn J evalE validate cfg ty stageOrder ⟨isValue, tagStr, tagStr, args, none⟩ = .ok fresh)
    (hb : fresh.bound = some v) :
    runStagesOn J evalE validate cfg ty stageOrder ⟨isValue, tagStr, leftVal, args, leftBound⟩ = .ok fresh := by
  rw [runStagesOn_stageOrder, hf] at h0 ⊢
  obtain ⟨s1, hq, h0⟩ := bind_eq_ok h0
  obtain ⟨s2, he, h0⟩ := bind_eq_ok h0
  obtain ⟨b, hv, h0⟩ := bind_eq_ok h0
  obtain ⟨b', hvd, h0⟩ := bind_eq_ok h0
  -- the first population bound `v`: that is what the binding stage gives now, the left-over field plays no part
  cases validateStage_ok validate args ty _ b' hvd
  cases h0
  simp only [orElse_none] at hb hvd
  subst hb
  simp only [hq, he, hv, ok_bind]
  exact hvd ▸ rfl

end Ioc.Value
